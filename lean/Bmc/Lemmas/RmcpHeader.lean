import Bmc.Lemmas.SessionSpec
/-! The four RMCP header bytes of a reply (version, reserved, sequence, class) lie OUTSIDE what the AuthCode covers. What the
    receive path makes of them: only the low four bits of the class byte are looked at (must be 7, IPMI); everything else is
    ignored. -/
namespace Bmc.Proto
open Bmc Bmc.Wire Bmc.Crypto

theorem onReply_header (C : Ops) (s : Sess) (b0 b1 b2 b3 : UInt8) (rest : Bytes) :
    view (onReply C s (GoSlice.ofBytes (b0 :: b1 :: b2 :: b3 :: rest))) =
      if b3 &&& 0xF = 7 then view (onReply C s (GoSlice.ofBytes (6 :: 0 :: 0xFF :: 7 :: rest)))
      else (.notMessage, none) := by
  rw [onReply_view_eq, onReply_view_eq, rmcp_decode_any, rmcp_decode_any]
  dsimp only
  by_cases hc : b3 &&& 0xF = 7
  · rw [if_pos hc, hc]; rfl
  · rw [if_neg hc, bne_iff_ne.mpr hc, Bool.or_true, Bool.true_or, if_pos rfl]

end Bmc.Proto
