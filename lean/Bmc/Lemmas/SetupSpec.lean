import Bmc.Spec.Setup
import Bmc.Lemmas.LittleEndian
import Bmc.Wire.OpenSessionRsp
import Bmc.Wire.Rakp2
import Bmc.Wire.Rakp4
/-! The pure session-setup decoders on the specification's status-OK forms (the forms a handshake that succeeds receives),
    and what makes the Open Session Response decoder refuse an algorithm payload. -/
namespace Bmc.Lemmas.Setup
open Bmc Bmc.Wire

theorem algPayload_length (typ : UInt8) (x : Option UInt8) : (Spec.algPayload typ x).length = 8 := by cases x <;> rfl

theorem algOf_some (typ a : UInt8) (h : a &&& 0x3f = a) (r : Bytes) :
    Setup.algOf typ (Spec.algPayload typ (some a) ++ r) = .ok { wildcard := false, algorithm := a } := by
  simp [Setup.algOf, Spec.algPayload, h]

/-- the success form: twelve header bytes, then three algorithm payloads of eight bytes, each read by `algOf` alone -/
theorem openSessionRsp_decode_ok (tag mp : UInt8) (csid bsid : Nat) (a i c : Option UInt8) (va vi vc : Setup.AlgPayload)
    (h2 : csid < 4294967296) (h3 : bsid < 4294967296) (ea : ∀ r, Setup.algOf 0 (Spec.algPayload 0 a ++ r) = .ok va)
    (ei : ∀ r, Setup.algOf 1 (Spec.algPayload 1 i ++ r) = .ok vi) (ec : ∀ r, Setup.algOf 2 (Spec.algPayload 2 c ++ r) = .ok vc) :
    Setup.OpenSessionRsp.decode (Spec.OpenSessionRsp.ok tag mp csid bsid a i c).encode =
      .ok { tag := tag, status := 0, maxPriv := mp, consoleSID := csid, bmcSID := bsid, auth := va, integ := vi, conf := vc
            contents := (Spec.OpenSessionRsp.ok tag mp csid bsid a i c).encode } := by
  have la := algPayload_length 0 a
  have li := algPayload_length 1 i
  have lc := algPayload_length 2 c
  have ec := ec []
  rw [List.append_nil] at ec
  have len : (Spec.OpenSessionRsp.ok tag mp csid bsid a i c).encode.length = 36 := by
    simp only [Spec.OpenSessionRsp.encode, Spec.le32, List.length_append, List.length_cons, List.length_nil, la, li, lc]
  unfold Setup.OpenSessionRsp.decode
  rw [List.take_of_length_le (Nat.le_of_eq len), len]
  simp only [Spec.OpenSessionRsp.encode, List.append_assoc, List.cons_append, List.nil_append, List.getD_cons_succ,
    List.getD_cons_zero, List.drop_succ_cons, List.drop_zero, drop_le32, drop_block la, drop_block li, ea, ei, ec,
    le32_spec _ h2, le32_spec _ h3]
  rfl

theorem openSessionRsp_alg_error (b : Bytes) (hs : b.getD 1 0 = 0) (hl : b.length = 36)
    (h : Setup.algOf 0 (b.drop 12) = .error () ∨ Setup.algOf 1 (b.drop 20) = .error () ∨ Setup.algOf 2 (b.drop 28) = .error ()) :
    Setup.OpenSessionRsp.decode b = .error () := by
  unfold Setup.OpenSessionRsp.decode
  simp only [hl, hs]
  rcases h with h | h | h <;> rw [h]
  · rfl
  · cases Setup.algOf 0 (List.drop 12 b) <;> rfl
  · cases Setup.algOf 0 (List.drop 12 b) <;> cases Setup.algOf 1 (List.drop 20 b) <;> rfl

theorem algOf_type (typ : UInt8) (b : Bytes) (k : Nat) (h : b.getD k 0 ≠ typ) : Setup.algOf typ (b.drop k) = .error () := by
  rw [Setup.algOf, getD_drop, Nat.add_zero, if_pos (bne_iff_ne.2 h)]
theorem algOf_wildcard (typ : UInt8) (b : Bytes) (k : Nat) (hw : b.getD (k + 3) 0 = 0) (ha : b.getD (k + 4) 0 &&& 0x3f ≠ 0) :
    Setup.algOf typ (b.drop k) = .error () := by
  unfold Setup.algOf
  split
  · rfl
  · rw [getD_drop, getD_drop, hw, if_pos (by simpa using ha)]

theorem rakp2_decode_ok (tag : UInt8) (sid : Nat) (rc guid ac : Bytes) (h1 : sid < 4294967296) (h2 : rc.length = 16)
    (h3 : guid.length = 16) :
    RAKP2.decode (Spec.RAKP2.ok tag sid rc guid ac).encode =
      .ok { tag := tag, status := 0, consoleSessionID := sid, bmcRandom := rc, bmcGUID := guid, authCode := ac
            contents := (Spec.RAKP2.ok tag sid rc guid ac).encode } := by
  have len : 40 ≤ (Spec.RAKP2.ok tag sid rc guid ac).encode.length := by
    simp only [Spec.RAKP2.encode, Spec.le32, List.length_append, List.length_cons, List.length_nil, h2, h3]; omega
  simp only [RAKP2.decode, if_neg (Nat.not_lt.2 len), if_neg (Nat.not_lt.2 (Nat.le_trans (by decide : 8 ≤ 40) len))]
  simp only [Spec.RAKP2.encode, List.append_assoc, List.cons_append, List.nil_append, List.getD_cons_succ,
    List.getD_cons_zero, List.drop_succ_cons, List.drop_zero, drop_le32, drop_block h2, drop_block h3, List.take_left' h2,
    List.take_left' h3, le32_spec _ h1]
  rfl

theorem rakp4_decode_ok (tag : UInt8) (sid : Nat) (icv : Bytes) (h : sid < 4294967296) :
    Setup.RAKP4.decode (Spec.RAKP4.ok tag sid icv).encode =
      .ok { tag := tag, status := 0, consoleSID := sid, icv := icv, contents := (Spec.RAKP4.ok tag sid icv).encode } := by
  unfold Setup.RAKP4.decode
  rw [if_neg (show ¬ (Spec.RAKP4.ok tag sid icv).encode.length < 8 from Nat.not_lt.2 (Nat.le_add_left 8 icv.length))]
  simp only [Spec.RAKP4.encode, List.cons_append, List.nil_append, List.getD_cons_succ,
    List.getD_cons_zero, List.drop_succ_cons, List.drop_zero, drop_le32, le32_spec _ h]
  rfl
end Bmc.Lemmas.Setup
