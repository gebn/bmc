import Bmc.Proto.Enum
import Bmc.Spec.Enum
/-! Helper lemmas for C16, the paging loops: fuel (for EVERY BMC), the chunk loop against the paging BMC, the
    instance-start loop against the specification's DCMI BMC, request logs of the sensor-map loop. -/
namespace Bmc.Lemmas.Enum
open Bmc Bmc.Proto.Enum Bmc.Spec.Enum

theorem retrieveLoop_fuel (limit : Nat) (hl : limit < 256) (page : Nat → Option Bytes) (f1 f2 i : Nat) (buf : Bytes)
    (hi : i ≤ limit) (h1 : limit - i < f1) (h2 : limit - i < f2) :
    retrieveLoop limit page f1 i buf = retrieveLoop limit page f2 i buf := by
  fun_induction retrieveLoop limit page f1 i buf generalizing f2 <;> cases f2 <;> try omega
  case case2.succ hp _ => simp only [retrieveLoop, hp]
  case case3.succ hp hb _ => simp only [retrieveLoop, hp, hb, if_true]
  case case4.succ i _ _ hp hb _ _ h ih m =>
    -- the round that goes on: the next list index is below the limit still
    have hne : i ≠ limit := by intro e; simp [e] at hb
    simp only [retrieveLoop, hp, hb, if_false, Bool.false_eq_true]
    rw [← ih m (by omega) (by omega) (by omega), h]

theorem retrieveLoop_safe (limit : Nat) (page : Nat → Option Bytes) (f i : Nat) (buf : Bytes) :
    (retrieveLoop limit page f i buf).2.bad = false := by
  fun_induction retrieveLoop limit page f i buf with
  | case1 | case2 | case3 => rfl
  | case4 _ _ _ _ _ _ _ _ h ih => rw [h] at ih; exact ih

theorem retrieveLoop_full (limit : Nat) (data : Bytes) (f : Nat) : ∀ (n i : Nat), i + n ≤ 64 → i + n ≤ limit →
    16 * (i + n) ≤ data.length →
    retrieveLoop limit (fun w => some (page data w)) (f + n) i (data.take (16 * i)) =
      (List.range' i n ++ (retrieveLoop limit (fun w => some (page data w)) f (i + n) (data.take (16 * (i + n)))).1,
       (retrieveLoop limit (fun w => some (page data w)) f (i + n) (data.take (16 * (i + n)))).2) := by
  intro n
  induction n with
  | zero => intro i _ _ _; rfl
  | succ n ih =>
    intro i h64 hlim hlen
    have hfull : ¬ ((i == limit || decide ((page data i).length < 16)) = true) := by
      simp [page]; omega
    have hbuf : data.take (16 * i) ++ page data i = data.take (16 * (i + 1)) := by
      simp only [page]; rw [Nat.mul_add, Nat.mul_one, List.take_add]
    rw [← Nat.add_assoc, retrieveLoop]
    simp only [Nat.mod_eq_of_lt (show i < 64 by omega), if_neg hfull, Nat.mod_eq_of_lt (show i + 1 < 256 by omega), hbuf]
    rw [ih (i + 1) (by omega) (by omega) (by omega), show i + 1 + n = i + (n + 1) by omega]
    rfl

theorem retrieveLoop_last (limit : Nat) (data : Bytes) (f i : Nat) (buf : Bytes)
    (h : i = limit ∨ data.length < 16 * (i % 64) + 16) :
    retrieveLoop limit (fun w => some (page data w)) (f + 1) i buf = ([i % 64], .ok (buf ++ page data (i % 64))) := by
  have hend : (i == limit || decide ((page data (i % 64)).length < 16)) = true := by
    simp [page]; omega
  rw [retrieveLoop]
  simp only [if_pos hend]

/-- against the paging BMC the loop reassembles the record data (up to the 1024 bytes that 64 list indices carry),
    asking for the list indices in order up to the one that holds the end of the data -/
theorem retrieveChunks_page (data : Bytes) (h : data.length ≤ 1024) :
    retrieveChunks (fun w => some (page data w)) = (List.range (min (data.length / 16) 63 + 1), .ok data) := by
  -- `n` full chunks, then the round at index `n` ends the loop
  obtain ⟨n, hn⟩ : ∃ n, n = min (data.length / 16) 63 := ⟨_, rfl⟩
  obtain ⟨g, hg⟩ : ∃ g, 63 + 1 = g + 1 + n := ⟨63 - n, by omega⟩
  rw [retrieveChunks, retrieveChunksL, hg, ← List.take_zero (l := data), ← hn,
    retrieveLoop_full 63 data (g + 1) n 0 (by omega) (by omega) (by omega),
    retrieveLoop_last 63 data g (0 + n) _ (by omega), Nat.zero_add, Nat.mod_eq_of_lt (by omega),
    show page data n = data.drop (16 * n) from List.take_of_length_le (by simp; omega), List.take_append_drop,
    List.range_eq_range', List.range'_concat]
  simp

/-- 256 rounds are enough for every BMC: a round that does not end the loop adds at least one record ID, and the loop
    goes on only while there are fewer than `Instances` ≤ 255 of them -/
theorem instLoop_fuel (bmc : Proto.Enum.Bmc) (e : Nat) (f1 f2 : Nat) (ids : List Nat) (total : Nat) (ht : total ≤ 255)
    (h1 : 255 - ids.length < f1) (h2 : 255 - ids.length < f2) :
    instLoop bmc e f1 ids total = instLoop bmc e f2 ids total := by
  fun_induction instLoop bmc e f1 ids total generalizing f2 <;> cases f2 <;> try omega
  case case2.succ hlt hq _ => simp only [instLoop, hlt, hq, if_true]
  case case3.succ hlt _ _ hq hb _ => simp only [instLoop, hlt, hq, hb, if_true]
  case case4.succ hlt _ _ hq hb _ _ h ih m =>
    simp only [instLoop, hlt, hq, hb, if_true, if_false, Bool.false_eq_true]
    simp only [Bool.or_eq_true, beq_iff_eq, not_or, List.length_append] at hb ih
    rw [← ih m (by omega) (by omega) (by omega), h]
  case case5.succ hlt _ => simp only [instLoop, hlt, if_false]

theorem instLoop_log (bmc : Proto.Enum.Bmc) (e f : Nat) (ids : List Nat) (total : Nat) :
    ∀ q ∈ (instLoop bmc e f ids total).1, q.entity = e := by
  fun_induction instLoop bmc e f ids total with
  | case4 _ _ _ _ _ _ _ _ _ _ h ih => rw [h] at ih; simpa using ih
  | _ => simp

theorem instLoop_safe (bmc : Proto.Enum.Bmc) (e f : Nat) (ids : List Nat) (total : Nat) :
    (instLoop bmc e f ids total).2.bad = false := by
  fun_induction instLoop bmc e f ids total with
  | case1 | case2 | case3 | case5 => rfl
  | case4 _ _ _ _ _ _ _ _ _ _ h ih => rw [h] at ih; exact ih

theorem entityInstances_first (bmc : Proto.Enum.Bmc) (e : Nat) :
    ∃ l, (entityInstances bmc e).1 = ⟨e, 1⟩ :: l := by
  unfold entityInstances instLoop
  simp only [List.length_nil, Nat.lt_one_iff, if_true, Nat.zero_add]
  cases bmc e (1 % 256) with
  | none => exact ⟨[], rfl⟩
  | some r =>
    obtain ⟨tot, pg⟩ := r
    simp only []
    split
    · exact ⟨[], rfl⟩
    · exact ⟨_, rfl⟩

theorem entityInstances_safe (bmc : Proto.Enum.Bmc) (e : Nat) : (entityInstances bmc e).2.bad = false :=
  instLoop_safe bmc e 256 [] 1

/-- against the specification's BMC holding `ids` for the entity, every round extends the prefix already collected by
    the next page until all of `ids` is there; the requests made are exactly the instance starts 1, 1 + p, 1 + 2p, …
    while instances remain -/
theorem instLoop_spec_log (b : DcmiBmc) (e : Nat) (ids : List Nat) (hb : b.ids e = some ids) (hn : ids.length ≤ 255)
    (hp : 1 ≤ b.pageSize) :
    ∀ (f k total : Nat), ids.length - k < f → (k < ids.length ∧ total = ids.length ∨ k = 0 ∧ total = 1) →
    instLoop b.respond e f (ids.take k) total =
      ((expectedStarts b.pageSize ids.length f k).map (fun s => ⟨e, s⟩), .ok ids) := by
  intro f
  induction f with
  | zero => intro k total hf; omega
  | succ f ih =>
    intro k total hf ht
    have hlen : (ids.take k).length = k := by simp; omega
    have hr : b.respond e (k + 1) = some (ids.length, (ids.drop k).take b.pageSize) := by simp [DcmiBmc.respond, hb]
    rw [instLoop, hlen, if_pos (by omega), Nat.mod_eq_of_lt (by omega), hr, expectedStarts]
    simp only [← List.take_add, Nat.mod_eq_of_lt (show ids.length < 256 by omega)]
    by_cases hmore : k + b.pageSize < ids.length
    · -- a full page with more to come: the loop goes on
      have hgo : ¬ (((ids.drop k).take b.pageSize).length == 0 || (ids.take (k + b.pageSize)).length == 255) = true := by
        simp only [Bool.or_eq_true, beq_iff_eq, List.length_take, List.length_drop]; omega
      rw [if_neg hgo, ih (k + b.pageSize) ids.length (by omega) (Or.inl ⟨hmore, rfl⟩), if_pos hmore]
      rfl
    · -- the page that completes the list: the loop ends here or, the page not being empty, at the next test
      rw [List.take_of_length_le (Nat.le_of_not_lt hmore), if_neg hmore]
      split
      · rfl
      · rename_i hgo
        obtain ⟨f, rfl⟩ : ∃ g, f = g + 1 := ⟨f - 1, by
          simp only [Bool.or_eq_true, beq_iff_eq, List.length_take, List.length_drop, not_or] at hgo; omega⟩
        rw [instLoop, if_neg (Nat.lt_irrefl _)]
        rfl

theorem entityInstances_reject (b : DcmiBmc) (e : Nat) (hb : b.ids e = none) :
    (entityInstances b.respond e).2 = .err := by
  simp [entityInstances, instLoop, DcmiBmc.respond, hb]

theorem sensorMapLoop_log (bmc : Proto.Enum.Bmc) (es : List Nat) (m : SMap) :
    ∀ q ∈ (sensorMapLoop bmc es m).1, q.entity ∈ es := by
  fun_induction sensorMapLoop bmc es m with
  | case1 => simp
  | case2 e es m l1 ids h l2 r h2 ih =>
    have hl := instLoop_log bmc e 256 [] 1
    rw [← entityInstances, h] at hl
    rw [h2] at ih
    intro q hq
    rcases List.mem_append.mp hq with hq | hq
    · simp [hl q hq]
    · exact List.mem_cons_of_mem _ (ih q hq)
  | case3 e es m l1 x _ h =>
    have hl := instLoop_log bmc e 256 [] 1
    rw [← entityInstances, h] at hl
    intro q hq; simp [hl q hq]

theorem sensorMapLoop_first (bmc : Proto.Enum.Bmc) (e : Nat) (es : List Nat) (m : SMap) :
    ∃ l, (sensorMapLoop bmc (e :: es) m).1 = ⟨e, 1⟩ :: l := by
  obtain ⟨l, hl⟩ := entityInstances_first bmc e
  unfold sensorMapLoop
  generalize hx : entityInstances bmc e = x at hl
  obtain ⟨l1, r1⟩ := x
  simp only [] at hl
  cases r1 <;> simp only [hl] <;> exact ⟨_, rfl⟩

theorem sensorMapLoop_safe (bmc : Proto.Enum.Bmc) (es : List Nat) (m : SMap) : (sensorMapLoop bmc es m).2.bad = false := by
  fun_induction sensorMapLoop bmc es m with
  | case1 | case3 => rfl
  | case2 _ _ _ _ _ _ _ _ h ih => rw [h] at ih; exact ih

theorem entityInstances_spec_log (b : DcmiBmc) (e : Nat) (ids : List Nat) (hb : b.ids e = some ids) (hn : ids.length ≤ 255)
    (hp : 1 ≤ b.pageSize) :
    entityInstances b.respond e = ((expectedStarts b.pageSize ids.length 256 0).map (fun s => ⟨e, s⟩), .ok ids) := by
  simpa [entityInstances] using instLoop_spec_log b e ids hb hn hp 256 0 1 (by omega) (Or.inr ⟨rfl, rfl⟩)

theorem entityInstances_spec (b : DcmiBmc) (e : Nat) (ids : List Nat) (hb : b.ids e = some ids) (hn : ids.length ≤ 255)
    (hp : 1 ≤ b.pageSize) : ∃ l, entityInstances b.respond e = (l, .ok ids) :=
  ⟨_, entityInstances_spec_log b e ids hb hn hp⟩

theorem sensorMap_spec3 (b : DcmiBmc) (hp : 1 ≤ b.pageSize) (e0 e1 e2 : Nat) (h01 : e0 ≠ e1) (h02 : e0 ≠ e2) (h12 : e1 ≠ e2)
    (i0 i1 i2 : List Nat) (h0 : b.ids e0 = some i0) (h1 : b.ids e1 = some i1) (h2 : b.ids e2 = some i2)
    (l0 : i0.length ≤ 255) (l1 : i1.length ≤ 255) (l2 : i2.length ≤ 255) :
    ∃ l m, sensorMap b.respond [e0, e1, e2] = (l, .ok m) ∧ pick m [e0, e1, e2] = ⟨i0, i1, i2⟩ ∧
      m.count = i2.length + (i1.length + i0.length) := by
  obtain ⟨a0, ha0⟩ := entityInstances_spec b e0 i0 h0 l0 hp
  obtain ⟨a1, ha1⟩ := entityInstances_spec b e1 i1 h1 l1 hp
  obtain ⟨a2, ha2⟩ := entityInstances_spec b e2 i2 h2 l2 hp
  have q20 : (e0 == e2) = false := by simpa using h02
  have q10 : (e0 == e1) = false := by simpa using h01
  have q21 : (e1 == e2) = false := by simpa using h12
  refine ⟨a0 ++ (a1 ++ (a2 ++ [])), [(e2, i2), (e1, i1), (e0, i0)], ?_, ?_, ?_⟩
  · simp [sensorMap, sensorMapLoop, ha0, ha1, ha2, SMap.set, h01, h02, h12]
  · simp [pick, SMap.get, List.lookup, q20, q10, q21]
  · simp [SMap.count]

theorem sensorMapLoop_reject (b : DcmiBmc) (es : List Nat) (m : SMap) (hrej : ∃ e ∈ es, b.ids e = none) : (sensorMapLoop b.respond es m).2 = .err := by
  fun_induction sensorMapLoop b.respond es m with
  | case1 => simp at hrej
  | case2 e es m l1 ids h l2 r h2 ih =>
    -- the first entity was enumerated, so it is not the one rejected
    obtain ⟨e', hm, hn⟩ := hrej
    rcases List.mem_cons.mp hm with rfl | hm
    · have := entityInstances_reject b e' hn; rw [h] at this; cases this
    · rw [h2] at ih; exact ih ⟨e', hm, hn⟩
  | case3 => rfl

theorem fallback_fst (bmc : Proto.Enum.Bmc) : (fallback bmc).1 = (sensorMap bmc Proto.Enum.dcmiEntities).1 := by
  unfold fallback
  rcases sensorMap bmc Proto.Enum.dcmiEntities with ⟨l, r⟩
  cases r <;> rfl

theorem fallback_snd (bmc : Proto.Enum.Bmc) :
    (fallback bmc).2 = match (sensorMap bmc Proto.Enum.dcmiEntities).2 with
      | .ok m => .ok (pick m Proto.Enum.dcmiEntities)
      | _ => .err := by
  unfold fallback
  rcases sensorMap bmc Proto.Enum.dcmiEntities with ⟨l, r⟩
  cases r <;> rfl

theorem getSensorInfo_snd (bmc : Proto.Enum.Bmc) :
    (getSensorInfo bmc).2 = match (sensorMap bmc Proto.Enum.stdEntities).2 with
      | .ok m => if m.count > 0 then .ok (pick m Proto.Enum.stdEntities) else (fallback bmc).2
      | _ => (fallback bmc).2 := by
  unfold getSensorInfo
  rcases sensorMap bmc Proto.Enum.stdEntities with ⟨l, r⟩
  cases r <;> try rfl
  dsimp only; split <;> rfl

/-- the entity IDs in the source (regenerated constants) are the specification's -/
theorem entities_eq : Proto.Enum.stdEntities = [0x37, 0x03, 0x07] ∧ Proto.Enum.dcmiEntities = [0x40, 0x41, 0x42] ∧
    Proto.Enum.stdEntities = Spec.Enum.stdEntities ∧ Proto.Enum.dcmiEntities = Spec.Enum.dcmiEntities := by decide

end Bmc.Lemmas.Enum
