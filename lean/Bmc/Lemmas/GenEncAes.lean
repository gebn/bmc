import Bmc.Lemmas.GenEnc
import Bmc.Lemmas.AesRoundTrip
/-! Lemmas identifying the REGENERATED `ipmi.AES128CBC.SerializeTo` (`Bmc.Gen.Enc.AES128CBC.serializeTo`; the draw of the IV and
    CBC encryption are parameters) with the hand model `Wire.AESLayer.encode`. -/
namespace Bmc.Lemmas.GenEnc
open Bmc Bmc.Wire Bmc.GoEnc Bmc.Gen.Enc Bmc.Crypto

theorem padLen_int (n : Nat) :
    (((16 : Nat) : Int) - ((1 : Nat) : Int)) - (((n % 16 : Nat) : Nat) : Int) = ((padLen n : Nat) : Int) := by
  unfold padLen; omega

theorem trailer_eq (stale : Bytes) (n : Nat) :
    (do let w ← List.foldlM (fun w i => setB w i (UInt8.ofNat (i + 1))) (fresh stale (n + 1)) (List.range n)
        setB w n (UInt8.ofNat n)) = R.ok (confPad n) := by
  rw [fresh_eq_win, fill_win, R.bind_ok, setB_win _ _ _ _ _ (by simp), win_zero]
  rfl

theorem randRead_some (iv w : Bytes) (h : iv.length = w.length) : randRead (some iv) w = .ok iv := by
  unfold randRead
  simp only
  rw [List.take_append_of_le_length (by omega), List.take_of_length_le (by omega)]

theorem crypt_ok (enc : Bytes → Bytes → Bytes) (iv pt : Bytes) (hiv : iv.length = 16) (hmod : pt.length % 16 = 0)
    (henc : (enc iv pt).length = pt.length) :
    cryptBlocksInPlace enc 16 iv (iv ++ pt) 16 = .ok (iv ++ enc iv pt) := by
  unfold cryptBlocksInPlace
  have h1 : ¬ iv.length ≠ 16 := by omega
  have h2 : ¬ (iv ++ pt).length < 16 := by simp; omega
  have h3 : ¬ ((iv ++ pt).length - 16) % 16 ≠ 0 := by simp; omega
  simp only [h1, h2, h3, if_false]
  have e1 : (iv ++ pt).take 16 = iv := by rw [List.take_append_of_le_length (by omega), List.take_of_length_le (by omega)]
  have e2 : (iv ++ pt).drop 16 = pt := by rw [List.drop_append_of_le_length (by omega), List.drop_of_length_le (by omega)]; rfl
  rw [e1, e2, List.take_append_of_le_length (by omega), List.take_of_length_le (by omega)]

end Bmc.Lemmas.GenEnc
