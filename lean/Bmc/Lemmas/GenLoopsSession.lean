import Bmc.Lemmas.GenLoops
import Bmc.Lemmas.SessionSpec
import Bmc.Lemmas.GenLoopsBounds
import Bmc.Lemmas.GenLoopsScript
/-! The regenerated `V2Session.buildAndSend` (`Gen/Loops.lean`) instantiated with the pieces of the hand model of the in-session
    send loop (`Proto/Session.lean`): `gopacket.SerializeLayers` := the model's packet builder (`Message.encode`, `AESLayer.encode`,
    `V2Session.encode`, `RMCP.encode` — what `Proto.attempt` composes) on the field values the layer structs hold, one IV of the
    script per call; the connection's decoder := the `view` of the model's `onReply` (verdict, session wrapper, message — a
    function of the keys and the datagram, `onReply_view`); the transport := the outcome script.
    (`serBytes_attempt`: what it serialises from the layer structs the closure builds is `Proto.attempt`'s datagram.) -/
namespace Bmc.Lemmas.GenLoops
open Bmc Bmc.Wire Bmc.Crypto Bmc.Proto Bmc.GoOrch Bmc.GoLoops Bmc.Gen.Loops

/-- the read-only fields of the session: 1 stands for the keyed integrity algorithm (nil when none was negotiated), 2 for the
    confidentiality layer, 3 for its layer type -/
def sessConsts (k : Keys) : V2SessionConsts :=
  { remoteID := UInt32.ofNat k.remoteID, localID := UInt32.ofNat k.localID
    integrityAlgorithm := if k.integ == 0 then 0 else 1, confidentialityLayer := 2, confidentialityLayer_LayerType := 3 }

/-- the layer structs after a successful serialisation (SerializeTo assigns checksums, length, pad and signature) … -/
def serLayers (C : Ops) (k : Keys) (c : Cmd) (iv : Bytes) (L : Layers) : Layers :=
  let mm := Message.encode (msgTo L.message) c.req
  let ab := AESLayer.encode C k.k2 iv mm.2
  let vv := V2Session.encode (integMac C k.integ k.k1) (v2To L.v2Session) ab
  { L with message := msgOf mm.1, v2Session := v2Of vv.1 L.v2Session.integrityAlgorithm L.v2Session.confidentialityLayerType }
/-- … and the datagram: the model's encoders composed as in `Proto.attempt`, on the values the layer structs hold -/
def serBytes (C : Ops) (k : Keys) (c : Cmd) (iv : Bytes) (L : Layers) : Bytes :=
  let mm := Message.encode (msgTo L.message) c.req
  let ab := AESLayer.encode C k.k2 iv mm.2
  let vv := V2Session.encode (integMac C k.integ k.k1) (v2To L.v2Session) ab
  RMCP.encode (rmcpTo L.rmcp) ++ vv.2

/-- `gopacket.SerializeLayers(buffer, serializeOptions, &rmcp, &v2session, confidentialityLayer, &message, request)`: an error
    unless these are the layers, in this order, with the session's integrity algorithm and confidentiality layer type in the
    wrapper, the library's options, and a request that serialises (`reqFails`); consumes one IV -/
def sessSerialize (C : Ops) (k : Keys) (c : Cmd) (w : SW) (o : SerializeOptions) (L : Layers) (args : List LayerArg) :
    SW × Layers × Bytes × Bool :=
  if o = { fixLengths := true, computeChecksums := true } ∧
     args = [.rmcp, .v2Session, .iface 2, .message, .iface 4] ∧
     L.v2Session.integrityAlgorithm = (sessConsts k).integrityAlgorithm ∧ L.v2Session.confidentialityLayerType = 3 ∧
     c.reqFails = false then
    ({ w with ivs := w.ivs.tail }, serLayers C k c (w.ivs.headD []) L, serBytes C k c (w.ivs.headD []) L, true)
  else (w, L, [], false)

/-- the connection's decoder: the view of the model's `onReply` — a layer panicked / returned an error / the chain ended before
    the message layer / it reached it, leaving this wrapper and this message in the layer structs -/
def sessDecode (C : Ops) (k : Keys) (L : Layers) (_t : Decoded) (d : Bytes) : Layers × Decoded × DecodeOutcome :=
  match view (onReply C k.sess (GoSlice.ofBytes d)) with
  | (.crash, _) => (L, .crash, .panic)
  | (.fail, _) => (L, .fail, .err)
  | (.message, some (v2, msg)) =>
    ({ L with v2Session := v2Of v2 (sessConsts k).integrityAlgorithm 3, message := msgOf msg }, .message, .ok)
  | _ => (L, .notMessage, .ok)

def sessWorld (C : Ops) (k : Keys) (c : Cmd) (bodyDecodes : Bytes → Bool) : World SW Decoded :=
  { serializeLayers := sessSerialize C k c
    transportSend := SW.send
    decode := sessDecode C k
    innermostEquals := fun t ty => t == .message && ty == .ipmi_LayerTypeMessage
    backoffWait := SW.wait
    decodeFromBytes := fun _ p => bodyDecodes p }

theorem sessSerialize_lit (C : Ops) (k : Keys) (c : Cmd) (bd : Bytes → Bool) (name : String) (rsp : Opaque) (w : SW) (inb : UInt32) :
    (sessWorld C k c bd).serializeLayers w bmc_serializeOptions (sessLit (sessConsts k) (cmdOf c name rsp) inb)
        [.rmcp, .v2Session, .iface (sessConsts k).confidentialityLayer, .message, bmc_serializableLayerOrEmpty (cmdOf c name rsp).request]
      = if c.reqFails = false then
          ({ w with ivs := w.ivs.tail }, serLayers C k c (w.ivs.headD []) (sessLit (sessConsts k) (cmdOf c name rsp) inb),
           serBytes C k c (w.ivs.headD []) (sessLit (sessConsts k) (cmdOf c name rsp) inb), true)
        else (w, sessLit (sessConsts k) (cmdOf c name rsp) inb, [], false) := by
  show sessSerialize C k c w _ _ _ = _
  unfold sessSerialize
  cases c.reqFails
  · exact if_pos ⟨rfl, rfl, rfl, rfl, rfl⟩
  · exact if_neg fun h => nomatch h.2.2.2.2

theorem innermost_notMessage (C : Ops) (k : Keys) (c : Cmd) (bd : Bytes → Bool) :
    innermostEquals (sessWorld C k c bd) Decoded.notMessage LayerTy.ipmi_LayerTypeMessage = some GoErr.innermost := rfl
theorem innermost_message (C : Ops) (k : Keys) (c : Cmd) (bd : Bytes → Bool) :
    innermostEquals (sessWorld C k c bd) Decoded.message LayerTy.ipmi_LayerTypeMessage = none := rfl

theorem serBytes_attempt (C : Ops) (c : Cmd) (name : String) (rsp : Opaque) (s : Sess) (iv : Bytes)
    (hr : s.remoteID < 4294967296) (hc : c.ent < 4294967296) :
    serBytes C s.keys c iv (sessLit (sessConsts s.keys) (cmdOf c name rsp) (UInt32.ofNat s.inbound)) = (attempt C (initLayers s c) c iv).2 := by
  have hv : v2To (sessLit (sessConsts s.keys) (cmdOf c name rsp) (UInt32.ofNat s.inbound)).v2Session
      = { (initLayers s c).v2 with sequence := (s.inbound + 1) % 4294967296 } := by
    simp only [sessLit, v2To, initLayers, sessConsts, Sess.keys, UInt32.toNat_ofNat_of_lt' hr, ofNat32_succ, ipmi_PayloadDescriptorIPMI]
    rw [UInt32.toNat_ofNat_of_lt' (Nat.mod_lt _ (by decide))]
    rfl
  unfold serBytes
  rw [show (sessLit (sessConsts s.keys) (cmdOf c name rsp) (UInt32.ofNat s.inbound)).message = litMessage (cmdOf c name rsp) from rfl,
    msgTo_litMessage c name rsp hc, hv]
  rfl

theorem sess_usesOne (C : Ops) (k : Keys) (c : Cmd) (bd : Bytes → Bool) (name : String) (rsp : Opaque) :
    UsesOne (V2Session_buildAndSend_func1 (sessWorld C k c bd) (sessConsts k) (cmdOf c name rsp)) := by
  intro ⟨first, te⟩ w K b' e s' h
  rw [sessFunc1_eq, sessSerialize_lit C k c bd name rsp] at h
  cases hf : c.reqFails <;> simp only [hf, if_true, if_false, Bool.true_eq_false] at h
  · rw [← show _ = s' from congrArg Prod.snd h, recv_allowed _ rfl _ _ _ _ (accepted_world _ _)]
    rfl
  · cases (Prod.mk.inj h).1

end Bmc.Lemmas.GenLoops
