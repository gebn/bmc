import Bmc.Lemmas.SdrWalkLog
import Bmc.Spec.Repo
/-! Helper lemmas for C14: the conforming BMC of `Spec/Repo.lean` as an answer function for the model of
    `Proto/SdrWalk.lean`; its answers to the three requests; timestamps only grow and stand still only when the records do. -/
namespace Bmc.Lemmas.SdrWalk
open Bmc Bmc.Wire Bmc.Spec Bmc.Proto.SdrWalk

def toSpec : Req → RepoReq
  | .repoInfo => .info
  | .reserve => .reserve
  | .getSDR a b c d => .getSDR a b c d

/-- the conforming BMC (with its future) as an answer function: it always answers -/
def bmc : Answer World := fun w q =>
  ((w.answer (toSpec q)).1, some ⟨(w.answer (toSpec q)).2.cc, (w.answer (toSpec q)).2.data⟩)

/-- what retrieval has to return for a repository content: its Full Sensor Records (type 01h), in repository order,
    each under its own Record ID, decoded -/
def fullView (recs : List SdrRec) : SDRRepository :=
  recs.filterMap fun r =>
    if r.typ = (1 : UInt8) then (match FullSensorRecord.decode r.body with | .ok f => some (r.id, f) | .error _ => none) else none

def tsLe (w w' : World) : Prop :=
  w.repo.store.addTs ≤ w'.repo.store.addTs ∧ w.repo.store.eraseTs ≤ w'.repo.store.eraseTs
def tsEq (w w' : World) : Prop :=
  w.repo.store.addTs = w'.repo.store.addTs ∧ w.repo.store.eraseTs = w'.repo.store.eraseTs

theorem tsLe_refl (w : World) : tsLe w w := ⟨Nat.le_refl _, Nat.le_refl _⟩
theorem tsLe_trans {a b c : World} (h1 : tsLe a b) (h2 : tsLe b c) : tsLe a c :=
  ⟨Nat.le_trans h1.1 h2.1, Nat.le_trans h1.2 h2.2⟩
theorem tsEq_squeeze {a b c : World} (h1 : tsLe a b) (h2 : tsLe b c) (h : tsEq a c) : tsEq a b ∧ tsEq b c := by
  unfold tsLe tsEq at *; omega

theorem apply_mono (s : Store) (m : Mod) : s.addTs ≤ (s.apply m).addTs ∧ s.eraseTs ≤ (s.apply m).eraseTs := by
  cases m <;> simp [Store.apply]

theorem apply_same (s : Store) (m : Mod) (h1 : (s.apply m).addTs = s.addTs) (h2 : (s.apply m).eraseTs = s.eraseTs) :
    (s.apply m).recs = s.recs := by
  cases m <;> simp [Store.apply] at *

theorem applyAll_mono (ms : List Mod) : ∀ s : Store,
    s.addTs ≤ (s.applyAll ms).addTs ∧ s.eraseTs ≤ (s.applyAll ms).eraseTs := by
  induction ms with
  | nil => intro s; simp [Store.applyAll]
  | cons m ms ih =>
    intro s
    have h1 := apply_mono s m
    have h2 := ih (s.apply m)
    simp only [Store.applyAll, List.foldl_cons] at *
    omega

theorem applyAll_same (ms : List Mod) : ∀ s : Store,
    (s.applyAll ms).addTs = s.addTs → (s.applyAll ms).eraseTs = s.eraseTs → (s.applyAll ms).recs = s.recs := by
  induction ms with
  | nil => intro s _ _; rfl
  | cons m ms ih =>
    intro s e1 e2
    have h1 := apply_mono s m
    have h2 := applyAll_mono ms (s.apply m)
    simp only [Store.applyAll, List.foldl_cons] at *
    rw [ih (s.apply m) (by omega) (by omega)]
    exact apply_same s m (by omega) (by omega)

theorem applyAll_append (s : Store) (a b : List Mod) : s.applyAll (a ++ b) = (s.applyAll a).applyAll b := by
  simp [Store.applyAll, List.foldl_append]

/-- an answer is the device's own step from the repository as it stands when the request arrives: untouched, or with the
    next batch applied -/
theorem answer_step (w : World) (q : RepoReq) :
    ∃ R sched, w.answer q = (⟨(R.step q).1, sched⟩, (R.step q).2) ∧
      ((R = w.repo ∧ sched = w.sched) ∨ ∃ b ms, w.sched = (b, ms) :: sched ∧ R = w.repo.applyAll ms) := by
  unfold World.answer
  rcases hs : w.sched with _ | ⟨⟨b, ms⟩, rest⟩
  · exact ⟨w.repo, [], rfl, Or.inl ⟨rfl, rfl⟩⟩
  · by_cases hc : (b && !q.isGetSDR) = true
    · exact ⟨w.repo, _, by dsimp only; rw [if_pos hc], Or.inl ⟨rfl, rfl⟩⟩
    · exact ⟨w.repo.applyAll ms, rest, by dsimp only; rw [if_neg hc], Or.inr ⟨b, ms, rfl, rfl⟩⟩

theorem step_store (R : Repo) (q : RepoReq) : (R.step q).1.store = R.store := by
  cases q <;> rfl

theorem answer_store (w : World) (q : RepoReq) :
    ((w.answer q).1.repo.store = w.repo.store ∧ (w.answer q).1.sched = w.sched) ∨
    (∃ b ms rest, w.sched = (b, ms) :: rest ∧ (w.answer q).1.repo.store = w.repo.store.applyAll ms ∧
      (w.answer q).1.sched = rest) := by
  obtain ⟨R, sched, h, ⟨rfl, rfl⟩ | ⟨b, ms, hs, rfl⟩⟩ := answer_step w q <;> rw [h]
  · exact Or.inl ⟨step_store _ q, rfl⟩
  · exact Or.inr ⟨b, ms, sched, hs, step_store _ q, rfl⟩

theorem answer_mono (w : World) (q : RepoReq) : tsLe w (w.answer q).1 := by
  rcases answer_store w q with ⟨h, _⟩ | ⟨b, ms, rest, _, h, _⟩
  · unfold tsLe; rw [h]; exact ⟨Nat.le_refl _, Nat.le_refl _⟩
  · unfold tsLe; rw [h]; exact applyAll_mono ms _

theorem answer_same (w : World) (q : RepoReq) (h : tsEq w (w.answer q).1) :
    (w.answer q).1.repo.store.recs = w.repo.store.recs := by
  rcases answer_store w q with ⟨h', _⟩ | ⟨b, ms, rest, _, h', _⟩
  · rw [h']
  · unfold tsEq at h
    rw [h'] at h ⊢
    exact applyAll_same ms _ h.1.symm h.2.symm

theorem inv_store (w : World) (h : w.Inv) : w.repo.store.wf := by
  have := h 0
  simpa [Store.applyAll] using this

theorem answer_inv (w : World) (q : RepoReq) (h : w.Inv) : (w.answer q).1.Inv := by
  rcases answer_store w q with ⟨h1, h2⟩ | ⟨b, ms, rest, hs, h1, h2⟩
  · intro k; rw [h1, h2]; exact h k
  · intro k
    rw [h1, h2, ← applyAll_append]
    have := h (k + 1)
    simpa [hs] using this

theorem answer_info (w : World) : (w.answer .info).2 = ⟨0, (w.answer .info).1.repo.store.info.encode⟩ := by
  obtain ⟨R, sched, h, _⟩ := answer_step w .info
  rw [h]; rfl

theorem answer_reserve (w : World) :
    (w.answer .reserve).2 = ⟨0, le16 (w.answer .reserve).1.repo.resv⟩ ∧ (w.answer .reserve).1.repo.resvOk = true ∧
    (w.answer .reserve).1.repo.resv < 65536 := by
  obtain ⟨R, sched, h, _⟩ := answer_step w .reserve
  rw [h]
  exact ⟨rfl, rfl, by show R.nextResv < 65536; unfold Repo.nextResv; split <;> omega⟩

theorem answer_getSDR (w : World) (resv id off len : Nat) :
    (w.answer (.getSDR resv id off len)).2 = (w.answer (.getSDR resv id off len)).1.repo.getSDR resv id off len := by
  obtain ⟨R, sched, h, _⟩ := answer_step w (.getSDR resv id off len)
  rw [h]; rfl

theorem answer_getSDR_repo (w : World) (resv id off len : Nat) :
    (w.answer (.getSDR resv id off len)).1.repo.resv = w.repo.resv := by
  obtain ⟨R, sched, h, ⟨rfl, _⟩ | ⟨_, _, _, rfl⟩⟩ := answer_step w (.getSDR resv id off len) <;> rw [h] <;> rfl

theorem call_bmc {α : Type} (dec : Bytes → R α) (w : World) (q : Req) (cc : UInt8) (data : Bytes)
    (h : (w.answer (toSpec q)).2 = ⟨cc, data⟩) :
    call bmc dec w q = ((w.answer (toSpec q)).1,
      match dec data with | .ok v => if cc = 0 then some v else none | _ => none) := by
  rw [call_eq]
  simp only [bmc, h, Option.bind_some]
  rfl

end Bmc.Lemmas.SdrWalk
