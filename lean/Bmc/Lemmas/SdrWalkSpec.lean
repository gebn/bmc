import Bmc.Lemmas.SdrWalkBmc
import Bmc.Proofs.C07.Sdr
/-! Helper lemmas for C14: record selection, the record bytes a Get SDR returns, the three calls against the conforming
    BMC (decoded by C07's theorems), what the walk is expected to return, and completeness of the walk with enough fuel. -/
namespace Bmc.Lemmas.SdrWalk
open Bmc Bmc.Wire Bmc.Spec Bmc.Proto.SdrWalk

theorem findRec_append (pre : List SdrRec) (r : SdrRec) (rest : List SdrRec) (id : Nat)
    (h : ∀ p ∈ pre, p.id ≠ id) (hr : r.id = id) : findRec (pre ++ r :: rest) id = some (r, nextID rest) := by
  induction pre with
  | nil => simp [findRec, hr]
  | cons p pre ih =>
    have hp : p.id ≠ id := h p (by simp)
    simp only [List.cons_append, findRec, hp, if_false]
    exact ih (fun q hq => h q (by simp [hq]))

theorem locate_at (pre : List SdrRec) (r : SdrRec) (rest : List SdrRec) (id : Nat)
    (hwf : wfStore (pre ++ r :: rest)) (hid : id = r.id ∨ (id = 0 ∧ pre = [])) :
    locate (pre ++ r :: rest) id = some (r, nextID rest) := by
  obtain ⟨hnd, hlt, hz⟩ := hwf
  have hrlt : r.id < 0xFFFF := (hlt r (by simp)).1
  -- a zero ID can only be requested at the head
  have key : id = 0 → pre = [] := by
    intro h0
    rcases hid with h | ⟨_, h⟩
    · cases pre with
      | nil => rfl
      | cons p pre =>
        exfalso
        exact hz r (by simp) (by omega)
    · exact h
  unfold locate
  by_cases h0 : id = 0
  · have := key h0
    subst this
    simp [h0]
  · have hid' : id = r.id := by
      rcases hid with h | ⟨h, _⟩
      · exact h
      · exact absurd h h0
    rw [if_neg h0, if_neg (by omega)]
    apply findRec_append _ _ _ _ _ hid'.symm
    intro p hp heq
    rw [List.map_append, List.map_cons] at hnd
    have := (List.nodup_append.mp hnd).2.2 p.id (List.mem_map.mpr ⟨p, hp, rfl⟩) r.id (by simp)
    omega

theorem nextID_lt (pre : List SdrRec) (r : SdrRec) (rest : List SdrRec) (hwf : wfStore (pre ++ r :: rest)) :
    nextID rest < 65536 := by
  cases rest with
  | nil => simp [nextID]
  | cons r2 rest => have := (hwf.2.1 r2 (by simp)).1; simp only [nextID]; omega

theorem bytes_eq (r : SdrRec) :
    r.bytes = le16 r.id ++ [UInt8.ofNat (16 * 5 + 1), r.typ, UInt8.ofNat r.body.length] ++ r.body := rfl

theorem bytes_length (r : SdrRec) : r.bytes.length = 5 + r.body.length := by
  simp [bytes_eq, Spec.le16]; omega

theorem header_decode (r : SdrRec) (h1 : r.id < 65536) (prev : Wire.SDRHeader) :
    SDRHeader.decodeGo prev (GoSlice.ofBytes ((r.bytes.drop 0).take 5)) =
      .ok { id := r.id, version := 15, typ := r.typ, length := UInt8.ofNat r.body.length
            contents := r.bytes.take 5, payload := [] } := by
  unfold SDRHeader.decodeGo
  simp [bytes_eq, Spec.le16, GoSlice.slice, GoSlice.sliceFrom, GoSlice.idx, GoSlice.ofBytes, GoSlice.vis, Wire.le16,
    -UInt8.ofNat_add, -UInt8.ofNat_mul]
  exact ⟨by omega, by decide⟩

theorem body_window (r : SdrRec) (h2 : r.body.length < 256) :
    (r.bytes.drop 5).take (if (UInt8.ofNat r.body.length).toNat = 0xFF then r.bytes.length else (UInt8.ofNat r.body.length).toNat)
      = r.body := by
  have hd : r.bytes.drop 5 = r.body := by simp [bytes_eq, Spec.le16]
  have hn : (UInt8.ofNat r.body.length).toNat = r.body.length := UInt8.toNat_ofNat_of_lt' (show _ < 256 by omega)
  rw [hd, hn, bytes_length]
  split <;> exact List.take_of_length_le (by omega)

theorem call_fst {α : Type} (dec : Bytes → R α) (w : World) (q : Req) :
    (call bmc dec w q).1 = (w.answer (toSpec q)).1 := by
  rw [call_bmc dec w q _ _ rfl]

theorem info_wf (s : Store) : s.info.wf := by
  unfold Store.info SDRRepoInfo.wf
  refine ⟨by simp, by simp, ?_, by simp, ?_, ?_⟩ <;> exact Nat.mod_lt _ (by decide)

theorem call_info (w : World) :
    call bmc SDRRepoInfoRsp.decode w .repoInfo =
      ((w.answer .info).1, some (Proofs.C07.sdrRepoInfoView (w.answer .info).1.repo.store.info)) := by
  rw [call_bmc _ w .repoInfo _ _ (answer_info w), Proofs.C07.sdrRepoInfo_decode_spec _ (info_wf _)]
  rfl

theorem call_reserve (w : World) :
    call bmc ReserveRsp.decode w .reserve =
      ((w.answer .reserve).1, some { reservationID := (w.answer .reserve).1.repo.resv
                                     contents := le16 (w.answer .reserve).1.repo.resv }) := by
  obtain ⟨h1, _, h3⟩ := answer_reserve w
  have := Proofs.C07.reserveSDR_decode_spec ⟨(w.answer .reserve).1.repo.resv⟩ h3
  simp only [ReserveSDR.encode] at this
  rw [call_bmc _ w .reserve _ _ h1, this]
  rfl

/-- Get SDR for the record `r` at a known place of the store the request finds: C5h (an error for the caller) when
    the offset is non-zero and the reservation does not stand; otherwise the next record's ID and the window asked for -/
theorem call_getSDR_at (w : World) (resv id off len : Nat) (pre : List SdrRec) (r : SdrRec) (rest : List SdrRec)
    (hwf : wfStore (pre ++ r :: rest))
    (hrecs : (w.answer (.getSDR resv id off len)).1.repo.store.recs = pre ++ r :: rest)
    (hid : id = r.id ∨ (id = 0 ∧ pre = [])) (hoff : off ≤ 5 + r.body.length) :
    call bmc GetSDRRsp.decode w (.getSDR resv id off len) =
      ((w.answer (.getSDR resv id off len)).1,
        if off ≠ 0 ∧ ¬ ((w.answer (.getSDR resv id off len)).1.repo.resvOk = true ∧
                        resv = (w.answer (.getSDR resv id off len)).1.repo.resv)
        then none
        else some { next := nextID rest, contents := le16 (nextID rest)
                    payload := (r.bytes.drop off).take (if len = 0xFF then r.bytes.length else len) }) := by
  have hl := bytes_length r
  have hans := answer_getSDR w resv id off len
  unfold Repo.getSDR at hans
  rw [hrecs, locate_at pre r rest id hwf hid] at hans
  by_cases hc : off ≠ 0 ∧ ¬ ((w.answer (.getSDR resv id off len)).1.repo.resvOk = true ∧
                        resv = (w.answer (.getSDR resv id off len)).1.repo.resv)
  · rw [if_pos hc] at hans
    rw [call_bmc _ w (.getSDR resv id off len) _ _ hans, if_pos hc]
    simp [GetSDRRsp.decode, GetSDRRsp.decodeGo, toSpec]
  · rw [if_neg hc] at hans
    simp only at hans
    rw [if_neg (by omega)] at hans
    rw [call_bmc _ w (.getSDR resv id off len) _ _ hans, if_neg hc]
    have := Proofs.C07.getSDR_decode_spec
      ⟨nextID rest, (r.bytes.drop off).take (if len = 0xFF then r.bytes.length else len)⟩ (nextID_lt pre r rest hwf)
    simp only [GetSDR.encode] at this
    simp only [this]
    simp [toSpec]

theorem fullView_append (a b : List SdrRec) : fullView (a ++ b) = fullView a ++ fullView b := by
  simp [fullView, List.filterMap_append]

theorem fullView_mem (recs : List SdrRec) (k : Nat) (f : FullSensorRecord) :
    (k, f) ∈ fullView recs ↔ ∃ r ∈ recs, r.typ = 1 ∧ r.id = k ∧ FullSensorRecord.decode r.body = .ok f := by
  simp only [fullView, List.mem_filterMap]
  constructor
  · rintro ⟨r, hr, h⟩
    refine ⟨r, hr, ?_⟩
    split at h
    · rename_i ht
      split at h
      · rename_i f' hd
        simp only [Option.some.injEq, Prod.mk.injEq] at h
        exact ⟨ht, h.1, by rw [hd, h.2]⟩
      · simp at h
    · simp at h
  · rintro ⟨r, hr, ht, hk, hd⟩
    exact ⟨r, hr, by simp [ht, hd, hk]⟩

theorem fullView_keys_sublist (recs : List SdrRec) : ((fullView recs).map (·.1)).Sublist (recs.map (·.id)) := by
  induction recs with
  | nil => simp [fullView]
  | cons r recs ih =>
    have : fullView (r :: recs) = fullView [r] ++ fullView recs := fullView_append [r] recs
    rw [this, List.map_append, List.map_cons]
    by_cases ht : r.typ = 1
    · cases hd : FullSensorRecord.decode r.body with
      | ok f => simpa [fullView, ht, hd] using ih
      | error e => simpa [fullView, ht, hd] using ih.cons _
    · simpa [fullView, ht] using ih.cons _

theorem fullView_nodup (recs : List SdrRec) (h : wfStore recs) : ((fullView recs).map (·.1)).Nodup :=
  (fullView_keys_sublist recs).nodup h.1

theorem insert_fresh (m : SDRRepository) (k : Nat) (v : FullSensorRecord) (h : ∀ e ∈ m, e.1 ≠ k) :
    insert m k v = m ++ [(k, v)] := by
  unfold Proto.SdrWalk.insert
  rw [List.filter_eq_self.mpr]
  intro e he
  simpa using h e he

theorem fullView_snoc_full (pre : List SdrRec) (r : SdrRec) (f : FullSensorRecord) (ht : r.typ = 1)
    (hd : FullSensorRecord.decode r.body = .ok f) : fullView (pre ++ [r]) = fullView pre ++ [(r.id, f)] := by
  rw [fullView_append]
  simp [fullView, ht, hd]

theorem fullView_snoc_other (pre : List SdrRec) (r : SdrRec) (ht : ¬ r.typ = 1) : fullView (pre ++ [r]) = fullView pre := by
  rw [fullView_append]
  simp [fullView, ht]

theorem insert_own (pre : List SdrRec) (r : SdrRec) (rest : List SdrRec) (f : FullSensorRecord)
    (hwf : wfStore (pre ++ r :: rest)) (ht : r.typ = 1) (hd : FullSensorRecord.decode r.body = .ok f) :
    insert (fullView pre) r.id f = fullView (pre ++ [r]) := by
  rw [fullView_snoc_full pre r f ht hd]
  apply insert_fresh
  intro e he heq
  obtain ⟨p, hp, _, hpe, _⟩ := (fullView_mem pre e.1 e.2).mp he
  have hnd := hwf.1
  rw [List.map_append, List.map_cons] at hnd
  have := (List.nodup_append.mp hnd).2.2 p.id (List.mem_map.mpr ⟨p, hp, rfl⟩) r.id (by simp)
  omega

/-- where the walk stands: the ID it is about to request designates the first of the records not yet visited -/
def PosOK (pre rest : List SdrRec) (id : Nat) : Prop :=
  match rest with
  | [] => id = 0xFFFF
  | r :: _ => id = r.id ∨ (id = 0 ∧ pre = [])

theorem posOK_next (pre : List SdrRec) (r : SdrRec) (rest : List SdrRec) : PosOK (pre ++ [r]) rest (nextID rest) := by
  cases rest with
  | nil => rfl
  | cons r2 rest => left; rfl

/-- every Full Sensor Record fits the library's limit on the bytes after the header and decodes -/
def wfFull (recs : List SdrRec) : Prop :=
  ∀ r ∈ recs, r.typ = 1 → r.body.length ≤ 64 ∧ (FullSensorRecord.decode r.body).isOk = true
instance decWfFull (recs : List SdrRec) : Decidable (wfFull recs) := by unfold wfFull; infer_instance

theorem exists_of_isOk {ε α : Type} (x : Except ε α) (h : x.isOk = true) : ∃ a, x = .ok a := by
  cases x with
  | ok a => exact ⟨a, rfl⟩
  | error e => simp [Except.isOk, Except.toBool] at h

theorem answer_quiet_getSDR (w : World) (h : w.sched = []) (a b c d : Nat) : (w.answer (.getSDR a b c d)).1 = w := by
  obtain ⟨repo, sched⟩ := w
  simp only at h
  subst h
  rfl

theorem walkLoop_complete : ∀ (rest pre : List SdrRec) (fuel : Nat) (w : World) (id : Nat),
    w.sched = [] → w.repo.store.recs = pre ++ rest → wfStore (pre ++ rest) → wfFull rest → w.repo.resvOk = true →
    PosOK pre rest id → rest.length < fuel →
    walkLoop true bmc fuel w w.repo.resv id (fullView pre) = (w, .ok (fullView (pre ++ rest))) := by
  intro rest
  induction rest with
  | nil =>
    intro pre fuel w id _ _ _ _ _ hpos hfuel
    obtain ⟨fuel, rfl⟩ : ∃ n, fuel = n + 1 := ⟨fuel - 1, by simp at hfuel; omega⟩
    simp only [PosOK] at hpos
    simp [walkLoop, hpos]
  | cons r rest ih =>
    intro pre fuel w id hq hrecs hwf hfull hres hpos hfuel
    obtain ⟨fuel, rfl⟩ : ∃ n, fuel = n + 1 := ⟨fuel - 1, by simp at hfuel; omega⟩
    simp only [List.length_cons] at hfuel
    have hr := hwf.2.1 r (by simp)
    have hid : id ≠ 0xFFFF := by
      simp only [PosOK] at hpos
      omega
    -- with an empty schedule a Get SDR leaves the BMC as it is: header read and body read are both `call_getSDR_at` on `w`
    have hw : ∀ a b c d, (w.answer (.getSDR a b c d)).1 = w := answer_quiet_getSDR w hq
    have hwf' : wfStore ((pre ++ [r]) ++ rest) := by simpa using hwf
    have hrecs' : w.repo.store.recs = (pre ++ [r]) ++ rest := by simpa using hrecs
    have hfull' : wfFull rest := fun x hx => hfull x (by simp [hx])
    rw [walkLoop, if_neg hid]
    rw [call_getSDR_at w w.repo.resv id 0 5 pre r rest hwf (by rw [hw]; exact hrecs) hpos (by omega)]
    simp only [hw, ne_eq, not_true_eq_false, false_and, if_false]
    rw [show (if (5 : Nat) = 0xFF then r.bytes.length else 5) = 5 by simp, header_decode r (by omega)]
    simp only
    by_cases ht : r.typ = 1
    · obtain ⟨hlen, hok⟩ := hfull r (by simp) ht
      obtain ⟨f, hf⟩ := exists_of_isOk _ hok
      have hn : (UInt8.ofNat r.body.length).toNat = r.body.length := UInt8.toNat_ofNat_of_lt' (show _ < 256 by omega)
      rw [if_pos ht, if_neg (by omega)]
      rw [call_getSDR_at w w.repo.resv id 5 _ pre r rest hwf (by rw [hw]; exact hrecs) hpos (by omega)]
      simp only [hw, hres, and_self, not_true_eq_false, and_false, if_false]
      rw [body_window r hr.2, FullSensorRecord.decodeGo_refines]
      simp only [GoSlice.vis_ofBytes, hf, R.ofExcept_ok, if_true]
      rw [insert_own pre r rest f hwf ht hf]
      rw [ih (pre ++ [r]) fuel w (nextID rest) hq hrecs' hwf' hfull' hres (posOK_next pre r rest) (by omega)]
      simp
    · rw [if_neg ht]
      rw [← fullView_snoc_other pre r ht]
      rw [ih (pre ++ [r]) fuel w (nextID rest) hq hrecs' hwf' hfull' hres (posOK_next pre r rest) (by omega)]
      simp

end Bmc.Lemmas.SdrWalk
