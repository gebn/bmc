import Bmc.Wire.V1Session
namespace Bmc.Wire
open Bmc
theorem V1Session.decodeGo_refines (prev : V1Session) (d : GoSlice) :
    V1Session.decodeGo true prev d = R.ofExcept (V1Session.decode d.vis) := by
  unfold V1Session.decodeGo V1Session.decode
  simp only [GoSlice.vis_length]
  refine R.guard_ofExcept fun h => ?_
  have hn : 10 ≤ d.len := Nat.le_of_not_lt h
  -- an authentication type other than none needs the 26-byte header
  cases hat : (List.getD d.vis 0 0 == 0)
  case' false =>
    go_reads hn [hat, Bool.false_eq_true]
    refine R.guard_ofExcept fun h26 => ?_
    replace hn : 26 ≤ d.len := Nat.le_of_not_lt h26
  all_goals
    go_reads hn [Nat.le_refl, GoSlice.take_len_drop_vis, le32_take, hat, Nat.reduceSub, Nat.sub_zero, List.drop_zero]
    rfl
#print axioms V1Session.decodeGo_refines
end Bmc.Wire
