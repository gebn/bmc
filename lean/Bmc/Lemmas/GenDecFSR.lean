import Bmc.Gen.Dec
import Bmc.Lemmas.GenDecLoop
import Bmc.Wire.Sdr
import Bmc.Lemmas.StringsSpec
import Bmc.Lemmas.Packed6Spec
/-! Lemmas identifying the REGENERATED `ipmi.FullSensorRecord.DecodeFromBytes` (with `complement.Twos`, `StringEncoding.Decoder`
    and the three ID-string decoders of `id_string.go`, all in `Bmc/Gen/Dec.lean`) with the hand model `Wire/Sdr.lean`,
    `Prim/Strings.lean`, `Prim/Packed6.lean`. Go strings are their bytes: every rune the decoders produce is below 0x80
    (shown here: `bcdChar_lt`, `char6_lt`), so `string(runes)` (UTF-8) is one byte per rune. -/
namespace Bmc.Lemmas.GenDec
open Bmc Bmc.Gen.Dec

/-- the rune of an ASCII byte -/
def rune (ch : UInt8) : Int32 := Int32.ofNat ch.toNat

theorem utf8_rune : ∀ ch : UInt8, ch < 0x80 → GoDec.utf8Rune (rune ch).toInt = [ch] :=
  forall_uint8 (by decide +kernel)

theorem stringOfRunes_ascii (l : Bytes) (h : ∀ ch ∈ l, ch < 0x80) : GoDec.stringOfRunes (l.map rune) = l := by
  induction l with
  | nil => rfl
  | cons a l ih =>
    rw [List.forall_mem_cons] at h
    have := ih h.2
    rw [GoDec.stringOfRunes] at this ⊢
    rw [List.map_cons, List.flatMap_cons, utf8_rune a h.1, this]
    rfl

theorem twos10 (hi lo : UInt8) : complement_Twos [hi, lo] 10 = Wire.twosGo hi lo 10 := rfl

theorem twos4 (hi lo : UInt8) : complement_Twos [hi, lo] 4 = Wire.twosGo hi lo 4 := rfl

def natRes (p : Bytes × Nat) : Bytes × Int := (p.1, ((p.2 : Nat) : Int))

theorem latin1_eq (b : GoSlice) (c : Nat) :
    (Prim.latin1Go b c).map natRes = ipmi_decode8BitAsciiLatin1 b ((c : Nat) : Int) := by
  unfold ipmi_decode8BitAsciiLatin1 Prim.latin1Go
  have hc : ((((c : Nat) : Int) == ((0 : Nat) : Int)) = true) ↔ c = 0 := by simp
  have hl : (((b.len : Nat) : Int) < ((c : Nat) : Int)) ↔ b.len < c := by omega
  simp only [hc, hl, GoDec.nat_cast, R.bind_ok]
  refine R.map_ite_congr (fun _ => rfl) fun _ => R.map_guard fun _ => R.map_guard fun _ => ?_
  cases b.slice 0 c <;> rfl

theorem bind_fst {α β γ : Type} (x : R (α × β)) (k : α → R γ) : (x >>= fun j => k j.1) = (x.map Prod.fst >>= k) :=
  (R.bind_map x Prod.fst k).symm

/-- `string(runes)` where the runes were stored by a loop whose rounds compute ASCII bytes (`g i`): the bytes -/
theorem runes_string {g : Nat → R UInt8} (hg : ∀ i v, g i = .ok v → v < 0x80) (c n : Nat) :
    (fillM g 0 c >>= fun s => pure (s, n)).map natRes
      = (fillM (fun i => (g i).map rune) 0 c >>= fun rs => pure (GoDec.stringOfRunes rs, ((n : Nat) : Int))) := by
  rw [fillM_map]
  cases hf : fillM g 0 c with
  | ok l => simp only [R.map, R.bind_ok, R.pure_eq, natRes, stringOfRunes_ascii l (fillM_all _ _ hg c 0 l hf)]
  | _ => rfl

theorem bcd_table : ∀ k < 16, GoDec.listIdx ipmi_bcdPlusRunes k = .ok (rune (Spec.bcdPlusTable.getD k 0)) := by decide +kernel

theorem bcd_table_hi (x : UInt8) : GoDec.listIdx ipmi_bcdPlusRunes (((GoDec.shr8 x (4 : UInt8).toNat) &&& (15 : UInt8))).toNat
    = .ok (rune (Spec.bcdPlusTable.getD ((x >>> 4) &&& 0xf).toNat 0)) := bcd_table _ (Nat.lt_succ_of_le (and_toNat_le _ 15))

theorem bcd_table_lo (x : UInt8) : GoDec.listIdx ipmi_bcdPlusRunes (((GoDec.shr8 x (0 : UInt8).toNat) &&& (15 : UInt8))).toNat
    = .ok (rune (Spec.bcdPlusTable.getD (x &&& 0xf).toNat 0)) := by
  have : GoDec.shr8 x (0 : UInt8).toNat = x := by
    show (if 0 < 8 then x >>> UInt8.ofNat 0 else 0) = x
    simp
  rw [this]; exact bcd_table _ (Nat.lt_succ_of_le (and_toNat_le _ 15))
theorem bcd_table_lt : ∀ k, Spec.bcdPlusTable.getD k 0 < 0x80 :=
  getD_of_forall (P := (· < 0x80)) Spec.bcdPlusTable 0 (by decide) (by decide)

theorem bcdChar_lt (b : GoSlice) (i : Nat) (v : UInt8) (h : Prim.bcdChar b i = .ok v) : v < 0x80 := by
  simp only [Prim.bcdChar, R.bind_eq_ok, R.pure_eq, R.ok.injEq] at h
  obtain ⟨x, -, rfl⟩ := h
  exact bcd_table_lt _

theorem bcdPlus_eq (b : GoSlice) (c : Nat) :
    (Prim.bcdPlusGo b c).map natRes = ipmi_decodeBCDPlus b ((c : Nat) : Int) := by
  unfold ipmi_decodeBCDPlus Prim.bcdPlusGo
  have hb : GoDec.floatCeilDiv ((c : Nat) : Int) 2 = (((c + 1) / 2 : Nat) : Int) := by
    unfold GoDec.floatCeilDiv; omega
  have hl : (((b.len : Nat) : Int) < (((c + 1) / 2 : Nat) : Int)) ↔ b.len < (c + 1) / 2 := by omega
  simp only [hb, hl, GoDec.nat_cast, R.bind_ok, Int.toNat_natCast]
  refine R.map_guard fun _ => ?_
  -- a round stores the rune of the model's character
  rw [foldlM_fill (g := fun i => (Prim.bcdChar b i).map rune) fun rs i => ?round, Prim.loopBcd_eq]
  · exact runes_string (bcdChar_lt b) c _
  · unfold Prim.bcdChar
    by_cases h : i % 2 = 0
    · simp only [h, BEq.rfl, if_true, R.pure_eq, R.bind_ok]
      cases b.idx (i / 2) <;> simp only [R.map, R.bind_ok, R.bind_err, R.bind_panic, R.bind_overread, bcd_table_hi]
    · have h' : (i % 2 == 0) = false := by simp [h]
      simp only [h, h', if_false, R.pure_eq, R.bind_ok, Bool.false_eq_true]
      cases b.idx (i / 2) <;> simp only [R.map, R.bind_ok, R.bind_err, R.bind_panic, R.bind_overread, bcd_table_lo]

/-- a 6-bit code is below 64 — a masked byte, a byte shifted down, the low bits of one byte above the high bits of the
    next —, so the character made of it is ASCII -/
theorem code_add_lt (v : UInt8) (h : v.toNat < 64) : v + 0x20 < 0x80 := by
  rw [UInt8.lt_iff_toNat_lt, UInt8.toNat_add]
  show (v.toNat + 32) % 256 < 128
  omega

theorem code_shr (x : UInt8) : (x >>> 2).toNat < 64 := by
  rw [UInt8.toNat_shiftRight]; have := x.toNat_lt; simp [Nat.shiftRight_eq_div_pow]; omega

theorem code_or6 (x y : UInt8) : ((x >>> 6) ||| ((y &&& 0xf) <<< 2)).toNat < 64 := by
  rw [UInt8.toNat_or, UInt8.toNat_shiftRight, UInt8.toNat_shiftLeft, UInt8.toNat_and]
  have := x.toNat_lt
  have : y.toNat &&& 15 ≤ 15 := Nat.and_le_right
  refine Nat.or_lt_two_pow (n := 6) ?_ ?_ <;> simp [Nat.shiftRight_eq_div_pow, Nat.shiftLeft_eq] <;> omega

theorem code_or4 (x y : UInt8) : ((x >>> 4) ||| ((y &&& 0x3) <<< 4)).toNat < 64 := by
  rw [UInt8.toNat_or, UInt8.toNat_shiftRight, UInt8.toNat_shiftLeft, UInt8.toNat_and]
  have := x.toNat_lt
  have : y.toNat &&& 3 ≤ 3 := Nat.and_le_right
  refine Nat.or_lt_two_pow (n := 6) ?_ ?_ <;> simp [Nat.shiftRight_eq_div_pow, Nat.shiftLeft_eq] <;> omega

theorem char6_lt (b : GoSlice) (i : Nat) (v : UInt8) (h : Prim.char6 b i = .ok v) : v < 0x80 := by
  unfold Prim.char6 at h
  simp only [] at h
  repeat' split at h
  all_goals
    simp only [R.bind_eq_ok, R.pure_eq, R.ok.injEq] at h
  · obtain ⟨x, -, rfl⟩ := h; exact code_add_lt _ (Nat.lt_succ_of_le (and_toNat_le x 0x3f))
  · obtain ⟨x, -, y, -, rfl⟩ := h; exact code_add_lt _ (code_or6 x y)
  · obtain ⟨x, -, y, -, rfl⟩ := h; exact code_add_lt _ (code_or4 x y)
  · obtain ⟨x, -, rfl⟩ := h; exact code_add_lt _ (code_shr x)

/-- the start offset as the source computes it, `(i-1) - int(math.Floor(float64(i-1)/4))` -/
theorem off6_int (i : Nat) :
    (((i : Nat) : Int) - ((1 : Nat) : Int)) - GoDec.floatFloorDiv (((i : Nat) : Int) - ((1 : Nat) : Int)) 4
      = ((Prim.off6 i : Nat) : Int) := by
  unfold GoDec.floatFloorDiv Prim.off6
  split <;> omega

theorem packed6_eq (b : GoSlice) (c : Nat) :
    (Prim.decode6Go b c).map natRes = ipmi_decodePacked6BitAscii b ((c : Nat) : Int) := by
  unfold ipmi_decodePacked6BitAscii Prim.decode6Go
  have hb : ((c : Nat) : Int) - Int.tdiv ((c : Nat) : Int) ((4 : Nat) : Int) = ((c - c / 4 : Nat) : Int) := by
    rw [Int.tdiv_eq_ediv_of_nonneg (by omega)]; omega
  have hl : (((b.len : Nat) : Int) < ((c - c / 4 : Nat) : Int)) ↔ b.len < c - c / 4 := by omega
  simp only [hb, hl, GoDec.nat_cast, R.bind_ok, Int.toNat_natCast]
  refine R.map_guard fun _ => ?_
  -- of the loop state (the runes, `acc`) only the runes are used afterwards; a round stores the rune of the model's
  -- character
  rw [bind_fst _ fun rs => pure (GoDec.stringOfRunes rs, _),
    foldlM_view Prod.fst (g := fun rs i => (Prim.char6 b i).map rune >>= fun v => GoDec.setAt rs i v) fun st i => ?round,
    foldlM_fill fun _ _ => rfl, Prim.loop6_eq]
  · exact runes_string (char6_lt b) c _
  · unfold Prim.char6
    have hset : ∀ x : UInt8,
        (GoDec.setAt st.1 i (Int32.ofNat (x + 32).toNat) >>= fun runes => pure (runes, x)).map Prod.fst
          = GoDec.setAt st.1 i (rune (x + 32)) := fun x => by
      unfold rune; cases GoDec.setAt st.1 i _ <;> rfl
    have h4 : i % 4 = 0 ∨ i % 4 = 1 ∨ i % 4 = 2 ∨ i % 4 = 3 := by omega
    rcases h4 with h | h | h | h <;>
      simp only [off6_int, GoDec.nat_cast, GoDec.nat_add, R.bind_ok, h, beq_iff_eq, if_true, if_false,
        Nat.reduceEqDiff]
    -- characters 0 and 3 of a group of four read one byte, characters 1 and 2 two; then the rune is stored
    · cases b.idx (Prim.off6 i) <;> first | rfl | exact hset _
    · cases b.idx (Prim.off6 i) <;> try rfl
      cases b.idx (Prim.off6 i + 1) <;> first | rfl | exact hset _
    · cases b.idx (Prim.off6 i) <;> try rfl
      cases b.idx (Prim.off6 i + 1) <;> first | rfl | exact hset _
    · cases b.idx (Prim.off6 i) <;> first | rfl | exact hset _

theorem idDecoder_eq {γ : Type} (enc : UInt8) (t : GoSlice) (c : Nat) (k : Bytes × Int → R γ) :
    (StringEncoding_Decoder enc >>= fun dec => StringDecoder.Decode dec t ((c : Nat) : Int) >>= k)
      = ((Wire.idDecoder enc t c).map natRes >>= k) := by
  unfold StringEncoding_Decoder ipmi_stringEncodingDecoders Wire.idDecoder
  by_cases h1 : enc = 1
  · subst h1; simp only [StringDecoder.Decode, ← bcdPlus_eq]; rfl
  · by_cases h2 : enc = 2
    · subst h2; simp only [StringDecoder.Decode, ← packed6_eq]; rfl
    · by_cases h0 : enc = 0
      · subst h0; simp only [StringDecoder.Decode, ← latin1_eq]; rfl
      · by_cases h3 : enc = 3
        · subst h3; simp only [StringDecoder.Decode, ← latin1_eq]; rfl
        · -- no entry in the map literal: `Decoder()` returns an error, as the model does
          have e0 : (enc == 0) = false := by simp [h0]
          have e1 : (enc == 1) = false := by simp [h1]
          have e2 : (enc == 2) = false := by simp [h2]
          have e3 : (enc == 3) = false := by simp [h3]
          simp [e0, e1, e2, e3, h0, h1, h2, h3, R.map]

end Bmc.Lemmas.GenDec

namespace Bmc.Gen.Dec
open Bmc

def FullSensorRecord.toModel (g : FullSensorRecord) : Wire.FullSensorRecord :=
  { ownerAddress := g.sensorRecordKey.ownerAddress, channel := g.sensorRecordKey.channel
    ownerLUN := g.sensorRecordKey.ownerLUN, number := g.sensorRecordKey.number
    m := g.conversionFactors.m.toInt, b := g.conversionFactors.b.toInt
    bExp := g.conversionFactors.bExp.toInt, rExp := g.conversionFactors.rExp.toInt
    isContainerEntity := g.isContainerEntity, entity := g.entity, inst := g.instance_, ignore := g.ignore
    sensorType := g.sensorType, outputType := g.outputType, analogDataFormat := g.analogDataFormat, rateUnit := g.rateUnit
    isPercentage := g.isPercentage, baseUnit := g.baseUnit, modifierUnit := g.modifierUnit, linearisation := g.linearisation
    tolerance := g.tolerance, accuracy := g.accuracy.toInt, accuracyExp := g.accuracyExp, direction := g.direction
    nominalReadingSpecified := g.nominalReadingSpecified, normalMinSpecified := g.normalMinSpecified
    normalMaxSpecified := g.normalMaxSpecified, nominalReading := g.nominalReading, normalMin := g.normalMin
    normalMax := g.normalMax, sensorMin := g.sensorMin, sensorMax := g.sensorMax
    identity := g.identity, contents := g.contents, payload := g.payload }

end Bmc.Gen.Dec
