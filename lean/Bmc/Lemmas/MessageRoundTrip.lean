import Bmc.Lemmas.LittleEndian
/-! Round trip of the IPMI message layer (C08). -/
namespace Bmc.Wire
open Bmc Bmc.Prim

/-- a six-bit and a two-bit field packed into one byte (NetFn/LUN, sequence/LUN) come apart again -/
theorem fnlun : ∀ f : Nat, f < 64 → ∀ l : Nat, l < 4 →
    ((UInt8.ofNat f <<< 2) ||| UInt8.ofNat l) >>> 2 = UInt8.ofNat f ∧ ((UInt8.ofNat f <<< 2) ||| UInt8.ofNat l) &&& 3 = UInt8.ofNat l := by
  decide +kernel

theorem group_oem_disjoint (f : UInt8) : isGroup f = true → isOEM f = true → False := by
  revert f; apply forall_uint8; decide +kernel

/-- at most eleven bytes around the data: six, the completion code, three extension bytes, the second checksum -/
theorem Message.encode_length_le (m : Message) (data : Bytes) : (Message.encode m data).2.length ≤ data.length + 11 := by
  simp only [Message.encode, List.length_append, List.length_cons, List.length_nil, apply_ite List.length]
  split <;> split <;> (try split) <;> omega

structure Message.WF (m : Message) : Prop where
  fn : m.function.toNat < 64
  rl : m.remoteLUN.toNat < 4
  ll : m.localLUN.toNat < 4
  seq : m.sequence.toNat < 64
  ent : m.enterprise < 16777216
  body0 : isGroup m.function = false → m.body = 0
  ent0 : isOEM m.function = false → m.enterprise = 0
  cc0 : isRequest m.function = true → m.completionCode = 0

theorem Message.decode_encode (m : Message) (data : Bytes) (h : m.WF) :
    Message.decode 8 (Message.encode m data).2 =
      .ok { (Message.encode m data).1 with
            contents := (Message.encode m data).2.take ((Message.encode m data).2.length - 1 - data.length)
            payload := data } := by
  have e1 := fnlun _ h.fn _ h.rl
  have e2 := fnlun _ h.seq _ h.ll
  simp only [UInt8.ofNat_toNat] at e1 e2
  have hb := h.body0; have he := h.ent0; have hc := h.cc0; have hent := h.ent
  unfold Message.encode Message.decode
  cases hg : isGroup m.function <;> cases ho : isOEM m.function
  case true.true => exact (group_oem_disjoint _ hg ho).elim
  -- the six layouts, each an explicit list in front of `data`: the decoder is run on it
  all_goals
    cases hr : isRequest m.function
    all_goals
      simp only [hr, hg, ho, forall_const, Bool.false_eq_true, false_implies] at hb he hc
      simp +arith [hr, hg, ho, e1, e2, hb, he, hc]
  -- left by the two OEM layouts: the enterprise number read back from its three bytes
  all_goals exact le24_split _ hent
end Bmc.Wire
