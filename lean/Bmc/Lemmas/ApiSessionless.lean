import Bmc.Lemmas.Api
import Bmc.Lemmas.SlResponseAccepted
import Bmc.Lemmas.RequestsPacket
/-! The session-less API call on a conforming response datagram (`Lemmas/SlResponseAccepted.lean`), and what a value it returns
    came from. -/
namespace Bmc.Proto
open Bmc Bmc.Wire Bmc.Crypto

/-- the one datagram a session-less command transmits is the library's session-less packet around the request
    (`Wire/Requests.lean`: the object of the C06 parsing theorems) -/
theorem slSerialize_packet (c : Cmd) :
    (slSerialize c).2 =
      Req.packetSessionless { function := c.fn, body := c.body, enterprise := c.ent, command := c.cmd } c.lun c.req := by
  unfold slSerialize slInit Req.packetSessionless Req.messageLayer Req.rmcpLayer
  simp only [Req.addresses.1, Req.addresses.2]

theorem slCall_response (call : Call) (hreq : call ≠ .setSessionPrivilegeLevel 1) (sid seq : Nat) (cc : UInt8) (body : Bytes)
    (rest : List Outcome) (hsid : sid < 4294967296) (hseq : seq < 4294967296) (hb : body.length ≤ 65000) (hnt : isTemp cc = false) :
    slCall call (.reply (slResponseDatagramWith sid seq call.cmd cc body) :: rest) =
      ([Req.packetSessionless call.wire.operation (call.wire.lun 0) call.cmd.req], call.finish cc body) := by
  have hf : call.cmd.reqFails = false := by
    show (call.cmdFor 0).reqFails = false; rw [cmdFor_reqFails]; simp [hreq]
  have hlen : (responseBytes call.cmd cc body).length < 65536 := by
    have := Message.encode_length_le (responseMsg call.cmd cc) body
    unfold responseBytes; omega
  have hfinal := slClassify_response_with sid seq call.cmd cc body (call_responseMsg_wf call 0 cc) hsid hseq hlen
  rw [hnt] at hfinal
  unfold slCall
  rw [show slSend call.cmd (.reply _ :: rest) = _ from slSend_retries_then_final call.cmd hf [] nofun _ cc body hfinal rest,
    slSerialize_packet]
  rfl

theorem slCall_ok_inv (call : Call) (script : List Outcome) (v : Value) (h : (slCall call script).2 = .ok v) :
    ∃ d msg, Outcome.reply d ∈ script ∧ slView (slOnReply {} (GoSlice.ofBytes d)) = (.message, some msg) ∧
      slAcceptable call.cmd msg = true ∧ msg.completionCode = 0 ∧ call.decodeBody msg.payload = .ok v := by
  obtain ⟨p, hr, hdec⟩ := apiRes_ok_inv call (slSend call.cmd script).2 v h
  obtain ⟨d, msg, hm, hv, hacc, -, hcc, hp⟩ := slSend_ok_inv call.cmd script 0 p hr
  exact ⟨d, msg, hm, hv, hacc, hcc, hp ▸ hdec⟩

end Bmc.Proto
