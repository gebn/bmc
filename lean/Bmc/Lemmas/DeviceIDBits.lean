import Bmc.Spec.DeviceID
import Bmc.Wire.DeviceID
/-! Byte-level facts used by `Proofs/C07/Basic.lean` (finite checks over whole field ranges). -/
namespace Bmc.Lemmas.DeviceID
open Bmc Bmc.Wire

/-- byte 1: device provides SDRs (bit 7), device revision (bits 3:0) -/
theorem b1 : ∀ s : Bool, ∀ r : Nat, r < 16 →
    ((Spec.bit s 7 ||| UInt8.ofNat r) &&& 0x80 != 0) = s ∧ (Spec.bit s 7 ||| UInt8.ofNat r) &&& 0x0f = UInt8.ofNat r := by
  decide +kernel
/-- byte 2: device available (bit 7, 0 = available), major firmware revision (bits 6:0) -/
theorem b2 : ∀ a : Bool, ∀ r : Nat, r < 128 →
    ((Spec.bit (!a) 7 ||| UInt8.ofNat r) &&& 0x80 == 0) = a ∧ (Spec.bit (!a) 7 ||| UInt8.ofNat r) &&& 0x7f = UInt8.ofNat r := by
  decide +kernel
/-- byte 3: minor firmware revision, BCD -/
theorem b3 : ∀ n : Nat, n < 100 → bcdDecode (Spec.bcdByte n) = UInt8.ofNat n := by decide +kernel
end Bmc.Lemmas.DeviceID
