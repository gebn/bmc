import Bmc.Proto.Api
import Bmc.Lemmas.ResponseAccepted
import Bmc.Lemmas.DcmiRefine
import Bmc.Lemmas.SdrRefine
import Bmc.Lemmas.SessRefine
/-! Helper lemmas for the API theorems (Proofs/C07/Api.lean): `SendCommand` + `ValidateResponse` + wrapper as a
    function of (completion code, body); the in-session call on a conforming response datagram. -/
namespace Bmc.Proto
open Bmc Bmc.Wire Bmc.Crypto

theorem R.map_ofExcept_bad {α β : Type} (f : α → β) (e : Except Unit α) : ((R.ofExcept e).map f).bad = false := by
  cases e <;> rfl

theorem decodeBody_safe (call : Call) (body : Bytes) : (call.decodeBody body).bad = false := by
  cases call <;> simp only [Call.decodeBody, R.bad_map]
  case getSystemGUID => exact (GUIDRsp.decodeGo_canon {} _).2
  case getChannelAuthenticationCapabilities => exact (AuthCapsRsp.decodeGo_canon {} _).2
  case getSessionInfo => exact (SessionInfoRsp.decodeGo_canon {} _).2
  case getDeviceID => rw [GetDeviceIDRsp.decodeGo_refines]; exact R.bad_ofExcept _
  case getChassisStatus => exact (GetChassisStatusRsp.decodeGo_canon {} _).2
  case chassisControl | close => rfl
  case getSDRRepositoryInfo => exact (SDRRepoInfoRsp.decodeGo_canon {} _).2
  case reserveSDRRepository => exact (ReserveRsp.decodeGo_canon {} _).2
  case getSensorReading => exact (SensorReadingRsp.decodeGo_canon {} _).2
  case getSessionPrivilegeLevel | setSessionPrivilegeLevel => exact (SetPrivRsp.decodeGo_canon {} _).2
  case getPowerReading => rw [PowerReading.decodeGo_refines]; exact R.bad_ofExcept _
  case getDCMISensorInfo =>
    -- the refinement is stated for the decoder followed by `SensorInfo.view`
    rw [← R.bad_map SensorInfo.view, SensorInfo.decodeGo_refines]; exact R.bad_ofExcept _
  case dcmiSupportedCapabilities => rw [DcmiCap1.decodeGo_refines]; exact R.bad_ofExcept _
  case dcmiMandatoryPlatformAttrs => rw [DcmiCap2.decodeGo_refines]; exact R.bad_ofExcept _
  case dcmiOptionalPlatformAttrs => rw [DcmiCap3.decodeGo_refines]; exact R.bad_ofExcept _
  case dcmiManageabilityAccessAttrs => rw [DcmiCap4.decodeGo_refines]; exact R.bad_ofExcept _
  case dcmiEnhancedSystemPowerStatisticsAttrs => rw [DcmiCap5.decodeGo_refines]; exact R.bad_ofExcept _

/-- `SendCommand` + `ValidateResponse` + wrapper as a function of (completion code, body): the response layer never
    panics, so the outcome is what it makes of the body under code 00h and an error under any other code -/
theorem finish_eq (call : Call) (cc : UInt8) (body : Bytes) :
    call.finish cc body = if cc = 0 then call.decodeBody body else .err := by
  unfold Call.finish
  rcases R.err_or_ok (decodeBody_safe call body) with e | ⟨v, e⟩ <;> rw [e]
  · simp
  · by_cases hc : cc = 0 <;> simp [hc]

theorem apiRes_ok_inv (call : Call) (r : Res) (v : Value) (h : apiRes call r = .ok v) :
    ∃ p, r = .ok 0 p ∧ call.decodeBody p = .ok v := by
  cases r <;> simp only [apiRes, finish_eq, reduceCtorEq] at h
  split at h
  · subst_vars; exact ⟨_, rfl, h⟩
  · cases h

/-- Set Session Privilege Level = Callback is the one request the serialisers refuse -/
theorem cmdFor_reqFails (call : Call) (rid : Nat) :
    (call.cmdFor rid).reqFails = decide (call = .setSessionPrivilegeLevel 1) := by
  cases call <;> simp [Call.cmdFor, Call.body, Req.SetPriv.encode]
  case setSessionPrivilegeLevel l =>
    by_cases h : l = 1
    · subst h; rfl
    · simp [h]

/-- the response message to the command of every call is well-formed (request NetFn even and below 63, LUN 0, the
    group body code only with the group NetFn) -/
theorem wire_wf (w : Req.Cmd) :
    (w.operation.function + 1).toNat < 64 ∧ (w.lun 0).toNat < 4 ∧ w.operation.enterprise < 16777216 ∧
    (isGroup (w.operation.function + 1) = false → w.operation.body = 0) ∧
    (isOEM (w.operation.function + 1) = false → w.operation.enterprise = 0) ∧
    isRequest (w.operation.function + 1) = false := by
  cases w <;> decide

/-- … and so is the request operation itself -/
theorem wire_req_wf (w : Req.Cmd) :
    w.operation.function.toNat < 64 ∧ (w.lun 0).toNat < 4 ∧ w.operation.enterprise < 16777216 ∧
    (isGroup w.operation.function = false → w.operation.body = 0) ∧
    (isOEM w.operation.function = false → w.operation.enterprise = 0) := by
  cases w <;> decide

theorem call_responseMsg_wf (call : Call) (rid : Nat) (cc : UInt8) : (responseMsg (call.cmdFor rid) cc).WF := by
  obtain ⟨h1, h2, h3, h4, h5, h6⟩ := wire_wf call.wire
  refine ⟨h1, by show (0 : UInt8).toNat < 4; decide, h2, by show (1 : UInt8).toNat < 64; decide, h3, h4, h5, fun h => ?_⟩
  have h' : isRequest (call.wire.operation.function + 1) = true := h
  rw [h6] at h'
  exact absurd h' (by decide)

theorem sessCall_response (C : Ops) (hC : C.Lawful) (call : Call) (hreq : call ≠ .setSessionPrivilegeLevel 1) (s : Sess)
    (iv : Bytes) (ivs : List Bytes) (cc : UInt8) (body : Bytes) (seq : Nat) (riv : Bytes) (rest : List Outcome)
    (hriv : riv.length = 16) (hid : s.localID < 4294967296) (hseq : seq < 4294967296)
    (hlen : (responseAes C s.keys (call.cmdFor s.remoteID) cc body riv).length < 65536) (hnt : isTemp cc = false) :
    (sessCall C s call (iv :: ivs)
        (.reply (responseDatagram C s.keys (call.cmdFor s.remoteID) cc body seq riv) :: rest)).2 =
      ([datagramOf C s.keys (call.cmdFor s.remoteID) s.inbound iv], call.finish cc body) := by
  have hf : (call.cmdFor s.remoteID).reqFails = false := by rw [cmdFor_reqFails]; simp [hreq]
  unfold sessCall send
  rw [sendLoop_reply C _ hf,
    classify_response C hC s.keys _ cc body seq riv hriv (call_responseMsg_wf call s.remoteID cc) hid hseq hlen, hnt]
  simp only [Bool.false_eq_true, if_false, attempt_init_eq, apiRes]

theorem sessCall_refused (C : Ops) (s : Sess) (ivs : List Bytes) (script : List Outcome) :
    (sessCall C s (.setSessionPrivilegeLevel 1) ivs script).2 = ([], .err) := by
  obtain ⟨h1, -, -, h4⟩ := sendLoop_unserialisable C (Call.cmdFor s.remoteID (.setSessionPrivilegeLevel 1))
    (by rw [cmdFor_reqFails]; rfl) s ivs script
  refine Prod.ext h1 ?_
  show apiRes _ (sendLoop C _ s ivs script).2.2 = .err
  rcases h4 with h | h <;> rw [h] <;> rfl

theorem sessCall_ok_inv (C : Ops) (call : Call) (s : Sess) (hs : s.inbound < 4294967296) (ivs : List Bytes)
    (script : List Outcome) (hl : script.length ≤ ivs.length) (v : Value)
    (h : (sessCall C s call ivs script).2.2 = .ok v) :
    ∃ d v2 msg, Outcome.reply d ∈ script ∧
      view (onReply C s.keys.sess (GoSlice.ofBytes d)) = (.message, some (v2, msg)) ∧
      accept s.keys (call.cmdFor s.remoteID) v2 msg = true ∧
      msg.completionCode = 0 ∧ call.decodeBody msg.payload = .ok v := by
  by_cases hreq : call = .setSessionPrivilegeLevel 1
  · rw [hreq, sessCall_refused] at h; cases h
  · have hf : (call.cmdFor s.remoteID).reqFails = false := by rw [cmdFor_reqFails]; simp [hreq]
    obtain ⟨p, hr, hdec⟩ := apiRes_ok_inv call _ v h
    obtain ⟨d, v2, msg, hm, hv, hacc, -, hcc, hp⟩ := sendLoop_ok_inv C _ hf s hs ivs script hl 0 p hr
    exact ⟨d, v2, msg, hm, hv, hacc, hcc, hp ▸ hdec⟩

/-- the AES-CBC encapsulation (IV + padded ciphertext) of a message of at most 65400 bytes fits the wrapper's 16-bit
    length field -/
theorem aesEncode_fits (C : Ops) (hC : C.Lawful) (key iv msg : Bytes) (hiv : iv.length = 16) (hm : msg.length ≤ 65400) :
    (AESLayer.encode C key iv msg).length < 65536 := by
  generalize hpt0 : msg ++ confPad (padLen msg.length) = pt
  have hlen : pt.length = msg.length + (15 - msg.length % 16) + 1 := by
    rw [← hpt0]; simp only [List.length_append, confPad_len, padLen]; omega
  have hpt : pt.length = 16 * (pt.length / 16) := by omega
  have e : AESLayer.encode C key iv msg = iv ++ cbcEnc C key (pt.length / 16) iv pt := by
    unfold AESLayer.encode; simp only [hpt0]
  rw [e, List.length_append, hiv, cbcEnc_len C hC key _ iv _ hiv hpt]
  omega

theorem responseAes_fits (C : Ops) (hC : C.Lawful) (k : Keys) (c : Cmd) (cc : UInt8) (body riv : Bytes)
    (hriv : riv.length = 16) (hb : body.length ≤ 65000) : (responseAes C k c cc body riv).length < 65536 := by
  have hm := Message.encode_length_le (responseMsg c cc) body
  exact aesEncode_fits C hC k.k2 riv _ hriv (by unfold responseBytes; omega)

end Bmc.Proto
