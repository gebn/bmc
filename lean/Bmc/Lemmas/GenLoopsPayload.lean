import Bmc.Lemmas.GenLoopsScript
import Bmc.Proto.Handshake
/-! The regenerated `V2Sessionless.buildAndSendPayload` (`Gen/Loops.lean`) instantiated with the pieces of the hand model of the
    session-setup exchanges (`Proto/Handshake.lean`): `gopacket.SerializeLayers` := the model's encoders (null session wrapper
    around the payload bytes, RMCP — what `setupDatagram` composes) on the field values the layer structs hold; the connection's
    decoder := the model's `payloadReply`; the transport := the outcome script. -/
namespace Bmc.Lemmas.GenLoops
open Bmc Bmc.Wire Bmc.Crypto Bmc.Proto Bmc.GoOrch Bmc.GoLoops Bmc.Gen.Loops

def plSerLayers (payload : Bytes) (L : Layers) : Layers :=
  { L with v2Session := v2Of (V2Session.encode (fun _ => []) (v2To L.v2Session) payload).1
                          L.v2Session.integrityAlgorithm L.v2Session.confidentialityLayerType }
def plSerBytes (payload : Bytes) (L : Layers) : Bytes :=
  RMCP.encode (rmcpTo L.rmcp) ++ (V2Session.encode (fun _ => []) (v2To L.v2Session) payload).2

/-- `gopacket.SerializeLayers(buffer, serializeOptions, &rmcp, &v2session, p.Request())`: `payload` = what the request layer
    of the payload serialises to, `fails` = it returns an error -/
def plSerialize (payload : Bytes) (fails : Bool) (w : SW) (o : SerializeOptions) (L : Layers) (args : List LayerArg) :
    SW × Layers × Bytes × Bool :=
  if o = { fixLengths := true, computeChecksums := true } ∧ args = [.rmcp, .v2Session, .iface 4] ∧
     L.v2Session.integrityAlgorithm = 0 ∧ fails = false then
    (w, plSerLayers payload L, plSerBytes payload L, true)
  else (w, L, [], false)

/-- the connection's decoder as the model's `payloadReply`: a panic; or the innermost layer is not the session wrapper (an error
    or a chain that went further — the model does not tell them apart: both are retried); or the wrapper's payload. The tags of
    `Proto.Decoded` (the in-session type) are reused for "which layer is innermost": here `.message` stands for the session wrapper,
    the layer this loop asks for (`plWorld.innermostEquals`), and `.notMessage` for anything else -/
def plDecode (L : Layers) (_t : Decoded) (d : Bytes) : Layers × Decoded × DecodeOutcome :=
  match payloadReply (GoSlice.ofBytes d) with
  | .crash => (L, .crash, .panic)
  | .retry => (L, .notMessage, .ok)
  | .got p => ({ L with v2Session := { L.v2Session with payload := p.vis } }, .message, .ok)

def plWorld (payload : Bytes) (fails : Bool) (bodyDecodes : Bytes → Bool) : World SW Decoded :=
  { serializeLayers := plSerialize payload fails
    transportSend := SW.send
    decode := plDecode
    innermostEquals := fun t ty => t == .message && ty == .ipmi_LayerTypeV2Session
    backoffWait := SW.wait
    decodeFromBytes := fun _ p => bodyDecodes p }

/-- the payload as the getters of `ipmi.Payload` present it -/
def plOf (ptype : UInt8) (rsp : Opaque) : ipmi_Payload :=
  { descriptor := { payloadType := ptype }, request := 4, response := rsp }

theorem plLit_bytes (ptype : UInt8) (rsp : Opaque) (payload : Bytes) (L : Layers) :
    plSerBytes payload (plLit (plOf ptype rsp) L) = setupDatagram ptype payload := rfl

theorem plSerialize_lit (payload : Bytes) (f : Bool) (bd : Bytes → Bool) (ptype : UInt8) (rsp : Opaque) (w : SW) (L : Layers) :
    (plWorld payload f bd).serializeLayers w bmc_serializeOptions (plLit (plOf ptype rsp) L) [.rmcp, .v2Session, .iface (plOf ptype rsp).request]
      = if f = false then (w, plSerLayers payload (plLit (plOf ptype rsp) L), plSerBytes payload (plLit (plOf ptype rsp) L), true)
        else (w, plLit (plOf ptype rsp) L, [], false) := by
  show plSerialize payload f w _ _ _ = _
  unfold plSerialize
  cases f
  · exact if_pos ⟨rfl, rfl, rfl, rfl⟩
  · exact if_neg fun h => nomatch h.2.2.2

theorem plInnermost_notMessage (payload : Bytes) (f : Bool) (bd : Bytes → Bool) :
    innermostEquals (plWorld payload f bd) Decoded.notMessage LayerTy.ipmi_LayerTypeV2Session = some GoErr.innermost := rfl
theorem plInnermost_message (payload : Bytes) (f : Bool) (bd : Bytes → Bool) :
    innermostEquals (plWorld payload f bd) Decoded.message LayerTy.ipmi_LayerTypeV2Session = none := rfl

theorem pl_usesOne (payload : Bytes) (f : Bool) (bd : Bytes → Bool) :
    UsesOne (V2Sessionless_buildAndSendPayload_func1 (plWorld payload f bd)) := by
  intro b w k b' e s' h
  rw [plFunc1_eq] at h
  rw [← show _ = s' from congrArg Prod.snd h]
  exact recv_allowed _ rfl _ _ _ _ (fun _ => rfl) _ _

section run
variable (payload : Bytes) (f : Bool) (bd : Bytes → Bool)

theorem pl_run (w : SW) (K : Conn Decoded) :
    V2Sessionless_buildAndSendPayload_func1 (plWorld payload f bd) () (w, K) =
      match w.script with
      | [] => (.ok ((), some .transport), { w with expired := true }, K)
      | .lost :: tl => (.ok ((), some .transport), { w with script := tl, sent := w.sent ++ [K.buffer] }, K)
      | .reply d :: tl =>
        (match payloadReply (GoSlice.ofBytes d) with
         | .crash => .panic
         | .retry => .ok ((), some .innermost)
         | .got _ => .ok ((), none),
         { w with script := tl, sent := w.sent ++ [K.buffer] }, afterDecode (plWorld payload f bd) d K) := by
  rw [plFunc1_eq, recv_script _ rfl]
  rcases w.script with _ | ⟨_ | d, tl⟩
  · rfl
  · rfl
  · have hW : (plWorld payload f bd).decode K.layers K.decoded d = plDecode K.layers K.decoded d := rfl
    simp only [afterReply, afterDecode, hW]
    unfold plDecode
    cases payloadReply (GoSlice.ofBytes d) <;> rfl

/-- the outcome of the translated payload loop against the model's -/
def PlOk (r : RF (Unit × Option GoErr) × SW × Conn Decoded) : Option PayloadReply → Prop
  | none => r.1 = .ok ((), some .ctx)
  | some .crash => r.1 = .panic
  | some (.got p) => r.1 = .ok ((), none) ∧ r.2.2.layers.v2Session.payload = p.vis
  | some .retry => False

/-- **THE LOOP (session setup)**: the serialised datagram is handed to the transport once per attempt until a reply decodes down to
    the session wrapper, as `Proto.exchange` says -/
theorem pl_runs : ∀ (script : List Outcome) (ivs sent0 : List Bytes) (K : Conn Decoded),
    let r := runs (V2Sessionless_buildAndSendPayload_func1 (plWorld payload f bd)) script.length ()
              ({ ivs := ivs, script := script, sent := sent0, inSend := false, expired := false }, K)
    let m := exchange script
    r.2.1.sent = sent0 ++ List.replicate m.1 K.buffer ∧ r.2.2.inbound = K.inbound ∧ r.2.2.buffer = K.buffer ∧
    r.2.2.events = K.events ∧ PlOk r m.2 := by
  intro script
  induction script with
  | nil => intro ivs sent0 K; simp [runs_zero, exchange, PlOk]
  | cons o rest ih =>
    intro ivs sent0 K
    rw [List.length_cons, runs, pl_run]
    cases o with
    | lost =>
      obtain ⟨a1, a2, a3, a4, a5⟩ := ih ivs (sent0 ++ [K.buffer]) K
      exact ⟨by rw [a1]; simp [exchange, List.replicate_succ], a2, a3, a4, a5⟩
    | reply d =>
      dsimp only
      simp only [exchange]
      cases hp : payloadReply (GoSlice.ofBytes d) with
      | crash => exact ⟨by simp, rfl, rfl, by simp [afterDecode], rfl⟩
      | got p => exact ⟨by simp, rfl, rfl, by simp [afterDecode], rfl, by simp [afterDecode, plWorld, plDecode, hp]⟩
      | retry =>
        obtain ⟨a1, a2, a3, a4, a5⟩ := ih ivs (sent0 ++ [K.buffer]) (afterDecode (plWorld payload f bd) d K)
        exact ⟨by rw [a1]; simp [List.replicate_succ, afterDecode], a2, a3, by rw [a4]; simp [afterDecode], a5⟩

end run
end Bmc.Lemmas.GenLoops
