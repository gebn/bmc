import Bmc.Wire.Message
namespace Bmc.Wire
open Bmc Bmc.Prim

theorem Message.decode_ok {minRsp : Nat} {b : Bytes} {m : Message} (h : Message.decode minRsp b = .ok m) :
    7 ≤ b.length ∧ b.getD 2 0 = checksum (b.take 2) ∧
    b.getD (b.length - 1) 0 = checksum ((b.drop 3).take (b.length - 1 - 3)) ∧
    (isRequest m.function = false → minRsp ≤ b.length) ∧ m.enterprise < 16777216 := by
  simp only [Message.decode, Except.ite_error_eq_ok, Except.ok.injEq] at h
  obtain ⟨h7, h1, h2, h8, -, -, rfl⟩ := h
  refine ⟨Nat.le_of_not_lt h7, by simpa using h1, by simpa using h2, fun hr => ?_, ?_⟩
  · rw [show isRequest (List.getD b 1 0 >>> 2) = false from hr] at h8
    simpa using h8
  · dsimp only
    split
    · exact le24_lt _ _ _
    · omega

/-- the length guard of `decodeSpecialNetFns` asks for the bytes it consumes: a group body code (one), an OEM enterprise
    number (three), or nothing -/
theorem Message.specialGo_eq (fn : UInt8) (s : GoSlice) :
    Message.specialGo fn s =
      if s.len < (if isGroup fn then 1 else if isOEM fn then 3 else 0) then .err else
        .ok (if isGroup fn then s.vis.getD 0 0 else 0,
          if !isGroup fn && isOEM fn then
            (s.vis.getD 0 0).toNat + 256 * (s.vis.getD 1 0).toNat + 65536 * (s.vis.getD 2 0).toNat else 0,
          if isGroup fn then 1 else if isOEM fn then 3 else 0) := by
  unfold Message.specialGo
  cases isGroup fn <;> cases isOEM fn <;>
    simp only [Bool.false_eq_true, if_false, if_true, Bool.not_false, Bool.not_true, Bool.true_and, Bool.false_and]
  · rfl
  · split
    · rfl
    · rw [GoSlice.idx_ok _ 0 (by omega), GoSlice.idx_ok _ 1 (by omega), GoSlice.idx_ok _ 2 (by omega)]; rfl
  all_goals
    split
    · rfl
    · rw [GoSlice.idx_ok _ _ (by omega)]; rfl

/-- the reference decoder's two guards on the data header are that one -/
theorem Message.special_guards {α : Type} (fn : UInt8) (n : Nat) (x : Except Unit α) :
    (if isGroup fn && n < 1 then .error () else if !isGroup fn && isOEM fn && n < 3 then .error () else x) =
      if n < (if isGroup fn then 1 else if isOEM fn then 3 else 0) then .error () else x := by
  cases isGroup fn <;> cases isOEM fn <;> simp

theorem Message.decodeGo_refines (prev : Message) (d : GoSlice) :
    Message.decodeGo 8 prev d = R.ofExcept (Message.decode 8 d.vis) := by
  unfold Message.decodeGo Message.decode
  simp only [GoSlice.vis_length, Message.specialGo_eq]
  refine R.guard_ofExcept fun h7 => ?_
  have h7' : 7 ≤ d.len := Nat.le_of_not_lt h7
  simp only [GoSlice.idx_of_le h7', GoSlice.slice_of_le h7', R.bind_ok, Nat.reduceLT, Nat.reduceLeDiff,
    GoSlice.sub_vis, Nat.sub_zero, List.drop_zero]
  refine R.guard_ofExcept fun _ => ?_
  rw [GoSlice.idx_ok d (d.len - 1) (by omega), GoSlice.slice_ok d 3 (d.len - 1) (by omega) (by omega)]
  simp only [R.bind_ok, GoSlice.sub_vis]
  refine R.guard_ofExcept fun _ => ?_
  generalize List.getD d.vis 1 0 >>> 2 = fn
  refine R.guard_ofExcept fun h8 => ?_
  -- the data header starts after the command on requests, after the completion code on responses (8 bytes at least), and
  -- is `k` bytes long; from here on both are variables, so that all cases share the rest
  have hs : (if isRequest fn = true then 6 else 7) ≤ d.len - 1 := by
    cases hreq : isRequest fn <;> simp [hreq] at h8 ⊢ <;> omega
  generalize (if isRequest fn = true then 6 else 7) = start at hs ⊢
  rw [GoSlice.slice_ok d start (d.len - 1) hs (by omega), Message.special_guards]
  simp only [R.bind_ok, R.pure_eq, GoSlice.sub_len, GoSlice.sub_vis, List.length_take, List.length_drop, GoSlice.vis_length]
  rw [Nat.min_eq_left (by omega)]
  generalize (if isGroup fn = true then 1 else if isOEM fn = true then 3 else 0) = k
  cases isRequest fn <;> simp only [Bool.false_eq_true, if_false, if_true, R.ite_bind, R.bind_err, R.bind_ok]
  all_goals
    -- with the data header all there, the two slices around it are legal
    refine R.guard_ofExcept fun hk => ?_
    rw [GoSlice.slice_ok d 0 _ (Nat.zero_le _) (by omega), GoSlice.slice_ok d _ (d.len - 1) (by omega) (by omega)]
    simp only [R.bind_ok, GoSlice.sub_vis, Nat.sub_zero, List.drop_zero]
    rfl
#print axioms Message.decodeGo_refines

theorem Message.decodeGo_eq_ok {prev m : Message} {d : GoSlice} :
    Message.decodeGo 8 prev d = .ok m ↔ Message.decode 8 d.vis = .ok m := by
  rw [Message.decodeGo_refines, R.ofExcept_eq_ok]

