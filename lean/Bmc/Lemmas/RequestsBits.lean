import Bmc.Wire.Requests
import Bmc.Spec.Requests
import Bmc.Lemmas.StringsSpec
import Bmc.Lemmas.LittleEndian
import Bmc.Lemmas.MessageRoundTrip
/-! Byte-level facts under the C06 theorems: what the reference request parser (`Spec.Req`) reads out of the bytes that the
    serialisers' masks, shifts, little-endian writers and checksum produce. -/
namespace Bmc.Wire.Req
open Bmc Bmc.Wire Bmc.Prim

theorem rd32_le (n : Nat) (h : n < 4294967296) :
    Spec.Req.rd32 (UInt8.ofNat (n % 256)) (UInt8.ofNat (n / 256 % 256)) (UInt8.ofNat (n / 65536 % 256))
      (UInt8.ofNat (n / 16777216 % 256)) = n :=
  le32_putLE32 n h []

theorem rd16_le (n : Nat) (h : n < 65536) :
    Spec.Req.rd16 (UInt8.ofNat (n % 256)) (UInt8.ofNat (n / 256 % 256)) = n :=
  le16_putLE16 n h []

theorem sum8_checksum (bs : Bytes) : Spec.Req.sum8 (bs ++ [checksum bs]) = 0 := by
  simp [Spec.Req.sum8, checksum, List.foldl_append, UInt8.add_right_neg]

/-- first byte of Get Channel Authentication Capabilities -/
theorem authcaps_bits : ∀ c : UInt8, c.toNat < 16 → ∀ ext : Bool,
    (if ext then c ||| 0x80 else c).toNat / 16 % 8 = 0 ∧
    decide ((if ext then c ||| 0x80 else c).toNat / 128 = 1) = ext ∧
    (if ext then c ||| 0x80 else c).toNat % 16 = c.toNat := by
  apply forall_uint8; decide +kernel

/-- the masks `& 0x0f` (channel, privilege level), `& 0x3f` (payload type) and `1<<7 | x&0x3f` (list index) -/
theorem mask_bits : ∀ c : UInt8,
    ((c &&& 0x0f).toNat / 16 = 0 ∧ (c.toNat < 16 → (c &&& 0x0f).toNat % 16 = c.toNat)) ∧
    ((c &&& 0x3f).toNat / 64 = 0 ∧ (c.toNat < 64 → (c &&& 0x3f).toNat % 64 = c.toNat)) ∧
    ((0x80 ||| (c &&& 0x3f)).toNat / 64 % 2 = 0 ∧ (0x80 ||| (c &&& 0x3f)).toNat / 128 = 1 ∧
      (c.toNat < 64 → (0x80 ||| (c &&& 0x3f)).toNat % 64 = c.toNat)) := by
  apply forall_uint8; decide +kernel

/-- the role byte of RAKP Message 1 -/
theorem role_bits : ∀ p : UInt8, p.toNat < 16 → ∀ lookup : Bool,
    ((p &&& 0xF) ||| (if lookup then 0 else 0x10)).toNat / 32 = 0 ∧
    decide (((p &&& 0xF) ||| (if lookup then 0 else 0x10)).toNat / 16 % 2 = 1) = !lookup ∧
    ((p &&& 0xF) ||| (if lookup then 0 else 0x10)).toNat % 16 = p.toNat := by
  apply forall_uint8; decide +kernel

/-- NetFn/LUN and rqSeq/LUN bytes: the serialiser's shift-and-or is the table's "bits 7:2 / bits 1:0" (`fnlun`, read as numbers) -/
theorem fnlun_nat (f l : UInt8) (hf : f.toNat < 64) (hl : l.toNat < 4) :
    ((f <<< 2) ||| l).toNat / 4 = f.toNat ∧ ((f <<< 2) ||| l).toNat % 4 = l.toNat := by
  have h := fnlun _ hf _ hl
  simp only [UInt8.ofNat_toNat] at h
  have h1 := congrArg UInt8.toNat h.1
  have h2 := congrArg UInt8.toNat h.2
  rw [UInt8.toNat_shiftRight, Nat.shiftRight_eq_div_pow] at h1
  rw [UInt8.toNat_and, show (3 : UInt8).toNat = 2 ^ 2 - 1 from rfl, Nat.and_two_pow_sub_one_eq_mod] at h2
  exact ⟨h1, h2⟩

theorem parseAlg_encode (typ : UInt8) (wild : Bool) (a : UInt8) (ha : wild = false → a.toNat < 64) :
    Spec.Req.parseAlg typ (algPayload typ wild a) = some (if wild then none else some a.toNat) := by
  cases wild
  · have h := ha rfl
    have e1 : a.toNat / 64 = 0 := by omega
    have e2 : a.toNat % 64 = a.toNat := by omega
    simp [algPayload, Spec.Req.parseAlg, e1, e2]
  · simp [algPayload, Spec.Req.parseAlg]

theorem algPayload_length (typ : UInt8) (w : Bool) (a : UInt8) : (algPayload typ w a).length = 8 := by
  cases w <;> rfl

theorem rollingByte_lt (s : Nat) : Spec.rollingByte s < 256 := by
  unfold Spec.rollingByte; split <;> (try split) <;> (try split) <;> omega

theorem rollingByteNs_toNat (ns : Int) (h : 0 ≤ ns) :
    (rollingByteNs ns).toNat = Spec.rollingByte (ns.toNat / 1000000000) := by
  have hb := rollingByte_lt (ns.toNat / 1000000000)
  simp [rollingByteNs, h, rollingByteGo_spec]; omega

end Bmc.Wire.Req
