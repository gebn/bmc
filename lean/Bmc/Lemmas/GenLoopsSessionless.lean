import Bmc.Lemmas.GenLoops
import Bmc.Lemmas.SessionlessSpec
import Bmc.Lemmas.GenLoopsBounds
import Bmc.Lemmas.GenLoopsScript
/-! The regenerated `V2Sessionless.buildAndSendCommand` (`Gen/Loops.lean`) instantiated with the pieces of the hand model of the
    session-less send loop (`Proto/Sessionless.lean`): `gopacket.SerializeLayers` := the model's encoders (what `slSerialize`
    composes: message, null session wrapper without integrity algorithm, RMCP) on the field values the layer structs hold;
    the connection's decoder := the view of `slOnReply`; the transport := the outcome script. -/
namespace Bmc.Lemmas.GenLoops
open Bmc Bmc.Wire Bmc.Crypto Bmc.Proto Bmc.GoOrch Bmc.GoLoops Bmc.Gen.Loops

def slSerLayers (c : Cmd) (L : Layers) : Layers :=
  let mm := Message.encode (msgTo L.message) c.req
  let vv := V2Session.encode (fun _ => []) (v2To L.v2Session) mm.2
  { L with message := msgOf mm.1, v2Session := v2Of vv.1 L.v2Session.integrityAlgorithm L.v2Session.confidentialityLayerType }
def slSerBytes (c : Cmd) (L : Layers) : Bytes :=
  let mm := Message.encode (msgTo L.message) c.req
  let vv := V2Session.encode (fun _ => []) (v2To L.v2Session) mm.2
  RMCP.encode (rmcpTo L.rmcp) ++ vv.2

/-- `gopacket.SerializeLayers(buffer, serializeOptions, &rmcp, &v2session, &message, request)`: an error unless these are the
    layers, in this order, the wrapper has no integrity algorithm, the options are the library's and the request serialises -/
def slSerialize' (c : Cmd) (w : SW) (o : SerializeOptions) (L : Layers) (args : List LayerArg) : SW × Layers × Bytes × Bool :=
  if o = { fixLengths := true, computeChecksums := true } ∧ args = [.rmcp, .v2Session, .message, .iface 4] ∧
     L.v2Session.integrityAlgorithm = 0 ∧ c.reqFails = false then
    (w, slSerLayers c L, slSerBytes c L, true)
  else (w, L, [], false)

def slDecode (L : Layers) (_t : Decoded) (d : Bytes) : Layers × Decoded × DecodeOutcome :=
  match slView (slOnReply {} (GoSlice.ofBytes d)) with
  | (.crash, _) => (L, .crash, .panic)
  | (.fail, _) => (L, .fail, .err)
  | (.message, some msg) => ({ L with message := msgOf msg }, .message, .ok)
  | _ => (L, .notMessage, .ok)

def slWorld (c : Cmd) (bodyDecodes : Bytes → Bool) : World SW Decoded :=
  { serializeLayers := slSerialize' c
    transportSend := SW.send
    decode := slDecode
    innermostEquals := fun t ty => t == .message && ty == .ipmi_LayerTypeMessage
    backoffWait := SW.wait
    decodeFromBytes := fun _ p => bodyDecodes p }

theorem slSerialize_lit (c : Cmd) (bd : Bytes → Bool) (name : String) (rsp : Opaque) (w : SW) :
    (slWorld c bd).serializeLayers w bmc_serializeOptions (slLit (cmdOf c name rsp))
        [.rmcp, .v2Session, .message, bmc_serializableLayerOrEmpty (cmdOf c name rsp).request]
      = if c.reqFails = false then (w, slSerLayers c (slLit (cmdOf c name rsp)), slSerBytes c (slLit (cmdOf c name rsp)), true)
        else (w, slLit (cmdOf c name rsp), [], false) := by
  show slSerialize' c w _ _ _ = _
  unfold slSerialize'
  cases c.reqFails
  · exact if_pos ⟨rfl, rfl, rfl, rfl⟩
  · exact if_neg fun h => nomatch h.2.2.2

theorem slLit_bytes (c : Cmd) (name : String) (rsp : Opaque) (hc : c.ent < 4294967296) :
    slSerBytes c (slLit (cmdOf c name rsp)) = (slSerialize c).2 := by
  unfold slSerBytes slSerialize
  rw [show (slLit (cmdOf c name rsp)).message = litMessage (cmdOf c name rsp) from rfl, msgTo_litMessage c name rsp hc]
  rfl

theorem slInnermost_notMessage (c : Cmd) (bd : Bytes → Bool) :
    innermostEquals (slWorld c bd) Decoded.notMessage LayerTy.ipmi_LayerTypeMessage = some GoErr.innermost := rfl
theorem slInnermost_message (c : Cmd) (bd : Bytes → Bool) :
    innermostEquals (slWorld c bd) Decoded.message LayerTy.ipmi_LayerTypeMessage = none := rfl

theorem sl_usesOne (c : Cmd) (bd : Bytes → Bool) (name : String) (rsp : Opaque) : UsesOne (V2Sessionless_buildAndSendCommand_func1 (slWorld c bd) (cmdOf c name rsp)) := by
  intro b w k b' e s' h
  rw [slFunc1_eq] at h
  rw [← show _ = s' from congrArg Prod.snd h]
  exact recv_allowed _ rfl _ _ _ _ (accepted_world _ _) _ _

end Bmc.Lemmas.GenLoops
