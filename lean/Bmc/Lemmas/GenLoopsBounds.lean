import Bmc.Lemmas.GenLoops
import Bmc.Lemmas.MessageRefine
/-! What the wrapper and message decoders produce fits the fixed-width fields of the regenerated structures. (Shared by the
    in-session and the session-less instantiations; nothing here mentions a translated function.) -/
namespace Bmc.Lemmas.GenLoops
open Bmc Bmc.Wire Bmc.Crypto Bmc.Proto Bmc.GoOrch Bmc.GoLoops Bmc.Gen.Loops

theorem msg_decode_ent_lt (b : Bytes) (m : Message) (h : Message.decode 8 b = .ok m) : m.enterprise < 4294967296 :=
  Nat.lt_trans (Message.decode_ok h).2.2.2.2 (by decide)

theorem v2_decode_id_lt (mac : Bytes → Bytes) (b : Bytes) (v : V2Session) (h : V2Session.decode mac b = .ok v) : v.id < 4294967296 := by
  obtain ⟨⟨off, e⟩, -⟩ := V2Session.decode_ok h
  rw [e]; exact le32_lt _

end Bmc.Lemmas.GenLoops
