import Bmc.Gen.Orch
import Bmc.Lemmas.GenOrch
import Bmc.Lemmas.EnumPaging
import Bmc.Lemmas.EnumSound
/-! Helper definitions and lemmas for `Proofs/GenOrch/*` (cipher suites) that do not depend on the BODIES of the regenerated
    functions: how a typed BMC is turned into the answer function the regenerated definitions take and into the hand model's
    `page` (`Proto/Enum.lean`); the hand model never panics. -/
namespace Bmc.Lemmas.GenOrchSuites
open Bmc Bmc.GoOrch Bmc.Gen.Orch Bmc.Proto.Enum

/-- a BMC as the TYPES of the code see it: request struct ↦ response struct, `none` = `ValidateResponse` gave an error -/
abbrev TBmc := GetChannelCipherSuitesReq → Option GetChannelCipherSuitesRsp
abbrev Junk := List GetChannelCipherSuitesReq → GetChannelCipherSuitesReq → GetChannelCipherSuitesRsp
abbrev St := List GetChannelCipherSuitesReq × GetChannelCipherSuitesCmd

/-- the answer function of such a BMC, keeping the log of the request structs; `junk` = what the response struct holds
    after a FAILED command (anything) -/
def ansOf (b : TBmc) (junk : Junk) :
    List GetChannelCipherSuitesReq → GetChannelCipherSuitesReq → List GetChannelCipherSuitesReq × GetChannelCipherSuitesRsp × Bool :=
  fun log q => (log ++ [q], (b q).getD (junk log q), (b q).isSome)

/-- the hand model's BMC (list index AS SERIALISED ↦ chunk) for the channel / payload type of the code's literal -/
def pageOf (b : TBmc) : Nat → Option Bytes := fun w =>
  (b { channel := 14, payloadType := 0, listIndex := UInt8.ofNat w }).map (·.cipherSuiteRecordsChunk)

/-- the list index as it goes out on the wire -/
def viewReq (q : GetChannelCipherSuitesReq) : Nat := q.listIndex.toNat % 64

theorem retrieve_safe (page : Nat → Option Bytes) : (retrieveSupportedCipherSuites page).2.bad = false := by
  unfold retrieveSupportedCipherSuites retrieveSupportedCipherSuitesL retrieveChunksL
  rcases R.err_or_ok (Lemmas.Enum.retrieveLoop_safe 63 page 64 0 []) with h | ⟨d, h⟩
  · simp only [h]; rfl
  · simp only [h, R.bind_ok]
    rcases Lemmas.Enum.parseRecords_spec d with h | ⟨_, _, _, h⟩ <;> rw [h] <;> rfl

end Bmc.Lemmas.GenOrchSuites
