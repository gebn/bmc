import Bmc.Basic.GoDec
/-! Loop lemmas for the REGENERATED decoders (`Bmc/Gen/Dec.lean`): a counting loop that fills `make([]T, n)` element by
    element (`List.foldlM` with `GoDec.setAt`) is the list of the values computed, in order (`fillM`); `GoDec.loopM` unfolding.
    The loop bodies are the translator's anonymous functions: a lemma about a loop takes what the body computes as a
    hypothesis about a variable `f` / `step` (often `rfl` at the call), and a loop with fuel is handed over by
    `generalize hF : GoDec.loopM _ _ _ = F`, so that the body's text is not repeated. -/
namespace Bmc.Lemmas.GenDec
open Bmc

theorem R.bind_assoc' {α β γ : Type} (x : R α) (f : α → R β) (g : β → R γ) :
    ((x >>= f) >>= g) = (x >>= fun a => f a >>= g) := bind_assoc x f g

theorem foldlM_view {σ τ ι : Type} {f : σ → ι → R σ} {g : τ → ι → R τ} (v : σ → τ)
    (h : ∀ s i, (f s i).map v = g (v s) i) (l : List ι) : ∀ s, (List.foldlM f s l).map v = List.foldlM g (v s) l := by
  induction l with
  | nil => intro s; rfl
  | cons i l ih =>
    intro s
    rw [List.foldlM_cons, List.foldlM_cons, ← h, R.map_bind]
    cases f s i <;> first | exact ih _ | rfl

theorem foldlM_setAt {α : Type} (g : Nat → R α) (n : Nat) : ∀ (k : Nat) (pre post : List α),
    pre.length = k → post.length = n →
    List.foldlM (fun rs i => g i >>= fun v => GoDec.setAt rs i v) (pre ++ post) (List.range' k n)
      = (fillM g k n).map (fun l => pre ++ l) := by
  induction n with
  | zero =>
    intro k pre post _ hpost
    simp [fillM, R.map, List.eq_nil_of_length_eq_zero hpost]
  | succ n ih =>
    intro k pre post hpre hpost
    obtain ⟨p, post, rfl⟩ := List.exists_cons_of_length_eq_add_one hpost
    rw [List.range'_succ, List.foldlM_cons, fillM]
    cases g k with
    | ok v =>
      have hs : GoDec.setAt (pre ++ p :: post) k v = .ok ((pre ++ [v]) ++ post) := by
        simp [GoDec.setAt, ← hpre]
      rw [R.bind_ok, hs, R.bind_ok, ih (k + 1) (pre ++ [v]) post (by simp [hpre]) (by simpa using hpost)]
      cases fillM g (k + 1) n <;> simp [R.map]
    | _ => rfl

/-- `runes := make([]T, n); for i := 0; i < n; i++ { …; runes[i] = v }` where round `i` stores the value of `g i` -/
theorem foldlM_fill {α : Type} {f : List α → Nat → R (List α)} {g : Nat → R α}
    (hf : ∀ rs i, f rs i = g i >>= fun v => GoDec.setAt rs i v) (n : Nat) (z : α) :
    List.foldlM f (List.replicate n z) (List.range n) = fillM g 0 n := by
  rw [funext fun rs => funext (hf rs), List.range_eq_range']
  have := foldlM_setAt g n 0 [] (List.replicate n z) rfl (by simp)
  rw [List.nil_append] at this
  rw [this]
  cases fillM g 0 n <;> simp [R.map]

theorem foldlM_eq_ok {σ α : Type} {f : σ → α → RF σ} {F : σ → α → σ} (h : ∀ s x, f s x = RF.ok (F s x)) (l : List α) :
    ∀ s : σ, List.foldlM f s l = RF.ok (List.foldl F s l) := by
  induction l with
  | nil => intro s; rfl
  | cons x xs ih => intro s; simp only [List.foldlM_cons, List.foldl_cons, h, RF.bind_ok]; exact ih _

theorem loopM_succ {σ : Type} (n : Nat) (step : σ → RF (Option σ)) (s : σ) :
    GoDec.loopM (n + 1) step s = (step s >>= fun o => match o with | none => pure s | some s' => GoDec.loopM n step s') := rfl

theorem loopM_zero {σ : Type} (step : σ → RF (Option σ)) (s : σ) : GoDec.loopM 0 step s = RF.outOfFuel := rfl

end Bmc.Lemmas.GenDec
