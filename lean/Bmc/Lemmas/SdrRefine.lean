import Bmc.Lemmas.SdrStrings
/-! Refinement: the faithful models of the SDR group equal pure functions of the visible bytes. -/
namespace Bmc.Wire
open Bmc Bmc.Lemmas.Sdr

theorem SDRRepoInfoRsp.decodeGo_canon (prev : SDRRepoInfoRsp) (d : GoSlice) :
    SDRRepoInfoRsp.decodeGo prev d = SDRRepoInfoRsp.decode d.vis ∧ (SDRRepoInfoRsp.decodeGo prev d).bad = false := by
  unfold SDRRepoInfoRsp.decode SDRRepoInfoRsp.decodeGo
  simp only [GoSlice.len_ofBytes, GoSlice.vis_length]
  refine R.guard_canon fun h => ?_
  have hn : 14 ≤ d.len := Nat.le_of_not_lt h
  go_reads hn [Nat.le_refl, GoSlice.vis_length]
  exact ⟨trivial, rfl⟩

theorem FullSensorRecord.decodeGo_refines (prev : FullSensorRecord) (d : GoSlice) :
    FullSensorRecord.decodeGo prev d = R.ofExcept (FullSensorRecord.decode d.vis) := by
  unfold FullSensorRecord.decodeGo FullSensorRecord.decode
  simp only [GoSlice.vis_length]
  refine R.guard_ofExcept fun h => ?_
  have hn : 43 ≤ d.len := Nat.le_of_not_lt h
  go_reads hn [Nat.le_refl, idDecoder_pure, GoSlice.take_len_drop_vis]
  cases hr : idPure (d.vis.getD 42 0 >>> 6) (List.drop 43 d.vis) (d.vis.getD 42 0 &&& 0x1f).toNat with
  | none => rfl
  | some r =>
    -- the ID string decoder never reports more bytes than it was given, so the two slices that follow are legal
    have hle := idPure_le _ _ _ r hr
    simp only [List.length_drop, GoSlice.vis_length] at hle
    simp only [R.ofOption_some, R.bind_ok]
    rw [GoSlice.slice_ok _ _ _ (by omega) (by omega), GoSlice.sliceFrom_ok _ _ (by omega)]
    simp only [R.bind_ok, GoSlice.sub_vis, GoSlice.take_len_drop_vis, List.drop_zero, Nat.sub_zero, R.ofExcept_ok]

end Bmc.Wire
