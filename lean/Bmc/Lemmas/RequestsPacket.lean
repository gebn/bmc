import Bmc.Lemmas.RequestsBits
/-! The session-less datagram stack parses back (C06, packet level): RMCP header, null-session wrapper, IPMI
    message with both checksums, for any operation, LUN and body. -/
namespace Bmc.Wire.Req
open Bmc Bmc.Wire Bmc.Prim

/-- a message laid out as rsAddr, NetFn/LUN, checksum 1, rqAddr, rqSeq/LUN, cmd, tail, checksum 2 passes both
    checksum tests of the reference parser, whatever the bytes are -/
theorem parseMessage_layout (rs nl rq sl cmd : UInt8) (tail : Bytes) :
    Spec.Req.parseMessage (rs :: nl :: checksum [rs, nl] :: rq :: sl :: cmd :: (tail ++ [checksum (rq :: sl :: cmd :: tail)])) =
      (let netFn := nl.toNat / 4
       let hdr (e : Spec.Req.Ext) : Spec.Req.IpmiHeader :=
         { rsAddr := rs.toNat, netFn := netFn, rsLUN := nl.toNat % 4, rqAddr := rq.toNat, rqSeq := sl.toNat / 4
           rqLUN := sl.toNat % 4, cmd := cmd.toNat, ext := e }
       if netFn % 2 = 1 then none
       else if netFn = 0x2C then
         match tail with
         | b :: d => some (hdr (.group b.toNat), d)
         | [] => none
       else if netFn = 0x2E then
         match tail with
         | a :: b :: c :: d => some (hdr (.oem (Spec.Req.rd24 a b c)), d)
         | _ => none
       else some (hdr .none, tail)) := by
  have e1 : Spec.Req.sum8 [rs, nl, checksum [rs, nl]] = 0 := sum8_checksum [rs, nl]
  have e2 : Spec.Req.sum8 (rq :: sl :: cmd :: (tail ++ [checksum (rq :: sl :: cmd :: tail)])) = 0 :=
    sum8_checksum (rq :: sl :: cmd :: tail)
  simp only [Spec.Req.parseMessage, e1, e2]
  simp only [List.append_eq_nil_iff, List.cons_ne_nil, and_false, if_false, ne_eq, not_true_eq_false, List.dropLast_concat]
  rfl

theorem parseWrapper_encode (pt : UInt8) (inner : Bytes) (hpt : pt.toNat < 64) (h2 : pt ≠ 2) (hl : inner.length < 65536) :
    Spec.Req.parseWrapper (V2Session.encode (fun _ => []) { payloadType := pt } inner).2 =
      some { payloadType := pt.toNat, sessionID := 0, sequence := 0, payload := inner } := by
  have hoem : (pt == 2) = false := by simpa using h2
  have hm : pt.toNat % 64 = pt.toNat := Nat.mod_eq_of_lt hpt
  have hd : pt.toNat / 64 = 0 := Nat.div_eq_of_lt hpt
  have h2' : ¬ pt.toNat = 2 := by
    intro h; apply h2; exact UInt8.toNat_inj.mp (by simpa using h)
  simp [V2Session.encode, hoem, putLE32, putLE16, Spec.Req.parseWrapper, Spec.Req.rd16, Spec.Req.rd32, hm, hd, h2']
  omega

/-- `SlaveAddressBMC.Address()` and `SoftwareIDRemoteConsole1.Address()` (regenerated from the source) -/
theorem addresses : bmcAddress = 0x20 ∧ consoleAddress = 0x81 := by decide

/-- the extension bytes the specification expects after the command byte of an operation -/
def expectedExt (op : Operation) : Spec.Req.Ext :=
  if op.function = 0x2C then .group op.body.toNat else if op.function = 0x2E then .oem op.enterprise else .none

theorem message_parses (op : Operation) (lun : UInt8) (body : Bytes)
    (hf : op.function.toNat < 64) (hreq : op.function.toNat % 2 = 0) (hl : lun.toNat < 4) (he : op.enterprise < 16777216) :
    Spec.Req.parseMessage (Message.encode (messageLayer op lun) body).2 =
      some ({ rsAddr := 0x20, netFn := op.function.toNat, rsLUN := lun.toNat, rqAddr := 0x81, rqSeq := 1, rqLUN := 0
              cmd := op.command.toNat, ext := expectedExt op }, body) := by
  obtain ⟨fn, b, ent, cmd⟩ := op
  simp only at hf hreq he
  obtain ⟨a1, a2⟩ := fnlun_nat fn lun hf hl
  have hr : isRequest fn = true := by
    simp only [isRequest, beq_iff_eq]
    apply UInt8.toNat_inj.mp
    simpa using hreq
  simp only [Message.encode, messageLayer, hr, addresses.1, addresses.2, if_true, List.append_nil]
  have hsl : ((1 : UInt8) <<< 2 ||| 0).toNat / 4 = 1 ∧ ((1 : UInt8) <<< 2 ||| 0).toNat % 4 = 0 := by decide
  have h20 : (32 : UInt8).toNat = 32 ∧ (129 : UInt8).toNat = 129 := by decide
  have hne : ∀ k : Nat, k < 256 → fn.toNat ≠ k → fn ≠ UInt8.ofNat k := by
    intro k hk h e; apply h; rw [e]; simp; omega
  simp only [List.cons_append, List.nil_append]
  generalize hpre : (if isGroup fn = true then [b] else if isOEM fn = true then
      [UInt8.ofNat (ent % 256), UInt8.ofNat (ent / 256 % 256), UInt8.ofNat (ent / 65536 % 256)] else []) = pre
  rw [parseMessage_layout]
  subst hpre
  simp only [a1, a2, hsl.1, hsl.2, h20.1, h20.2]
  by_cases hg : fn = 0x2C
  · subst hg; simp [isGroup, expectedExt]
  · by_cases ho : fn = 0x2E
    · subst ho
      simp [isGroup, isOEM, expectedExt, Spec.Req.rd24, le24_split ent he]
    · -- `isGroup` / `isOEM` hold of the response functions 2Dh / 2Fh too; `fn`, being even, is neither
      have g1 : fn.toNat ≠ 0x2C := fun h => hg (UInt8.toNat_inj.mp (by simpa using h))
      have g2 : fn.toNat ≠ 0x2E := fun h => ho (UInt8.toNat_inj.mp (by simpa using h))
      have g3 : fn ≠ 0x2D := hne 0x2D (by omega) (by omega)
      have g4 : fn ≠ 0x2F := hne 0x2F (by omega) (by omega)
      simp [isGroup, isOEM, expectedExt, hg, ho, g1, g2, g3, g4, hreq]

theorem parseRMCP_encode (rest : Bytes) : Spec.Req.parseRMCP (RMCP.encode rmcpLayer ++ rest) = some rest := by
  simp [RMCP.encode, rmcpLayer, Spec.Req.parseRMCP]

theorem packet_parses (op : Operation) (lun : UInt8) (body : Bytes) (h : op.wf) (hl : lun.toNat < 4) (hb : bodyFits body) :
    Spec.Req.parsePacket (packetSessionless op lun body) =
      some { payloadType := 0, sessionID := 0, sequence := 0
             ipmi := some { rsAddr := 0x20, netFn := op.function.toNat, rsLUN := lun.toNat, rqAddr := 0x81, rqSeq := 1
                            rqLUN := 0, cmd := op.command.toNat, ext := expectedExt op }
             body := body } := by
  have hlen := Message.encode_length_le (messageLayer op lun) body
  unfold bodyFits at hb
  have hw := parseWrapper_encode 0 (Message.encode (messageLayer op lun) body).2 (by decide) (by decide) (by omega)
  simp only [Spec.Req.parsePacket, packetSessionless, parseRMCP_encode, hw, Option.bind_eq_bind, Option.bind_some,
    message_parses op lun body h.1 h.2.1 hl h.2.2]
  rfl

theorem payload_packet_parses (pt : UInt8) (body : Bytes) (hpt : pt.toNat < 64) (h0 : pt ≠ 0) (h2 : pt ≠ 2)
    (hb : body.length < 65536) :
    Spec.Req.parsePacket (packetPayload pt body) =
      some { payloadType := pt.toNat, sessionID := 0, sequence := 0, ipmi := none, body := body } := by
  have hw := parseWrapper_encode pt body hpt h2 hb
  have h0' : ¬ pt.toNat = 0 := fun h => h0 (UInt8.toNat_inj.mp (by simpa using h))
  simp [Spec.Req.parsePacket, packetPayload, parseRMCP_encode, hw, h0']

theorem readCommand_packet {α : Type} (op : Operation) (lun : UInt8) (body : Bytes) (h : op.wf) (hl : lun.toNat < 4)
    (hb : bodyFits body) (code : Spec.Req.CmdCode) (parse : Bytes → Option α)
    (hcode : op.function.toNat = code.netFn ∧ op.command.toNat = code.cmd ∧ expectedExt op = code.ext) :
    Spec.Req.readCommand code parse (packetSessionless op lun body) = (parse body).map (fun v => (lun.toNat, v)) := by
  obtain ⟨c1, c2, c3⟩ := hcode
  simp [Spec.Req.readCommand, packet_parses op lun body h hl hb, Spec.Req.payloadIPMI, c1, c2, c3]

theorem readPayload_packet {α : Type} (pt : UInt8) (body : Bytes) (hpt : pt.toNat < 64) (h0 : pt ≠ 0) (h2 : pt ≠ 2)
    (hb : body.length < 65536) (parse : Bytes → Option α) :
    Spec.Req.readPayload pt.toNat parse (packetPayload pt body) = parse body := by
  simp [Spec.Req.readPayload, payload_packet_parses pt body hpt h0 h2 hb]

end Bmc.Wire.Req
