import Bmc.Spec.Sdr
import Bmc.Lemmas.SdrStrings
/-! Each of the four ID string encodings (§43.15), for every character count: decoding the specification's bytes
    returns the characters and consumes exactly those bytes. -/
namespace Bmc.Lemmas.Sdr
open Bmc Bmc.Wire Bmc.Prim

theorem bcdTable_idx : ∀ c ∈ Spec.bcdPlusTable,
    Spec.bcdPlusTable.idxOf c < 16 ∧ Spec.bcdPlusTable.getD (Spec.bcdPlusTable.idxOf c) 0 = c := by decide +kernel
theorem bcdTable_zero : Spec.bcdPlusTable.idxOf (0x30 : UInt8) = 0 := by decide +kernel
theorem nibbles : ∀ x : Nat, x < 16 → ∀ y : Nat, y < 16 →
    ((UInt8.ofNat x <<< 4) ||| UInt8.ofNat y).toNat / 16 = x ∧ ((UInt8.ofNat x <<< 4) ||| UInt8.ofNat y).toNat % 16 = y := by
  decide +kernel

theorem bcdPack_len (cs : Bytes) : (Spec.bcdPack cs).length = (cs.length + 1) / 2 := by simp [Spec.bcdPack]
theorem bcdPack_getD (cs : Bytes) (k : Nat) (h : k < (cs.length + 1) / 2) :
    (Spec.bcdPack cs).getD k 0 = (Spec.bcdNibble (cs.getD (2 * k) 0x30) <<< 4) ||| Spec.bcdNibble (cs.getD (2 * k + 1) 0x30) := by
  simp [Spec.bcdPack, List.getD_eq_getElem?_getD, h]

theorem bcd_getD_mem (cs : Bytes) (h : ∀ c ∈ cs, c ∈ Spec.bcdPlusTable) (i : Nat) : cs.getD i 0x30 ∈ Spec.bcdPlusTable :=
  getD_of_forall cs 0x30 h (by decide +kernel) i

theorem bcdPlus_roundtrip (cs : Bytes) (h : ∀ c ∈ cs, c ∈ Spec.bcdPlusTable) :
    Spec.bcdPlus (Spec.bcdPack cs) cs.length = some (cs, (cs.length + 1) / 2) := by
  unfold Spec.bcdPlus
  rw [bcdPack_len]
  simp only [Nat.lt_irrefl, if_false, Option.some.injEq, Prod.mk.injEq, and_true]
  apply List.ext_getElem
  · simp
  · intro i h1 h2
    simp only [List.length_map, List.length_range] at h1
    simp only [List.getElem_map, List.getElem_range]
    rw [bcdPack_getD cs (i / 2) (by omega)]
    have ma := bcdTable_idx _ (bcd_getD_mem cs h (2 * (i / 2)))
    have mb := bcdTable_idx _ (bcd_getD_mem cs h (2 * (i / 2) + 1))
    have nb := nibbles _ ma.1 _ mb.1
    unfold Spec.bcdNibble
    by_cases hp : i % 2 = 0
    · simp only [hp, if_true, nb.1, ma.2]
      have : 2 * (i / 2) = i := by omega
      simp [this, List.getD_eq_getElem?_getD, h1]
    · simp only [hp, if_false, nb.2, mb.2]
      have : 2 * (i / 2) + 1 = i := by omega
      simp [this, List.getD_eq_getElem?_getD, h1]

theorem code6 : ∀ n : Nat, n < 256 → 0x20 ≤ n → n ≤ 0x5f →
    (UInt8.ofNat n - 0x20).toNat < 64 ∧ (UInt8.ofNat n - 0x20) + 0x20 = UInt8.ofNat n := by decide +kernel

theorem codes_of_chars (cs : Bytes) (h : ∀ c ∈ cs, 0x20 ≤ c.toNat ∧ c.toNat ≤ 0x5f) :
    Codes (cs.map (· - 0x20)) ∧ (cs.map (· - 0x20)).map (· + 0x20) = cs := by
  constructor
  · intro x hx
    obtain ⟨c, hc, rfl⟩ := List.mem_map.1 hx
    have := (code6 c.toNat c.toNat_lt (h c hc).1 (h c hc).2).1
    simp at this; exact this
  · rw [List.map_map]
    conv => rhs; rw [← List.map_id cs]
    apply List.map_congr_left
    intro c hc
    simp

theorem packed6_roundtrip (cs : Bytes) (h : ∀ c ∈ cs, 0x20 ≤ c.toNat ∧ c.toNat ≤ 0x5f) :
    dec6P (pack6 (cs.map (· - 0x20))) cs.length = some (cs, cs.length - cs.length / 4) := by
  obtain ⟨hc, hm⟩ := codes_of_chars cs h
  have := dec6P_pack (pack6 (cs.map (· - 0x20))) _ hc (by rw [pack6_len]; omega) (pack6_getD _)
  rwa [hm, List.length_map] at this

theorem latin1_roundtrip (cs : Bytes) (h : cs.length ≠ 1) : Spec.latin1 cs cs.length = some (cs, cs.length) := by
  unfold Spec.latin1
  by_cases h0 : cs.length = 0
  · have : cs = [] := List.eq_nil_of_length_eq_zero h0
    simp [this]
  · have h2 : ¬ cs.length < 2 := by omega
    simp [h0, h2]

theorem idString_roundtrip (s : Spec.IdString) (h : s.wf) :
    idPure (UInt8.ofNat s.enc.code) s.bytes s.chars.length = some (s.chars, s.bytes.length) := by
  obtain ⟨enc, cs⟩ := s
  obtain ⟨_, h⟩ := h
  cases enc
  · -- "unicode": decoded like Latin-1
    exact latin1_roundtrip cs h
  · show Spec.bcdPlus (Spec.bcdPack cs) cs.length = some (cs, (Spec.bcdPack cs).length)
    rw [bcdPack_len]; exact bcdPlus_roundtrip cs h
  · show dec6P (pack6 (cs.map (· - 0x20))) cs.length = some (cs, (pack6 (cs.map (· - 0x20))).length)
    rw [pack6_len, List.length_map]; exact packed6_roundtrip cs h
  · exact latin1_roundtrip cs h

theorem latin1_truncated (b : Bytes) (c : Nat) (hb : b.length < c) : Spec.latin1 b c = none := by
  simp [Spec.latin1, hb, show c ≠ 0 by omega]

theorem idString_truncated (s : Spec.IdString) (b : Bytes) (hb : b.length < s.bytes.length) :
    idPure (UInt8.ofNat s.enc.code) b s.chars.length = none := by
  obtain ⟨enc, cs⟩ := s
  cases enc
  · exact latin1_truncated b cs.length hb
  · have hb' : b.length < (Spec.bcdPack cs).length := hb
    rw [bcdPack_len] at hb'
    exact if_pos hb'
  · have hb' : b.length < (pack6 (cs.map (· - 0x20))).length := hb
    rw [pack6_len, List.length_map] at hb'
    exact if_pos hb'
  · exact latin1_truncated b cs.length hb

end Bmc.Lemmas.Sdr
