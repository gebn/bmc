import Bmc.Spec.Setup
namespace Bmc.Lemmas.Setup
open Bmc

/-- RAKP 1 role byte: bit 4 and the low nibble are independent -/
theorem role : ∀ s : Bool, ∀ p : Nat, p < 16 →
    ((Spec.bit s 4 ||| UInt8.ofNat p) &&& 0x10 == 0) = !s ∧ (Spec.bit s 4 ||| UInt8.ofNat p) &&& 0xF = UInt8.ofNat p := by
  decide +kernel

end Bmc.Lemmas.Setup
