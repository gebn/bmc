import Bmc.Proto.Sessionless
import Bmc.Lemmas.SessionSpec
import Bmc.Lemmas.V2Refine
import Bmc.Lemmas.MessageRefine
/-! The session-less send loop refines the documented contract. -/
namespace Bmc.Proto
open Bmc Bmc.Wire Bmc.Crypto

def slView (p : SlLayers × Decoded) : Decoded × Option Message := (p.2, if p.2 = .message then some p.1.msg else none)

/-- **the session-less receive chain in terms of the pure decoders**, as the loop sees it (`slView`): as in a session up to the
    wrapper (`onReply_view_eq`), decoded without integrity algorithm; a wrapper flagged encrypted ends the chain, any other IPMI
    payload is the message. No decoder looks at the layer it overwrites: the layers `l` do not occur on the right. -/
theorem slOnReply_view_eq (l : SlLayers) (d : GoSlice) :
    slView (slOnReply l d) =
      match RMCP.decodeGo {} d with
      | .err => (.fail, none)
      | .panic | .overread => (.crash, none)
      | .ok (r, p) =>
        if p.len == 0 || r.cls != 7 || p.vis.getD 0 0 != 6 then (.notMessage, none) else
        match V2Session.decode (fun _ => []) p.vis with
        | .error _ => (.fail, none)
        | .ok v =>
          if v.payload.isEmpty || v.payloadType != 0 || v.encrypted then (.notMessage, none) else
          match Message.decode 8 v.payload with
          | .error _ => (.fail, none)
          | .ok m => (.message, some m) := by
  unfold slOnReply
  rw [show RMCP.decodeGo l.rmcp d = RMCP.decodeGo {} d from rfl]
  rcases RMCP.decodeGo {} d with ⟨r, p⟩ | _ | _ | _
  case err | panic | overread => rfl
  dsimp only
  cases (p.len == 0)
  case true => rfl
  cases (r.cls != 7)
  case true => rfl
  cases (p.vis.getD 0 0 != 6)
  case true => rfl
  rw [V2Session.decodeGo_refines]
  rcases V2Session.decode (fun _ => []) p.vis with _ | v
  case error => rfl
  dsimp only [R.ofExcept]
  cases v.payload.isEmpty
  case true => rfl
  cases (v.payloadType != 0)
  case true => rfl
  cases v.encrypted
  case true => rfl
  rw [Message.decodeGo_refines, GoSlice.vis_ofBytes]
  cases Message.decode 8 v.payload <;> rfl

theorem slOnReply_view (l : SlLayers) (d : GoSlice) : slView (slOnReply l d) = slView (slOnReply {} d) := by
  rw [slOnReply_view_eq, slOnReply_view_eq]

theorem slOnReply_message (l : SlLayers) (d : GoSlice) (msg : Message) (h : slView (slOnReply l d) = (.message, some msg)) :
    ∃ r p v, RMCP.decodeGo l.rmcp d = .ok (r, p) ∧ V2Session.decode (fun _ => []) p.vis = .ok v ∧ v.payloadType = 0 ∧
      v.encrypted = false ∧ Message.decode 8 v.payload = .ok msg := by
  rw [slOnReply_view_eq] at h
  rcases hr : RMCP.decodeGo {} d with ⟨r, p⟩ | _ | _ | _ <;> rw [hr] at h
  case err | panic | overread => cases h
  dsimp only at h
  split at h
  · cases h
  rcases hv : V2Session.decode (fun _ => []) p.vis with _ | v <;> rw [hv] at h
  case error => cases h
  dsimp only at h
  split at h
  · cases h
  rename_i hgo
  rcases hm : Message.decode 8 v.payload with _ | m <;> rw [hm] at h
  case error => cases h
  cases h
  simp only [Bool.or_eq_true, bne_iff_ne, ne_eq, not_or, Decidable.not_not, Bool.not_eq_true] at hgo
  exact ⟨r, p, v, hr, hv, hgo.1.2, hgo.2, hm⟩

def slClassify (c : Cmd) (d : Bytes) : Class :=
  match slView (slOnReply {} (GoSlice.ofBytes d)) with
  | (.crash, _) => .crash
  | (.message, some msg) =>
    if slAcceptable c msg && !isTemp msg.completionCode then .final msg.completionCode msg.payload else .retry
  | _ => .retry

/-- the documented behaviour outside a session: lost replies and anything that is not a final answer are retried
    until the context expires -/
def slExpected (cls : Bytes → Class) : List Outcome → Nat × Res
  | [] => (0, .ctxExpired)
  | .lost :: rest => ((slExpected cls rest).1 + 1, (slExpected cls rest).2)
  | .reply d :: rest =>
    match cls d with
    | .final cc p => (1, .ok cc p)
    | .crash => (1, .crashed)
    | .retry => ((slExpected cls rest).1 + 1, (slExpected cls rest).2)

theorem slClassify_of_view {c : Cmd} {d : Bytes} {msg : Message}
    (h : slView (slOnReply {} (GoSlice.ofBytes d)) = (.message, some msg)) :
    slClassify c d = if slAcceptable c msg && !isTemp msg.completionCode then .final msg.completionCode msg.payload else .retry := by
  unfold slClassify; rw [h]

theorem slClassify_final_inv (c : Cmd) (d : Bytes) (cc : UInt8) (p : Bytes) (h : slClassify c d = .final cc p) :
    ∃ msg, slView (slOnReply {} (GoSlice.ofBytes d)) = (.message, some msg) ∧
      slAcceptable c msg = true ∧ isTemp msg.completionCode = false ∧ msg.completionCode = cc ∧ msg.payload = p := by
  unfold slClassify at h
  split at h
  · cases h
  · rename_i msg hv
    split at h
    · rename_i hacc
      cases h
      simp only [Bool.and_eq_true, Bool.not_eq_true'] at hacc
      exact ⟨msg, hv, hacc.1, hacc.2, rfl, rfl⟩
    · cases h
  · cases h

theorem slExpected_le (cls : Bytes → Class) (script : List Outcome) : (slExpected cls script).1 ≤ script.length := by
  induction script with
  | nil => exact Nat.le_refl 0
  | cons o rest ih =>
    cases o with
    | lost => exact Nat.succ_le_succ ih
    | reply d => rw [slExpected]; split <;> simp <;> omega

theorem slExpected_ok_inv (cls : Bytes → Class) (script : List Outcome) (cc : UInt8) (p : Bytes)
    (h : (slExpected cls script).2 = .ok cc p) : ∃ d, Outcome.reply d ∈ script ∧ cls d = .final cc p := by
  induction script with
  | nil => cases h
  | cons o rest ih =>
    have later : (slExpected cls rest).2 = .ok cc p → ∃ d, Outcome.reply d ∈ o :: rest ∧ cls d = .final cc p := fun h =>
      let ⟨d', hm, hd⟩ := ih h; ⟨d', .tail _ hm, hd⟩
    cases o with
    | lost => exact later h
    | reply d =>
      rw [slExpected] at h
      cases hc : cls d with
      | final cc' p' => rw [hc] at h; cases h; exact ⟨d, .head _, hc⟩
      | crash => rw [hc] at h; cases h
      | retry => rw [hc] at h; exact later h

theorem slExpected_retries (cls : Bytes → Class) (pre : List Outcome)
    (hpre : ∀ o ∈ pre, o = .lost ∨ ∃ d, o = .reply d ∧ cls d = .retry) (rest : List Outcome) :
    slExpected cls (pre ++ rest) = (pre.length + (slExpected cls rest).1, (slExpected cls rest).2) := by
  induction pre with
  | nil => exact Prod.ext (Nat.zero_add _).symm rfl
  | cons o pre ih =>
    have ih := ih fun o ho => hpre o (.tail _ ho)
    rcases hpre _ (.head _) with rfl | ⟨d, rfl, hd⟩
    · rw [List.cons_append, slExpected, ih]; exact Prod.ext (Nat.add_right_comm _ _ 1) rfl
    · rw [List.cons_append, slExpected, hd, ih]; exact Prod.ext (Nat.add_right_comm _ _ 1) rfl

theorem slClassify_eq (c : Cmd) (l : SlLayers) (d : Bytes) :
    slClassify c d =
      (match slOnReply l (GoSlice.ofBytes d) with
       | (_, .crash) => Class.crash
       | (l2, .message) =>
         if slAcceptable c l2.msg && !isTemp l2.msg.completionCode
         then Class.final l2.msg.completionCode l2.msg.payload else Class.retry
       | _ => Class.retry) := by
  unfold slClassify
  rw [← slOnReply_view l]
  rcases slOnReply l (GoSlice.ofBytes d) with ⟨l2, _ | _ | _ | _⟩ <;> rfl

/-- REFINEMENT: result and transmissions of the session-less loop are those of the contract, and every transmission
    is the one serialised request -/
theorem slLoop_spec (c : Cmd) (pkt : Bytes) (l : SlLayers) (script : List Outcome) :
    (slLoop c pkt l script).2 = (slExpected (slClassify c) script).2 ∧
    (slLoop c pkt l script).1 = List.replicate (slExpected (slClassify c) script).1 pkt := by
  induction script generalizing l with
  | nil => exact ⟨rfl, rfl⟩
  | cons o rest ih =>
    -- one more transmission, then the rest of the script from whatever layers the reply left
    have again : ∀ l2, (slLoop c pkt l2 rest).2 = (slExpected (slClassify c) rest).2 ∧
        pkt :: (slLoop c pkt l2 rest).1 = List.replicate ((slExpected (slClassify c) rest).1 + 1) pkt :=
      fun l2 => ⟨(ih l2).1, congrArg (pkt :: ·) (ih l2).2⟩
    cases o with
    | lost => exact again l
    | reply d =>
      rw [slLoop, slExpected, slClassify_eq c l d]
      rcases slOnReply l (GoSlice.ofBytes d) with ⟨l2, _ | _ | _ | _⟩
      case crash => exact ⟨rfl, rfl⟩
      case message =>
        dsimp only
        split
        · exact ⟨rfl, rfl⟩
        · exact again l2
      all_goals exact again l2

theorem slSend_retries_then_final (c : Cmd) (hf : c.reqFails = false) (pre : List Outcome)
    (hpre : ∀ o ∈ pre, o = .lost ∨ ∃ d, o = .reply d ∧ slClassify c d = .retry) (d : Bytes) (cc : UInt8) (p : Bytes)
    (hd : slClassify c d = .final cc p) (rest : List Outcome) :
    slSend c (pre ++ .reply d :: rest) = (List.replicate (pre.length + 1) (slSerialize c).2, .ok cc p) := by
  obtain ⟨h1, h2⟩ := slLoop_spec c (slSerialize c).2 (slSerialize c).1 (pre ++ .reply d :: rest)
  rw [slExpected_retries _ _ hpre, slExpected, hd] at h1 h2
  rw [slSend, if_neg (by simp [hf])]
  exact Prod.ext h2 h1

theorem slSend_ok_inv (c : Cmd) (script : List Outcome) (cc : UInt8) (p : Bytes) (h : (slSend c script).2 = .ok cc p) :
    ∃ d msg, Outcome.reply d ∈ script ∧ slView (slOnReply {} (GoSlice.ofBytes d)) = (.message, some msg) ∧
      slAcceptable c msg = true ∧ isTemp msg.completionCode = false ∧ msg.completionCode = cc ∧ msg.payload = p := by
  unfold slSend at h
  split at h
  · cases h
  · rw [(slLoop_spec c _ _ script).1] at h
    obtain ⟨d, hm, hc⟩ := slExpected_ok_inv _ _ _ _ h
    obtain ⟨msg, hv⟩ := slClassify_final_inv c d cc p hc
    exact ⟨d, msg, hm, hv⟩

end Bmc.Proto
