import Bmc.Wire.Aes
namespace Bmc.Wire
open Bmc Bmc.Crypto

theorem cbcDec_len (C : Ops) (hC : C.Lawful) (key : Bytes) (n : Nat) (prev ct : Bytes)
    (hp : prev.length = 16) (hl : 16 * n ≤ ct.length) : (cbcDec C key n prev ct).length = 16 * n := by
  induction n generalizing prev ct with
  | zero => simp [cbcDec]
  | succ n ih =>
    have h1 : (ct.take 16).length = 16 := by simp; omega
    have hd := hC.dec_len key _ h1
    simp only [cbcDec, List.length_append]
    rw [xorBytes_len _ _ (by omega), hd, ih _ _ h1 (by simp; omega)]
    omega

theorem plain_length (C : Ops) (hC : C.Lawful) (key : Bytes) {d : GoSlice} (h17 : 17 ≤ d.len) (hmod : d.len % 16 = 0) :
    (cbcDec C key ((d.len - 16) / 16) (List.take 16 d.vis) (List.drop 16 d.vis)).length = d.len - 16 ∧
    (List.take 16 d.vis ++ cbcDec C key ((d.len - 16) / 16) (List.take 16 d.vis) (List.drop 16 d.vis)).length = d.len := by
  have h := cbcDec_len C hC key ((d.len - 16) / 16) (List.take 16 d.vis) (List.drop 16 d.vis) (by simp; omega)
    (by simp; omega)
  rw [List.length_append, h, List.length_take, GoSlice.vis_length]
  omega

theorem AESLayer.decodeGo_refines (C : Ops) (hC : C.Lawful) (key : Bytes) (prev : AESLayer) (d : GoSlice) :
    AESLayer.decodeGo C key true prev d = R.ofExcept (AESLayer.decode C key d.vis) := by
  unfold AESLayer.decodeGo AESLayer.decode
  simp only [GoSlice.vis_length]
  refine R.guard_ofExcept fun h => ?_
  have h17 : 17 ≤ d.len := by simp at h; omega
  have hmod : d.len % 16 = 0 := by simp at h; omega
  simp only [GoSlice.slice_of_le h17, GoSlice.sliceFrom_of_le h17, Nat.reduceLeDiff, R.bind_ok, GoSlice.sub_vis,
    GoSlice.sub_len, Nat.sub_zero, List.drop_zero, GoSlice.take_len_drop_vis]
  -- after decryption `data` holds the IV and a plaintext as long as the ciphertext: `len` bytes again
  have hbl := (plain_length C hC key h17 hmod).2
  generalize List.take 16 d.vis ++ cbcDec C key ((d.len - 16) / 16) (List.take 16 d.vis) (List.drop 16 d.vis) = buf at hbl ⊢
  have hlen : (GoSlice.ofBytes buf).len = d.len := hbl
  rw [GoSlice.idx_ok _ _ (by omega)]
  simp only [R.bind_ok, GoSlice.vis_ofBytes]
  refine R.guard_ofExcept fun hpb => ?_
  have hpb' : (List.getD buf (d.len - 1) 0).toNat ≤ 16 := UInt8.le_iff_toNat_le.mp (UInt8.not_lt.mp hpb)
  generalize (List.getD buf (d.len - 1) 0).toNat = pb at hpb' ⊢
  rw [GoSlice.slice_ok _ _ _ (by omega) (by omega)]
  simp only [R.bind_ok, GoSlice.sub_vis, GoSlice.vis_ofBytes, Nat.add_sub_cancel_left]
  refine R.guard_ofExcept fun _ => ?_
  simp only [Bool.true_and, decide_eq_true_eq]
  refine R.guard_ofExcept fun h16 => ?_
  rw [GoSlice.slice_ok _ _ _ (by omega) (by omega)]
  simp only [R.bind_ok, R.pure_eq, GoSlice.sub_vis, GoSlice.vis_ofBytes]
  rfl
#print axioms AESLayer.decodeGo_refines

theorem AESLayer.decode_length {C : Ops} {key b : Bytes} {a : AESLayer} (h : AESLayer.decode C key b = .ok a) : 17 ≤ b.length := by
  simp only [AESLayer.decode, Except.ite_error_eq_ok] at h
  have := h.1
  simp at this
  omega

