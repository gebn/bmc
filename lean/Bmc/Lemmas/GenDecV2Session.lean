import Bmc.Gen.Dec
import Bmc.Lemmas.GenDecLoop
import Bmc.Lemmas.GenDecBits
import Bmc.Lemmas.V2Refine
/-! Lemmas identifying the REGENERATED `ipmi.V2Session.DecodeFromBytes` (`Bmc.Gen.Dec.V2Session.decodeGo`, in the monad `RF`: the
    pad-scanning loop runs with fuel; `executeHash(s.IntegrityAlgorithm, ·)` a parameter) with the hand model
    `Wire.V2Session.decodeGo`. -/
namespace Bmc.Gen.Dec
def V2Session.toModel (g : V2Session) : Bmc.Wire.V2Session :=
  { encrypted := g.encrypted, authenticated := g.authenticated, payloadType := g.payloadDescriptor.payloadType
    enterprise := g.payloadDescriptor.enterprise.toNat, payloadID := g.payloadDescriptor.payloadID.toNat
    id := g.id.toNat, sequence := g.sequence.toNat, length := g.length.toNat, pad := g.pad, signature := g.signature
    contents := g.contents, payload := g.payload }
end Bmc.Gen.Dec
namespace Bmc.Lemmas.GenDec
open Bmc Bmc.Gen.Dec

/-- `for b := 0xFF; offset < len(data) && b == 0xFF; offset++ { b = data[offset] }` from `off` on, whatever else (`r`) the
    loop state carries: it stops `scanFF` bytes further -/
theorem padscan_loop {ρ : Type} (D : GoSlice) {step : ρ × Nat × UInt8 → RF (Option (ρ × Nat × UInt8))}
    (hstep : ∀ r off b, step (r, off, b) = if (decide (off < D.len) && b == 255) = true
      then RF.lift (D.idx off) >>= fun t => pure (some (r, off + 1, t)) else pure none)
    (n : Nat) (r : ρ) (off : Nat) (b : UInt8) (hn : D.len - off < n) {F : RF (ρ × Nat × UInt8)}
    (hF : GoDec.loopM n step (r, off, b) = F) :
    ∃ b', F = RF.ok (r, off + (if b = 255 then Wire.scanFF (D.vis.drop off) else 0), b') := by
  subst hF
  induction n generalizing off b with
  | zero => omega
  | succ n ih =>
    rw [loopM_succ, hstep]
    by_cases h : off < D.len ∧ b = 255
    · obtain ⟨h1, rfl⟩ := h
      simp only [h1, decide_true, BEq.rfl, Bool.and_self, if_true, GoSlice.idx_ok _ _ h1, RF.lift_ok, RF.bind_ok, RF.pure_eq]
      obtain ⟨b', hb⟩ := ih (off + 1) (D.vis.getD off 0) (by omega)
      refine ⟨b', ?_⟩
      rw [hb, GoSlice.drop_vis_cons h1, Wire.scanFF]
      simp only [beq_iff_eq]
      split <;> simp only [Nat.add_zero, Nat.add_assoc, Nat.add_comm 1]
    · have : (decide (off < D.len) && b == 255) = false := by simpa using h
      simp only [this, Bool.false_eq_true, if_false, RF.pure_eq, RF.bind_ok]
      refine ⟨b, ?_⟩
      by_cases hb : b = 255
      · simp only [hb, if_true, GoSlice.drop_vis_of_le (Nat.le_of_not_lt fun h1 => h ⟨h1, hb⟩), Wire.scanFF, Nat.add_zero]
      · simp only [hb, if_false, Nat.add_zero]

theorem scanFF_pos (l : Bytes) (h : 0 < l.length) : 1 ≤ Wire.scanFF l := by
  cases l with
  | nil => simp at h
  | cons b bs => simp only [Wire.scanFF]; split <;> omega

theorem pad_mod (n P : Nat) (hn : 1 ≤ n) :
    UInt8.ofNat (Int.toNat (((((P + n : Nat) : Int) - ((1 : Nat) : Int)) - ((P : Nat) : Int)) % 256)) = UInt8.ofNat (n - 1) := by
  have : ((((P + n : Nat) : Int) - ((1 : Nat) : Int)) - ((P : Nat) : Int)) % 256 = (((n - 1) % 256 : Nat) : Int) := by omega
  rw [this, Int.toNat_natCast]
  apply UInt8.toNat.inj
  simp

theorem V2Session_lift (mac : Bytes → Bytes) (prev : V2Session) (d : GoSlice) :
    (V2Session.decodeGo mac prev d).map V2Session.toModel
      = RF.lift (Wire.V2Session.decodeGo mac (V2Session.toModel prev) d) := by
  -- against the pure decoder: only the regenerated side has reads to evaluate
  rw [Wire.V2Session.decodeGo_refines]
  unfold V2Session.decodeGo Wire.V2Session.decode
  simp only [GoSlice.vis_length, R.ofExcept_ite, RF.lift_ite, R.ofExcept_error, RF.lift_err]
  refine RF.map_guard fun h12 => ?_
  have hn : 12 ≤ d.len := Nat.le_of_not_lt h12
  go_reads hn [RF.lift_ok, RF.bind_ok]
  refine RF.map_guard fun _ => ?_
  -- the OEM payload descriptor adds six bytes to the 12-byte header; `hn` bounds the header in both cases, which from
  -- here on differ in numerals only
  by_cases hoem : (List.getD d.vis 1 0 &&& 63 == 2) = true
  case' pos =>
    by_cases h18 : d.len < 18
    · simp only [hoem, h18, if_true, Bool.true_and, decide_true, RF.bind_err]; rfl
    replace hn : 18 ≤ d.len := Nat.le_of_not_lt h18
  all_goals
    go_reads hn [hoem, Nat.not_lt.2 hn, if_true, if_false, Bool.false_eq_true, Bool.true_and, Bool.false_and, decide_false,
      RF.pure_eq, RF.lift_ok, RF.bind_ok, Nat.reduceAdd, GoDec.le32Go, GoDec.le16Go, Nat.reduceSub, Nat.lt_irrefl, le16_toNat,
      Wire.le16_take, Nat.le_refl, List.drop_zero]
    generalize hLe : Wire.le16 (List.drop _ d.vis) = L
    refine RF.map_guard fun hL => ?_
    rw [GoSlice.slice_ok d _ (_ + L) (by omega) (by omega)]
    simp only [RF.lift_ok, RF.bind_ok, GoSlice.sub_vis, Nat.add_sub_cancel_left]
    refine RF.map_ite_congr (fun _ => ?_) fun _ => ?_
    · simp only [RF.map, V2Session.toModel, le32_toNat, le16_toNat, Wire.le32_take, Wire.le16_take, Nat.le_refl, hLe]; rfl
    generalize hF : GoDec.loopM _ _ _ = F
    obtain ⟨b', rfl⟩ := padscan_loop d (by intros; rfl) _ _ _ _ (by omega) hF
    clear hF
    -- `P`: where the pad starts; `N`: how far the loop went
    generalize _ + L = P at hL ⊢
    have hN : P < d.len → 1 ≤ Wire.scanFF (List.drop P d.vis) := fun h => scanFF_pos _ (by simp; omega)
    generalize Wire.scanFF (List.drop P d.vis) = N at hN ⊢
    have hc : ((d.len : Int) < ((P + N : Nat) : Int) - ((1 : Nat) : Int) + ((2 : Nat) : Int)) ↔ d.len < P + N + 1 := by
      omega
    simp only [RF.bind_ok, if_true, hc]
    refine RF.map_guard fun hs => ?_
    have hnat : GoDec.nat (((P + N : Nat) : Int) - ((1 : Nat) : Int) + ((2 : Nat) : Int)) = .ok (P + N + 1) := by
      rw [GoDec.nat_ok _ (by omega)]; congr 1; omega
    simp only [hnat, RF.lift_ok, RF.bind_ok, GoSlice.sliceFrom_ok d (P + N + 1) (by omega),
      GoSlice.slice_ok d 0 (P + N + 1) (by omega) (by omega), GoSlice.sub_vis, GoSlice.take_len_drop_vis, Nat.sub_zero,
      List.drop_zero, pad_mod N P (hN (by omega))]
    refine RF.map_ite_congr (fun _ => rfl) fun _ => ?_
    simp only [RF.map, V2Session.toModel, le32_toNat, le16_toNat, Wire.le32_take, Wire.le16_take, Nat.le_refl, hLe]; rfl

end Bmc.Lemmas.GenDec
