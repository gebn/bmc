import Bmc.Gen.Orch
import Bmc.Lemmas.GenOrch
import Bmc.Lemmas.EnumPaging
/-! Helper definitions and lemmas for `Proofs/GenOrch/*` (DCMI sensor info) that do not depend on the BODIES of the
    regenerated functions: how a typed BMC is turned into the answer function the regenerated definitions take and into
    the hand model's BMC (`Proto/Enum.lean`), the Go `sensorMap` (association list, insertion order) against the hand
    model's `SMap`. -/
namespace Bmc.Lemmas.GenOrchDcmi
open Bmc Bmc.GoOrch Bmc.Gen.Orch Bmc.Proto.Enum

/-- a BMC as the TYPES of the code see it: request struct ↦ response struct, `none` = `ValidateResponse` gave an error -/
abbrev TBmc := GetDCMISensorInfoReq → Option GetDCMISensorInfoRsp

/-- the answer function of such a BMC, keeping the log of the request structs; `junk` = what the response struct holds
    after a FAILED command (anything) -/
def ansOf (b : TBmc) (junk : List GetDCMISensorInfoReq → GetDCMISensorInfoReq → GetDCMISensorInfoRsp) :
    List GetDCMISensorInfoReq → GetDCMISensorInfoReq → List GetDCMISensorInfoReq × GetDCMISensorInfoRsp × Bool :=
  fun log q => (log ++ [q], (b q).getD (junk log q), (b q).isSome)

/-- the hand model's BMC (entity, instance start ↦ instances, record IDs) for sensor type `typ`, instance 0 -/
def handOf (b : TBmc) (typ : UInt8) : Proto.Enum.Bmc := fun e s =>
  (b ⟨typ, UInt8.ofNat e, 0, UInt8.ofNat s⟩).map fun r => (r.instances.toNat, r.recordIDs.map (·.toNat))

def viewReq (q : GetDCMISensorInfoReq) : Proto.Enum.Req := ⟨q.entity.toNat, q.instanceStart.toNat⟩
def ids (l : List UInt16) : List Nat := l.map (·.toNat)

abbrev St := List GetDCMISensorInfoReq × GetDCMISensorInfoCmd

theorem toNat_ofNat_succ (n : Nat) : (UInt8.ofNat (n + 1)).toNat = (n + 1) % 256 := by
  simp [UInt8.toNat_ofNat']

abbrev GMap := List (UInt8 × List UInt16)

/-- a Go `sensorMap` as the translation keeps it (insertion order, appended) seen as the hand model keeps it (prepended) -/
def viewMap (g : GMap) : SMap := (g.map fun p => (p.1.toNat, ids p.2)).reverse

theorem viewMap_mapSet (g : GMap) (k : UInt8) (v : List UInt16) :
    viewMap (mapSet g k v) = SMap.set (viewMap g) k.toNat (ids v) := by
  unfold viewMap mapSet SMap.set
  simp only [List.map_append, List.map_cons, List.map_nil, List.reverse_append, List.reverse_cons, List.reverse_nil,
    List.nil_append, List.singleton_append, List.cons.injEq, true_and]
  rw [List.filter_reverse, List.filter_map]
  congr 3
  funext p
  by_cases h : p.1 = k
  · simp [Function.comp, h]
  · have : p.1.toNat ≠ k.toNat := fun hh => h (UInt8.toNat_inj.mp hh)
    simp [Function.comp, h, this]

theorem keys_mapSet (g : GMap) (k : UInt8) (v : List UInt16) (h : (g.map (·.1)).Nodup) :
    ((mapSet g k v).map (·.1)).Nodup := by
  unfold mapSet
  rw [List.map_append, List.nodup_append]
  refine ⟨h.sublist (List.filter_sublist.map _), by simp, ?_⟩
  intro a ha b hb
  simp only [List.map_cons, List.map_nil, List.mem_singleton] at hb
  subst hb
  simp only [List.mem_map, List.mem_filter, decide_eq_true_eq] at ha
  obtain ⟨x, ⟨_, hx⟩, rfl⟩ := ha
  exact hx

theorem lookup_viewMap (g : GMap) (k : UInt8) (h : (g.map (·.1)).Nodup) :
    (viewMap g).lookup k.toNat = (g.find? (fun e => e.1 = k)).map (fun e => ids e.2) := by
  induction g with
  | nil => rfl
  | cons x xs ih =>
    have hv : viewMap (x :: xs) = viewMap xs ++ [(x.1.toNat, ids x.2)] := by simp [viewMap]
    rw [hv, List.lookup_append]
    simp only [List.map_cons, List.nodup_cons] at h
    rw [ih h.2]
    by_cases hx : x.1 = k
    · have hnone : xs.find? (fun e => decide (e.1 = k)) = none := by
        apply List.find?_eq_none.mpr
        intro e he hek
        simp only [decide_eq_true_eq] at hek
        exact h.1 (List.mem_map.mpr ⟨e, he, by rw [hek, hx]⟩)
      simp [hnone, hx]
    · have hne : ¬ k.toNat = x.1.toNat := fun hh => hx (UInt8.toNat_inj.mp hh.symm)
      simp only [List.find?_cons, hx, decide_false]
      cases List.find? (fun e => decide (e.fst = k)) xs <;> simp [hne]

theorem get_eq (g : GMap) (k : UInt8) (h : (g.map (·.1)).Nodup) :
    ids (mapGet g k ([] : List UInt16)) = SMap.get (viewMap g) k.toNat := by
  unfold SMap.get mapGet
  rw [lookup_viewMap g k h]
  cases List.find? (fun e => decide (e.fst = k)) g <;> simp [ids]

def viewInfo (i : Gen.Orch.SensorInfo) : Proto.Enum.SensorInfo := ⟨ids i.inlet, ids i.cpu, ids i.baseboard⟩

theorem sensorMap_safe (bmc : Proto.Enum.Bmc) (es : List Nat) : (sensorMap bmc es).2.bad = false :=
  Lemmas.Enum.sensorMapLoop_safe bmc es []

/-- the three map reads at the end of `GetSensorInfo`, for any three entity IDs -/
theorem pick_view (g : GMap) (h : (g.map (·.1)).Nodup) (k0 k1 k2 : UInt8) :
    viewInfo { inlet := mapGet g k0 [], cpu := mapGet g k1 [], baseboard := mapGet g k2 [] }
      = pick (viewMap g) [k0.toNat, k1.toNat, k2.toNat] := by
  simp only [viewInfo, pick, List.getD_cons_zero, List.getD_cons_succ, get_eq g _ h]

end Bmc.Lemmas.GenOrchDcmi
