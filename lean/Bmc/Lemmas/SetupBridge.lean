import Bmc.Wire.Setup
import Bmc.Wire.OpenSessionRsp
import Bmc.Wire.Rakp4
import Bmc.Lemmas.SetupOpenRefine
/-! The handshake model (`Proto/Handshake.lean`) uses compact models of the Open Session Response and RAKP Message 4
    decoders (`Wire/Setup.lean`, without `BaseLayer.Contents`); the per-layer theorems of C05 / C07 / C17 are about the
    complete ones (`Wire/OpenSessionRsp.lean`, `Wire/Rakp4.lean`, namespace `Setup`). The compact model is the complete
    one with the contents forgotten, for every receiver and every Go slice, including the panic / over-read outcomes, so
    the handshake inherits the complete models' refinement and specification theorems. -/
namespace Bmc.Lemmas.SetupBridge
open Bmc Bmc.Wire

def forgetOpen (o : Setup.OpenSessionRsp) : Wire.OpenSessionRsp :=
  { tag := o.tag, status := o.status, maxPriv := o.maxPriv, consoleSessionID := o.consoleSID, bmcSessionID := o.bmcSID
    authWild := o.auth.wildcard, auth := o.auth.algorithm, integWild := o.integ.wildcard, integ := o.integ.algorithm
    confWild := o.conf.wildcard, conf := o.conf.algorithm }

def forgetAlg (a : Setup.AlgPayload) : Bool × UInt8 := (a.wildcard, a.algorithm)

theorem deserialiseAlg_bridge (typ : UInt8) (d : GoSlice) :
    Wire.deserialiseAlg typ d = (Setup.deserialiseAlg typ d).map forgetAlg := by
  unfold Wire.deserialiseAlg Setup.deserialiseAlg
  refine (R.map_guard fun h => ?_).symm
  have hn : 8 ≤ d.len := Nat.le_of_not_lt h
  simp only [GoSlice.idx_of_le hn, GoSlice.sliceFrom_of_le hn, Nat.reduceLT, Nat.le_refl, R.bind_ok]
  exact R.map_guard fun _ => R.map_guard fun _ => rfl

theorem rakp4_bridge (p : Wire.RAKP4) (q : Setup.RAKP4) (d : GoSlice) :
    Wire.RAKP4.decodeGo p d = (Setup.RAKP4.decodeGo q d).map
      (fun r => { tag := r.tag, status := r.status, consoleSessionID := r.consoleSID, icv := r.icv }) := by
  unfold Wire.RAKP4.decodeGo Setup.RAKP4.decodeGo
  refine (R.map_guard fun h => ?_).symm
  have hn : 8 ≤ d.len := Nat.le_of_not_lt h
  simp only [GoSlice.idx_of_le hn, GoSlice.slice_of_le hn, GoSlice.sliceFrom_of_le hn, Nat.reduceLT, Nat.reduceLeDiff,
    Nat.le_refl, R.bind_ok, R.pure_eq]
  split <;> rfl
theorem bind_map_bridge {α β γ δ : Type} (x : R α) (f : α → β) (g : β → R γ) (h : α → R δ) (k : δ → γ)
    (hk : ∀ a, g (f a) = (h a).map k) : (x.map f >>= g) = (x >>= h).map k :=
  (R.map_bind_map fun a => (hk a).symm).symm

theorem openSessionRsp_bridge (q : Setup.OpenSessionRsp) (d : GoSlice) :
    Wire.OpenSessionRsp.decodeGo (forgetOpen q) d = (Setup.OpenSessionRsp.decodeGo q d).map forgetOpen := by
  -- the length is decided BEFORE the reads are rewritten: every bound asked for then holds
  unfold Wire.OpenSessionRsp.decodeGo Setup.OpenSessionRsp.decodeGo Setup.OpenSessionRsp.tailGo
  by_cases h36 : d.len = 36
  · have h1 : (d.len == 1) = false := by simp [h36]
    have h7 : ¬ d.len < 7 := by omega
    have hne : (d.len != 36) = false := by simp [h36]
    have hn : 36 ≤ d.len := by omega
    simp only [h1, h7, hne, Bool.false_eq_true, if_false, GoSlice.idx_of_le hn, GoSlice.slice_of_le hn, Nat.reduceLT, Nat.reduceLeDiff,
      R.bind_ok, R.pure_eq, deserialiseAlg_bridge]
    generalize Setup.deserialiseAlg 0 _ = ra
    generalize Setup.deserialiseAlg 1 _ = ri
    generalize Setup.deserialiseAlg 2 _ = rc
    split
    · cases ra <;> first | rfl | skip
      cases ri <;> first | rfl | skip
      cases rc <;> rfl
    · rfl
  · have hne : (d.len != 36) = true := by simp [h36]
    simp only [hne, if_true]
    by_cases h1 : d.len = 1
    · have h1' : (d.len == 1) = true := by simp [h1]
      have hn : 1 ≤ d.len := by omega
      simp only [h1', if_true, GoSlice.idx_of_le hn, GoSlice.slice_of_le hn, Nat.reduceLeDiff, Nat.le_refl, Nat.zero_le, Nat.lt_add_one, R.bind_ok, R.pure_eq]
      split <;> rfl
    · have h1' : (d.len == 1) = false := by simp [h1]
      simp only [h1', Bool.false_eq_true, if_false]
      by_cases h7 : d.len < 7
      · simp only [h7, if_true]; rfl
      · have hn : 7 ≤ d.len := by omega
        simp only [h7, if_false, GoSlice.idx_of_le hn, GoSlice.slice_of_le hn, Nat.reduceLT, Nat.reduceLeDiff, Nat.le_refl, Nat.zero_le, R.bind_ok, R.pure_eq]
        split <;> rfl

theorem openSessionRsp_pure (q : Setup.OpenSessionRsp) (d : GoSlice) :
    Wire.OpenSessionRsp.decodeGo (forgetOpen q) d = (R.ofExcept (Setup.OpenSessionRsp.decode d.vis)).map forgetOpen := by
  rw [openSessionRsp_bridge, Setup.OpenSessionRsp.decodeGo_refines]

theorem rakp4_pure (p : Wire.RAKP4) (d : GoSlice) :
    Wire.RAKP4.decodeGo p d = (R.ofExcept (Setup.RAKP4.decode d.vis)).map
      (fun r => { tag := r.tag, status := r.status, consoleSessionID := r.consoleSID, icv := r.icv }) := by
  rw [rakp4_bridge p {}, Setup.RAKP4.decodeGo_refines]

end Bmc.Lemmas.SetupBridge
