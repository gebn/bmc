import Bmc.Proofs.GenOrch.WalkSDRs
/-! Helper definitions for `Proofs/GenOrch/RetrieveSDRRepository.lean`: the typed answer function of
    `s.GetSDRRepositoryInfo(ctx)` for a raw answer function, and the closure given to `backoff.Retry` written out with
    the regenerated `walkSDRs` as a black box (its equality theorem) against the hand model's `attempt`. -/
namespace Bmc.Lemmas.GenOrchSdr
open Bmc Bmc.GoOrch Bmc.Gen.Orch Bmc.Proto Bmc.Proto.SdrWalk Bmc.Lemmas.GenOrch Bmc.Proofs.GenOrch

/-- the response struct of Get SDR Repository Info for the hand model's decoded response (times as their seconds) -/
def infoRspOf (w : Wire.SDRRepoInfoRsp) : GetSDRRepositoryInfoRsp :=
  { version := w.version, records := UInt16.ofNat w.records, freeSpace := UInt16.ofNat w.freeSpace,
    lastAddition := (w.lastAddition : Int), lastErase := (w.lastErase : Int),
    overflow := w.flags &&& 0x80 != 0, supportsModalUpdate := w.flags &&& 0x40 != 0, supportsNonModalUpdate := w.flags &&& 0x20 != 0,
    supportsDelete := w.flags &&& 8 != 0, supportsPartialAdd := w.flags &&& 4 != 0, supportsReserve := w.flags &&& 2 != 0,
    supportsGetAllocationInformation := w.flags &&& 1 != 0 }

/-- `s.GetSDRRepositoryInfo(ctx)` -/
def infoOf {σ : Type} (a : Answer σ) : σ → σ × Option GetSDRRepositoryInfoRsp := fun s =>
  ((SdrWalk.call a Wire.SDRRepoInfoRsp.decode s .repoInfo).1, (SdrWalk.call a Wire.SDRRepoInfoRsp.decode s .repoInfo).2.map infoRspOf)

/-- the closure given to `backoff.Retry`, written out over the regenerated `walkSDRs` -/
def attemptSpec {σ : Type} (a : Answer σ) (junk : σ → GetSDRReq → GetSDRRsp) (fuel : Nat) : M σ (Option GRepo) := do
  let initialInfo ← GoOrch.call (infoOf a)
  let candidateRepo ← bmc_walkSDRs fuel (sendOf a junk) (reserveOf a)
  let finalInfo ← GoOrch.call (infoOf a)
  if (decide (initialInfo.lastAddition < finalInfo.lastAddition) || decide (initialInfo.lastErase < finalInfo.lastErase)) then fail else
  pure (some candidateRepo)

theorem attemptSpec_attempt {σ : Type} (a : Answer σ) (junk : σ → GetSDRReq → GetSDRRsp) (fuel : Nat) (s : σ) :
    ((attemptSpec a junk fuel s).1.map (Option.map viewRepo) = ofRes (match (attempt true a fuel s).2 with
        | .ok m => .ok (some m) | .err => .err | .outOfFuel => .outOfFuel)) ∧
    (attemptSpec a junk fuel s).2 = (attempt true a fuel s).1 := by
  unfold attemptSpec attempt
  simp only [bind_apply, call_apply, infoOf]
  cases hc : SdrWalk.call a Wire.SDRRepoInfoRsp.decode s .repoInfo with
  | mk s1 o =>
    cases o with
    | none => simp [RF.map, ofRes]
    | some i1 =>
      simp only [Option.map_some, cont_ok, bind_apply]
      have key := walkSDRs_gen_eq a junk fuel s1
      generalize bmc_walkSDRs fuel (sendOf a junk) (reserveOf a) s1 = r at key ⊢
      generalize walk true a fuel s1 = h at key ⊢
      obtain ⟨r1, s2⟩ := r
      obtain ⟨hs, hr⟩ := h
      obtain ⟨k1, k2⟩ := key
      simp only at k1 k2
      subst k2
      rcases map_eq_ofRes k1 with ⟨g, rfl, rfl⟩ | ⟨rfl, rfl⟩ | ⟨rfl, rfl⟩
      · simp only [cont_ok, bind_apply, call_apply, infoOf]
        cases hc2 : SdrWalk.call a Wire.SDRRepoInfoRsp.decode s2 .repoInfo with
        | mk s3 o3 =>
          cases o3 with
          | none => simp [RF.map, ofRes]
          | some i2 =>
            have hA : ((infoRspOf i1).lastAddition < (infoRspOf i2).lastAddition) ↔ i1.lastAddition < i2.lastAddition := Int.ofNat_lt
            have hE : ((infoRspOf i1).lastErase < (infoRspOf i2).lastErase) ↔ i1.lastErase < i2.lastErase := Int.ofNat_lt
            simp only [Option.map_some, cont_ok, ite_apply', fail_apply, pure_apply, hA, hE]
            by_cases hmod : i1.lastAddition < i2.lastAddition ∨ i1.lastErase < i2.lastErase <;> simp [hmod, RF.map, ofRes]
      · exact ⟨rfl, rfl⟩
      · exact ⟨rfl, rfl⟩

/-- the retry loop and the dereference of its result: unless an attempt runs out of fuel (the hand model tries again, the
    translation stops with `outOfFuel`), the same result and the same final state -/
theorem retry_retrieve {σ : Type} (a : Answer σ) (junk : σ → GetSDRReq → GetSDRRsp) (fuel : Nat) :
    ∀ (n : Nat) (s : σ),
    (M.cont derefOpt (retry n (attemptSpec a junk fuel) s)).1 = .outOfFuel ∨
    ((M.cont derefOpt (retry n (attemptSpec a junk fuel) s)).1.map viewRepo
        = (match (retrieve true a fuel n s).2 with | some m => .ok m | none => .err) ∧
     (M.cont derefOpt (retry n (attemptSpec a junk fuel) s)).2 = (retrieve true a fuel n s).1) := by
  intro n
  induction n with
  | zero => intro s; right; exact ⟨rfl, rfl⟩
  | succ k ih =>
    intro s
    rw [retry_succ]
    unfold retrieve
    have key := attemptSpec_attempt a junk fuel s
    generalize attemptSpec a junk fuel s = r at key ⊢
    generalize attempt true a fuel s = h at key ⊢
    obtain ⟨r1, s1⟩ := r
    obtain ⟨hs, hr⟩ := h
    obtain ⟨k1, k2⟩ := key
    simp only at k1 k2
    subst k2
    rcases map_eq_ofRes k1 with ⟨g, rfl, hg⟩ | ⟨rfl, he⟩ | ⟨rfl, _⟩
    · right
      cases hr <;> simp only [reduceCtorEq, Res.ok.injEq] at hg
      cases g <;> cases hg
      exact ⟨rfl, rfl⟩
    · cases hr <;> simp only [reduceCtorEq] at he
      exact ih s1
    · left; rfl

end Bmc.Lemmas.GenOrchSdr
