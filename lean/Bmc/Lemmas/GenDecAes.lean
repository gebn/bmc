import Bmc.Gen.Dec
import Bmc.Lemmas.AesRefine
/-! Lemmas identifying the REGENERATED `ipmi.AES128CBC.DecodeFromBytes` (`Bmc.Gen.Dec.AES128CBC.decodeGo`, CBC decryption a
    parameter) with the hand model `Wire.AESLayer.decodeGo`. -/
namespace Bmc.Gen.Dec
def AES128CBC.toModel (g : AES128CBC) : Bmc.Wire.AESLayer := { contents := g.contents, payload := g.payload }
end Bmc.Gen.Dec
namespace Bmc.Lemmas.GenDec
open Bmc Bmc.Gen.Dec Bmc.Crypto

/-- the pad check against 01, 02, … written as a `range'` (as the loop below counts) -/
theorem padOk_iff (pad : Bytes) : Wire.padOk pad = decide (pad = (List.range' 1 pad.length).map UInt8.ofNat) := by
  unfold Wire.padOk
  have e : (List.range pad.length).map (fun i => UInt8.ofNat (i + 1)) = (List.range' 1 pad.length).map UInt8.ofNat := by
    rw [List.range'_eq_map_range, List.map_map]
    exact List.map_congr_left fun i _ => by simp only [Function.comp_def, Nat.add_comm]
  rw [e, Bool.eq_iff_iff, beq_iff_eq, decide_eq_true_iff]

theorem intRange_cast (A n : Nat) :
    GoDec.intRange ((A : Nat) : Int) (((A : Nat) : Int) + ((n : Nat) : Int)) = (List.range' A n).map (fun k => ((k : Nat) : Int)) := by
  unfold GoDec.intRange
  have : (((A : Nat) : Int) + ((n : Nat) : Int) - ((A : Nat) : Int)).toNat = n := by omega
  rw [this, List.range'_eq_map_range, List.map_map]
  apply List.map_congr_left
  intro k _
  simp

/-- the pad-verification loop `for i := padStart; i < padStart+padBytes; i++ { if data[i] != v { return err }; v++ }` from
    `A` on, `v` counting from `k` (in 8 bits), whatever else (`r`) the loop state carries -/
theorem pad_loop {ρ : Type} (D : GoSlice) {f : ρ × UInt8 → Int → R (ρ × UInt8)}
    (hf : ∀ r v i, f (r, v) i = (do
      let t5 ← GoDec.nat i
      let t6 ← D.idx t5
      if (t6 != v) = true then R.err else pure (r, v + 1)))
    (n A k : Nat) (r : ρ) (hA : A + n ≤ D.len) {F : R (ρ × UInt8)}
    (hF : List.foldlM f (r, UInt8.ofNat k) ((List.range' A n).map (fun k => ((k : Nat) : Int))) = F) :
    F.map Prod.fst = if (D.vis.drop A).take n = (List.range' k n).map UInt8.ofNat then .ok r else .err := by
  subst hF
  induction n generalizing A k with
  | zero => rfl
  | succ n ih =>
    have hlt : A < D.len := by omega
    rw [List.range'_succ, List.map_cons, List.foldlM_cons, hf, GoDec.nat_cast, R.bind_ok, GoSlice.idx_ok _ _ hlt,
      R.bind_ok, GoSlice.drop_vis_cons hlt, List.take_succ_cons, List.range'_succ, List.map_cons]
    simp only [List.cons.injEq]
    by_cases hb : D.vis.getD A 0 = UInt8.ofNat k
    · simp only [hb, bne_self_eq_false, if_false, Bool.false_eq_true, true_and, R.pure_eq, R.bind_ok]
      rw [show UInt8.ofNat k + 1 = UInt8.ofNat (k + 1) by simp [UInt8.ofNat_add]]
      exact ih (A + 1) _ (by omega)
    · simp only [bne_iff_ne.mpr hb, if_true, R.bind_err, hb, false_and, if_false, R.map]

theorem AES128CBC_pure (C : Ops) (hC : C.Lawful) (key : Bytes) (prev : AES128CBC) (d : GoSlice) :
    (AES128CBC.decodeGo (fun iv ct => cbcDec C key (ct.length / 16) iv ct) prev d).map AES128CBC.toModel
      = R.ofExcept (Wire.AESLayer.decode C key d.vis) := by
  unfold AES128CBC.decodeGo Wire.AESLayer.decode
  simp only [GoSlice.vis_length, R.ofExcept_ite, R.ofExcept_error, Nat.reduceAdd]
  refine R.map_guard fun h => ?_
  have hn : 17 ≤ d.len := by simp at h; omega
  have hmod : d.len % 16 = 0 := by simp at h; omega
  go_reads hn [Nat.sub_zero, List.drop_zero]
  -- after decryption `data` (`D`) has its length and holds the IV and a plaintext as long as the ciphertext
  obtain ⟨hpt, hbl⟩ := Wire.plain_length C hC key hn hmod
  obtain ⟨D, hD, hDl, hDv⟩ := GoDec.cryptBlocksInPlace_ok (fun iv ct => cbcDec C key (ct.length / 16) iv ct) 16
    (List.take 16 d.vis) d 16 (GoSlice.window_length hn 0 16 (by omega)) (by omega) (by omega)
    (by simpa only [List.length_drop, GoSlice.vis_length] using hpt)
  simp only [List.length_drop, GoSlice.vis_length] at hDv
  generalize List.take 16 d.vis ++ cbcDec C key ((d.len - 16) / 16) (List.take 16 d.vis) (List.drop 16 d.vis) = buf
    at hbl hDv ⊢
  rw [hD]
  simp only [R.bind_ok, hDl, GoDec.nat_sub d.len 1 (by omega), GoSlice.idx_ok D _ (by omega : d.len - 1 < D.len), hDv]
  refine R.map_guard fun hgt => ?_
  have hle : (buf.getD (d.len - 1) 0).toNat ≤ 16 := UInt8.le_iff_toNat_le.mp (UInt8.not_lt.mp hgt)
  generalize (buf.getD (d.len - 1) 0).toNat = pb at hle ⊢
  have hA : (((d.len : Nat) : Int) - ((pb : Nat) : Int) - ((1 : Nat) : Int)) = ((d.len - pb - 1 : Nat) : Int) := by omega
  have h16 : (((d.len - pb - 1 : Nat) : Int) < ((16 : Nat) : Int)) ↔ d.len - pb - 1 < 16 := by omega
  rw [hA, intRange_cast, padOk_iff, show (List.take pb (List.drop (d.len - pb - 1) buf)).length = pb by
    simp only [List.length_take, List.length_drop]; omega]
  generalize hF : List.foldlM (m := R) _ _ _ = F
  have key := pad_loop D (by intros; rfl) pb (d.len - pb - 1) 1 _ (by omega) hF
  rw [hDv] at key
  by_cases hpad : List.take pb (List.drop (d.len - pb - 1) buf) = (List.range' 1 pb).map UInt8.ofNat
  · rw [if_pos hpad] at key
    obtain ⟨p, rfl, hp⟩ := R.map_eq_ok.1 key
    simp only [R.bind_ok, hp, hpad, decide_true, Bool.not_true, Bool.false_eq_true, if_false, h16, GoDec.nat_cast]
    refine R.map_guard fun hst => ?_
    rw [GoSlice.slice_ok _ _ _ (by omega) (by omega)]
    simp only [R.bind_ok, R.map, GoSlice.sub_vis, hDv, R.ofExcept_ok, AES128CBC.toModel]
  · rw [if_neg hpad] at key
    obtain rfl := R.map_eq_err.1 key
    simp only [hpad, decide_false, Bool.not_false, if_true]; rfl

end Bmc.Lemmas.GenDec
