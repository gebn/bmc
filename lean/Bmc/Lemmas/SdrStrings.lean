import Bmc.Wire.Sdr
import Bmc.Lemmas.StringsSpec
import Bmc.Lemmas.Packed6Spec
/-! The ID string decoders as functions of the visible bytes: no panic, no over-read, nothing beyond `len`;
    the number of bytes consumed never exceeds the bytes present. -/
namespace Bmc.Lemmas.Sdr
open Bmc Bmc.Wire Bmc.Prim

theorem idDecoder_pure (enc : UInt8) (d : GoSlice) (c : Nat) :
    idDecoder enc d c = R.ofOption (idPure enc d.vis c) := by
  unfold idDecoder idPure
  split
  · exact bcdPlusGo_spec d c
  · split
    · exact decode6Go_pure d c
    · split
      · exact latin1Go_spec d c
      · rfl

theorem idPure_le (enc : UInt8) (b : Bytes) (c : Nat) (r : Bytes × Nat) (h : idPure enc b c = some r) : r.2 ≤ b.length := by
  unfold idPure at h
  split at h
  · unfold Spec.bcdPlus at h
    split at h
    · cases h
    · cases h; simp only; omega
  · split at h
    · unfold dec6P at h
      split at h
      · cases h
      · cases h; simp only; omega
    · split at h
      · unfold Spec.latin1 at h
        split at h
        · cases h; simp
        · split at h
          · cases h
          · split at h
            · cases h
            · cases h; simp only; omega
      · cases h

end Bmc.Lemmas.Sdr
