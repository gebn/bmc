import Bmc.Spec.BmcSession
import Bmc.Proofs.C03
/-! The conforming in-session BMC (`Spec/BmcSession.lean`) OPENS every datagram the console model transmits and reads out
    of it exactly the caller's command. -/
namespace Bmc.Spec
open Bmc Bmc.Wire Bmc.Crypto Bmc.Proto Bmc.Proofs.C03

/-- the BMC accepts the console's datagram and recovers the command: sequence number counter + 1, the command's NetFn,
    number, group / OEM prefix, LUN and the request body -/
theorem bmc_opens_request (C : Ops) (hC : C.Lawful) (k : Keys) (hr : k.remoteID < 4294967296) (c : Cmd) (inb : Nat)
    (iv : Bytes) (hiv : iv.length = 16) (hm : (requestMessage c).WF) (hreq : isRequest c.fn = true)
    (hlen : (aesPayload C k c iv).length < 65536) :
    bmcOpen C k (datagramOf C k c inb iv) =
      some ⟨(inb + 1) % 4294967296, c.fn, c.cmd, c.body, c.ent, c.lun, c.req⟩ := by
  obtain ⟨v, hv, ha, he, hp, hid, hs, hpl⟩ := wrapper_opens C k hr c inb iv hlen
  obtain ⟨m, hm', hf, hcmd, hb, hent, hra, hlun, hla, hpay⟩ := message_is_the_command c hm
  have hd : (datagramOf C k c inb iv).take 4 = [6, 0, 0xFF, 7] := by rw [datagram_shape]; rfl
  unfold bmcOpen
  rw [hd, hv]
  simp only [bne_self_eq_false, Bool.false_eq_true, if_false, ha, he, hp, hid, beq_self_eq_true, Bool.and_self, Bool.not_true, hpl,
    payload_decrypts C hC k c iv hiv, hm', hra, hla, hf, hreq, hs, hcmd, hb, hent, hlun, hpay]

end Bmc.Spec
