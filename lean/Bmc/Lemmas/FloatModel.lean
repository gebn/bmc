/-! # The standard model of floating-point arithmetic, over ℚ (core Lean only)

`Rounding`: a unit round-off `u ≥ 0` and a rounding function with relative error at most `u` — what IEEE-754 guarantees for
every correctly rounded operation whose result is in the normal range (binary64, round to nearest: `u = 2⁻⁵³`).
`Approx a' a A c`: the computed `a'` stands for the exact `a`, whose magnitude is at most `A`, with error at most `A·(c − 1)`;
`c` is the accumulated factor `(1 + u)^k`. The three closure lemmas (`rnd`, `mul`, `add`) are the whole error analysis.
At the end `convertFloat`: the one Go function analysed with it (`ConvertReading`, `Proofs/C15Float.lean`). -/
namespace Bmc.FloatModel

def ab (x : Rat) : Rat := if 0 ≤ x then x else -x

theorem ab_nonneg (x : Rat) : 0 ≤ ab x := Rat.abs_nonneg
theorem le_ab (x : Rat) : x ≤ ab x := by unfold ab; split <;> grind
theorem neg_le_ab (x : Rat) : -x ≤ ab x := by unfold ab; split <;> grind
theorem ab_le (x b : Rat) (h1 : x ≤ b) (h2 : -x ≤ b) : ab x ≤ b := by unfold ab; split <;> grind
theorem ab_add (a b : Rat) : ab (a + b) ≤ ab a + ab b := by
  apply ab_le <;> have := le_ab a <;> have := le_ab b <;> have := neg_le_ab a <;> have := neg_le_ab b <;> grind
theorem ab_of_nonneg (x : Rat) (h : 0 ≤ x) : ab x = x := Rat.abs_of_nonneg h
theorem ab_neg (x : Rat) : ab (-x) = ab x := Rat.abs_neg
theorem ab_sub_self (x : Rat) : ab (x - x) = 0 := by rw [Rat.sub_self]; rfl
theorem ab_mul_of_nonneg {a : Rat} (ha : 0 ≤ a) (b : Rat) : ab (a * b) = a * ab b := by
  by_cases hb : 0 ≤ b
  · rw [ab_of_nonneg b hb, ab_of_nonneg _ (Rat.mul_nonneg ha hb)]
  · have hb' : 0 ≤ -b := by grind
    rw [← ab_neg b, ab_of_nonneg _ hb', ← ab_neg, ← Rat.mul_neg, ab_of_nonneg _ (Rat.mul_nonneg ha hb')]
theorem ab_mul (a b : Rat) : ab (a * b) = ab a * ab b := by
  by_cases ha : 0 ≤ a
  · rw [ab_mul_of_nonneg ha, ab_of_nonneg a ha]
  · have ha' : 0 ≤ -a := by grind
    rw [← ab_neg a, ab_of_nonneg _ ha', ← ab_mul_of_nonneg ha', Rat.neg_mul, ab_neg]

theorem mul_le_mul' {x X y Y : Rat} (hx : x ≤ X) (hy : y ≤ Y) (h0 : 0 ≤ x) (h1 : 0 ≤ y) : x * y ≤ X * Y := by
  have hX : 0 ≤ X := by grind
  have a := Rat.mul_le_mul_of_nonneg_left hy h0
  have b := Rat.mul_le_mul_of_nonneg_left hx (by grind : 0 ≤ Y)
  grind

structure Rounding where
  u : Rat
  u_nonneg : 0 ≤ u
  rnd : Rat → Rat
  rnd_err : ∀ x, ab (rnd x - x) ≤ u * ab x

/-- exact arithmetic is a rounding (so the hypotheses of everything below are satisfiable) -/
def Rounding.exact : Rounding := ⟨0, by decide, id, fun x => by show ab (x - x) ≤ 0 * ab x; rw [ab_sub_self]; grind⟩

structure Approx (a' a A c : Rat) : Prop where
  err : ab (a' - a) ≤ A * (c - 1)
  mag : ab a ≤ A
  c1 : 1 ≤ c

theorem Approx.exact (a : Rat) : Approx a a (ab a) 1 :=
  ⟨by rw [ab_sub_self]; grind, by grind, by decide⟩

theorem Approx.magA {a' a A c : Rat} (h : Approx a' a A c) : 0 ≤ A := by have := ab_nonneg a; have := h.mag; grind

theorem Approx.computed_mag {a' a A c : Rat} (h : Approx a' a A c) : ab a' ≤ A * c := by
  have t := ab_add (a' - a) a
  have e : a' - a + a = a' := by grind
  rw [e] at t
  have := h.err; have := h.mag
  grind

theorem Approx.mono {a' a A c d : Rat} (h : Approx a' a A c) (hd : c ≤ d) : Approx a' a A d := by
  refine ⟨?_, h.mag, by have := h.c1; grind⟩
  have := Rat.mul_le_mul_of_nonneg_left (by grind : c - 1 ≤ d - 1) h.magA
  have := h.err
  grind

theorem Approx.rnd (R : Rounding) {a' a A c : Rat} (h : Approx a' a A c) : Approx (R.rnd a') a A (c * (1 + R.u)) := by
  refine ⟨?_, h.mag, ?_⟩
  · have t := ab_add (R.rnd a' - a') (a' - a)
    have e : R.rnd a' - a' + (a' - a) = R.rnd a' - a := by grind
    rw [e] at t
    have r := R.rnd_err a'
    have m := Rat.mul_le_mul_of_nonneg_left h.computed_mag R.u_nonneg    -- u * |a'| ≤ u * (A c)
    have := h.err
    grind
  · have := h.c1; have := R.u_nonneg
    have := Rat.mul_nonneg (by grind : (0 : Rat) ≤ c) R.u_nonneg
    grind

theorem Approx.mul {a' a A c b' b B d : Rat} (ha : Approx a' a A c) (hb : Approx b' b B d) :
    Approx (a' * b') (a * b) (A * B) (c * d) := by
  refine ⟨?_, ?_, ?_⟩
  · have e : a' * b' - a * b = (a' - a) * b' + a * (b' - b) := by grind
    rw [e]
    have t := ab_add ((a' - a) * b') (a * (b' - b))
    rw [ab_mul, ab_mul] at t
    have p1 := mul_le_mul' ha.err hb.computed_mag (ab_nonneg _) (ab_nonneg _)
    have p2 := mul_le_mul' ha.mag hb.err (ab_nonneg _) (ab_nonneg _)
    grind
  · rw [ab_mul]; exact mul_le_mul' ha.mag hb.mag (ab_nonneg _) (ab_nonneg _)
  · have := ha.c1; have := hb.c1
    have := Rat.mul_nonneg (by grind : (0 : Rat) ≤ c - 1) (by grind : (0 : Rat) ≤ d)
    grind

theorem Approx.add {a' a A b' b B c : Rat} (ha : Approx a' a A c) (hb : Approx b' b B c) :
    Approx (a' + b') (a + b) (A + B) c := by
  refine ⟨?_, ?_, ha.c1⟩
  · have e : a' + b' - (a + b) = (a' - a) + (b' - b) := by grind
    rw [e]
    have := ab_add (a' - a) (b' - b)
    have := ha.err; have := hb.err
    grind
  · have := ab_add a b; have := ha.mag; have := hb.mag; grind

/-- `(*ConversionFactors).ConvertReading` with each floating-point operation rounded by `R`:
    `mX := int64(M) * int64(raw)` (exact), `b10k1 := float64(B) * math.Pow10(K1)`, `(float64(mX) + b10k1) * math.Pow10(K2)` -/
def convertFloat (R : Rounding) (M B K1 K2 x : Int) : Rat :=
  R.rnd (R.rnd ((M : Rat) * (x : Rat) + R.rnd ((B : Rat) * R.rnd ((10 : Rat) ^ K1))) * R.rnd ((10 : Rat) ^ K2))

end Bmc.FloatModel
