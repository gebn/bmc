import Bmc.Lemmas.SessionSpec
import Bmc.Lemmas.AttemptLaws
/-! The session ID and sequence number a datagram carries in clear (C09). -/
namespace Bmc.Proto
open Bmc Bmc.Wire Bmc.Crypto

/-- the session-ID and sequence fields of a datagram, as the BMC reads them (wire offsets 6 and 10) -/
def sessionIDOf (pkt : Bytes) : Nat := le32 (pkt.drop 6)
def seqOf (pkt : Bytes) : Nat := le32 (pkt.drop 10)

theorem wrapper_fields (hdr : Bytes) (hh : hdr.length = 4) (mac : Bytes → Bytes) (s : V2Session) (inner : Bytes)
    (hpt : s.payloadType ≠ 2) (hid : s.id < 4294967296) (hseq : s.sequence < 4294967296) :
    sessionIDOf (hdr ++ (V2Session.encode mac s inner).2) = s.id ∧ seqOf (hdr ++ (V2Session.encode mac s inner).2) = s.sequence := by
  have e := (List.take_append_drop 8 ((V2Session.encode mac s inner).2.drop 2)).symm
  rw [V2Session.encode_ids mac s inner hpt, List.append_assoc] at e
  have d6 : (hdr ++ (V2Session.encode mac s inner).2).drop 6 = (V2Session.encode mac s inner).2.drop 2 := by
    rw [show 6 = 4 + 2 from rfl, ← List.drop_drop, List.drop_left' hh]
  constructor
  · rw [sessionIDOf, d6, e]; exact le32_putLE32 _ hid _
  · rw [seqOf, show 10 = 6 + 4 from rfl, ← List.drop_drop, d6, e]; exact le32_putLE32 _ hseq _

theorem nthDatagram_fields (C : Ops) (k : Keys) (c : Cmd) (inb : Nat) (ivs : List Bytes) (i : Nat) (hr : k.remoteID < 4294967296) :
    sessionIDOf (nthDatagram C k c inb ivs i) = k.remoteID ∧ seqOf (nthDatagram C k c inb ivs i) = (inb + i + 1) % 4294967296 := by
  have h : sessionIDOf (nthDatagram C k c inb ivs i) = k.remoteID ∧
      seqOf (nthDatagram C k c inb ivs i) = ((inb + i) % 4294967296 + 1) % 4294967296 :=
    wrapper_fields (RMCP.encode { version := 6, sequence := 0xFF, ack := false, cls := 7 }) rfl (integMac C k.integ k.k1)
      { encrypted := true, authenticated := true, id := k.remoteID, payloadType := 0, sequence := ((inb + i) % 4294967296 + 1) % 4294967296 }
      _ (by decide : (0 : UInt8) ≠ 2) hr (Nat.mod_lt _ (by decide))
  exact ⟨h.1, h.2.trans (by omega)⟩

end Bmc.Proto
