import Bmc.Wire.Rakp1
/-! Refinement of `RAKP1.decodeGo` to the pure decoder. -/
namespace Bmc.Wire.Setup
open Bmc Bmc.Wire

theorem u8_gt16 (n : UInt8) : (n > 16) ↔ n.toNat > 16 := by
  show (16 : UInt8) < n ↔ _
  rw [UInt8.lt_iff_toNat_lt]; rfl

theorem u8_add28 (n : UInt8) (h : ¬ n.toNat > 16) : (28 + n).toNat = 28 + n.toNat := by
  rw [UInt8.toNat_add]
  have : (28 : UInt8).toNat = 28 := rfl
  omega

theorem RAKP1.decodeGo_refines (prev : RAKP1) (d : GoSlice) :
    RAKP1.decodeGo prev d = R.ofExcept (RAKP1.decode d.vis) := by
  unfold RAKP1.decodeGo RAKP1.decode
  simp only [GoSlice.vis_length]
  refine R.guard_ofExcept fun h => ?_
  have hn : 28 ≤ d.len := Nat.le_of_not_lt h
  go_reads hn [le32_take, Nat.reduceSub, Nat.le_refl, u8_gt16]
  generalize List.getD d.vis 27 0 = n
  refine R.guard_ofExcept fun h16 => ?_
  rw [u8_add28 _ h16]
  refine R.guard_ofExcept fun hl => ?_
  rw [GoSlice.slice_ok d 28 (28 + n.toNat) (by omega) (by omega)]
  simp only [R.bind_ok, GoSlice.sub_vis, Nat.add_sub_cancel_left]
  rfl

end Bmc.Wire.Setup
