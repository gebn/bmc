import Bmc.Lemmas.SessionLaws
/-! The in-session send loop refines the documented contract: a fold over the per-attempt outcomes whose
    classification of each reply depends on the keys, the command and that reply alone. -/
namespace Bmc.Proto
open Bmc Bmc.Wire Bmc.Crypto

inductive Class where
  | final (cc : UInt8) (payload : Bytes)     -- an acceptable response with a non-temporary completion code
  | retry                                     -- anything else that arrived
  | crash
  deriving DecidableEq, Repr

/-- `Proto.acceptable` as a function of the keys (`acceptable_eq`) -/
def accept (k : Keys) (c : Cmd) (v2 : V2Session) (msg : Message) : Bool :=
  (k.integ == 0 || v2.authenticated) && v2.id == k.localID &&
  msg.function == c.fn + 1 && msg.command == c.cmd && msg.body == c.body && msg.enterprise == c.ent

def classify (C : Ops) (k : Keys) (c : Cmd) (d : Bytes) : Class :=
  match view (onReply C k.sess (GoSlice.ofBytes d)) with
  | (.crash, _) => .crash
  | (.message, some (v2, msg)) =>
    if accept k c v2 msg && !isTemp msg.completionCode then .final msg.completionCode msg.payload else .retry
  | _ => .retry

/-- the documented behaviour of `SendCommand` inside a session, as a fold over the outcomes: number of datagrams
    transmitted and the result -/
def expected (cls : Bytes → Class) : List Outcome → Nat × Res
  | [] => (0, .ctxExpired)
  | .lost :: _ => (1, .transportErr)
  | .reply d :: rest =>
    match cls d with
    | .final cc p => (1, .ok cc p)
    | .crash => (1, .crashed)
    | .retry => ((expected cls rest).1 + 1, (expected cls rest).2)

theorem acceptable_eq (s0 : Sess) (c : Cmd) (s : Sess) : acceptable s0 c s = accept s0.keys c s.v2 s.msg := rfl

theorem accept_iff {k : Keys} {c : Cmd} {v2 : V2Session} {msg : Message} :
    accept k c v2 msg = true ↔ (k.integ ≠ 0 → v2.authenticated = true) ∧ v2.id = k.localID ∧
      msg.function = c.fn + 1 ∧ msg.command = c.cmd ∧ msg.body = c.body ∧ msg.enterprise = c.ent := by
  simp only [accept, Bool.and_eq_true, Bool.or_eq_true, beq_iff_eq, and_assoc, ne_eq, Decidable.or_iff_not_imp_left]

theorem classify_of_view {C : Ops} {k : Keys} {c : Cmd} {d : Bytes} {v2 : V2Session} {msg : Message}
    (h : view (onReply C k.sess (GoSlice.ofBytes d)) = (.message, some (v2, msg))) :
    classify C k c d = if accept k c v2 msg && !isTemp msg.completionCode then .final msg.completionCode msg.payload else .retry := by
  unfold classify; rw [h]

theorem classify_final_inv (C : Ops) (k : Keys) (c : Cmd) (d : Bytes) (cc : UInt8) (p : Bytes)
    (h : classify C k c d = .final cc p) :
    ∃ v2 msg, view (onReply C k.sess (GoSlice.ofBytes d)) = (.message, some (v2, msg)) ∧
      accept k c v2 msg = true ∧ isTemp msg.completionCode = false ∧ msg.completionCode = cc ∧ msg.payload = p := by
  unfold classify at h
  split at h
  · cases h
  · rename_i v2 msg hv
    split at h
    · rename_i hacc
      cases h
      simp only [Bool.and_eq_true, Bool.not_eq_true'] at hacc
      exact ⟨v2, msg, hv, hacc.1, hacc.2, rfl, rfl⟩
    · cases h
  · cases h

theorem expected_le (cls : Bytes → Class) (script : List Outcome) : (expected cls script).1 ≤ script.length := by
  induction script with
  | nil => exact Nat.le_refl 0
  | cons o rest ih =>
    cases o with
    | lost => exact Nat.succ_le_succ (Nat.zero_le _)
    | reply d => rw [expected]; split <;> simp <;> omega

theorem expected_ok_inv (cls : Bytes → Class) (script : List Outcome) (cc : UInt8) (p : Bytes)
    (h : (expected cls script).2 = .ok cc p) : ∃ d, Outcome.reply d ∈ script ∧ cls d = .final cc p := by
  induction script with
  | nil => cases h
  | cons o rest ih =>
    cases o with
    | lost => cases h
    | reply d =>
      rw [expected] at h
      cases hc : cls d with
      | final cc' p' => rw [hc] at h; cases h; exact ⟨d, .head _, hc⟩
      | crash => rw [hc] at h; cases h
      | retry =>
        rw [hc] at h
        obtain ⟨d', hm, hd⟩ := ih h
        exact ⟨d', .tail _ hm, hd⟩

theorem expected_retries (cls : Bytes → Class) (pre : List Outcome) (hpre : ∀ o ∈ pre, ∃ d, o = .reply d ∧ cls d = .retry)
    (rest : List Outcome) :
    expected cls (pre ++ rest) = (pre.length + (expected cls rest).1, (expected cls rest).2) := by
  induction pre with
  | nil => exact Prod.ext (Nat.zero_add _).symm rfl
  | cons o pre ih =>
    obtain ⟨d, rfl, hd⟩ := hpre _ (.head _)
    rw [List.cons_append, expected, hd, ih fun o ho => hpre o (.tail _ ho)]
    exact Prod.ext (Nat.add_right_comm _ _ 1) rfl

/-- the i-th datagram of a command started with the counter at `inb` -/
def nthDatagram (C : Ops) (k : Keys) (c : Cmd) (inb : Nat) (ivs : List Bytes) (i : Nat) : Bytes :=
  datagramOf C k c ((inb + i) % 4294967296) (ivs.getD i [])

theorem datagramOf_mod (C : Ops) (k : Keys) (c : Cmd) (n : Nat) (iv : Bytes) :
    datagramOf C k c (n % 4294967296) iv = datagramOf C k c n iv := by
  unfold datagramOf attempt initLayers
  simp only [Nat.add_mod, Nat.mod_mod]

theorem nth_shift (C : Ops) (k : Keys) (c : Cmd) (inb : Nat) (iv : Bytes) (ivs : List Bytes) (i : Nat) :
    nthDatagram C k c ((inb + 1) % 4294967296) ivs i = nthDatagram C k c inb (iv :: ivs) (i + 1) := by
  unfold nthDatagram
  rw [show ((inb + 1) % 4294967296 + i) % 4294967296 = (inb + (i + 1)) % 4294967296 by omega]
  rfl

theorem after_reply (C : Ops) (s : Sess) (c : Cmd) (iv : Bytes) (d : GoSlice) :
    (onReply C (attempt C (initLayers s c) c iv).1 d).1.keys = s.keys ∧
    (onReply C (attempt C (initLayers s c) c iv).1 d).1.inbound = (s.inbound + 1) % 4294967296 :=
  onReply_keys C (attempt C (initLayers s c) c iv).1 d

/-- the classification, read off the decode into ANY state that holds these keys -/
theorem classify_eq (C : Ops) (s1 : Sess) {k : Keys} (hk : s1.keys = k) (c : Cmd) (d : Bytes) :
    classify C k c d =
      (match onReply C s1 (GoSlice.ofBytes d) with
       | (_, .crash) => Class.crash
       | (s2, .message) =>
         if accept k c s2.v2 s2.msg && !isTemp s2.msg.completionCode
         then Class.final s2.msg.completionCode s2.msg.payload else Class.retry
       | _ => Class.retry) := by
  subst hk
  unfold classify
  rw [← onReply_view C s1]
  rcases onReply C s1 (GoSlice.ofBytes d) with ⟨s2, _ | _ | _ | _⟩ <;> rfl

theorem sendLoop_serfail (C : Ops) (c : Cmd) (hf : c.reqFails = true) (s : Sess) (iv : Bytes) (ivs : List Bytes) (o : Outcome)
    (rest : List Outcome) : sendLoop C c s (iv :: ivs) (o :: rest) = (initLayers s c, [], .serializeErr) := by
  rw [sendLoop, if_pos hf]

theorem sendLoop_lost (C : Ops) (c : Cmd) (hf : c.reqFails = false) (s : Sess) (iv : Bytes) (ivs : List Bytes) (rest : List Outcome) :
    sendLoop C c s (iv :: ivs) (.lost :: rest) =
      ((attempt C (initLayers s c) c iv).1, [(attempt C (initLayers s c) c iv).2], .transportErr) := by
  rw [sendLoop, if_neg (by simp [hf])]

theorem sendLoop_reply (C : Ops) (c : Cmd) (hf : c.reqFails = false) (s : Sess) (iv : Bytes) (ivs : List Bytes)
    (d : Bytes) (rest : List Outcome) :
    sendLoop C c s (iv :: ivs) (.reply d :: rest) =
      (match classify C s.keys c d with
       | .crash => ((onReply C (attempt C (initLayers s c) c iv).1 (GoSlice.ofBytes d)).1,
                    [(attempt C (initLayers s c) c iv).2], Res.crashed)
       | .final cc pl => ((onReply C (attempt C (initLayers s c) c iv).1 (GoSlice.ofBytes d)).1,
                    [(attempt C (initLayers s c) c iv).2], Res.ok cc pl)
       | .retry =>
         ((sendLoop C c (onReply C (attempt C (initLayers s c) c iv).1 (GoSlice.ofBytes d)).1 ivs rest).1,
          (attempt C (initLayers s c) c iv).2 ::
            (sendLoop C c (onReply C (attempt C (initLayers s c) c iv).1 (GoSlice.ofBytes d)).1 ivs rest).2.1,
          (sendLoop C c (onReply C (attempt C (initLayers s c) c iv).1 (GoSlice.ofBytes d)).1 ivs rest).2.2)) := by
  rw [classify_eq C (attempt C (initLayers s c) c iv).1 (rfl : _ = s.keys), sendLoop, if_neg (by simp [hf])]
  dsimp only
  rcases onReply C (attempt C (initLayers s c) c iv).1 (GoSlice.ofBytes d) with ⟨s2, _ | _ | _ | _⟩
  case message =>
    simp only [acceptable_eq]
    split <;> simp [*]
  all_goals rfl
/-- REFINEMENT: the loop's result, the number and the very bytes of the datagrams it transmits, the keys and the
    final counter are those of the contract -/
theorem sendLoop_spec (C : Ops) (c : Cmd) (hf : c.reqFails = false) (s : Sess) (hs : s.inbound < 4294967296)
    (ivs : List Bytes) (script : List Outcome) (hl : script.length ≤ ivs.length) :
    (sendLoop C c s ivs script).2.2 = (expected (classify C s.keys c) script).2 ∧
    (sendLoop C c s ivs script).2.1
      = (List.range (expected (classify C s.keys c) script).1).map (nthDatagram C s.keys c s.inbound ivs) ∧
    (sendLoop C c s ivs script).1.keys = s.keys ∧
    (sendLoop C c s ivs script).1.inbound = (s.inbound + (expected (classify C s.keys c) script).1) % 4294967296 := by
  induction script generalizing s ivs with
  | nil => rw [sendLoop]; exact ⟨rfl, rfl, rfl, (Nat.mod_eq_of_lt hs).symm⟩
  | cons o rest ih =>
    obtain _ | ⟨iv, ivs⟩ := ivs
    · cases hl
    have hpkt : [(attempt C (initLayers s c) c iv).2] = (List.range 1).map (nthDatagram C s.keys c s.inbound (iv :: ivs)) :=
      congrArg (· :: []) (datagramOf_mod C s.keys c s.inbound iv).symm
    cases o with
    | lost => rw [sendLoop_lost C c hf]; exact ⟨rfl, hpkt, rfl, rfl⟩
    | reply d =>
      obtain ⟨hk, hi⟩ := after_reply C s c iv (GoSlice.ofBytes d)
      have ih := ih _ (hi ▸ Nat.mod_lt _ (by decide)) ivs (Nat.le_of_succ_le_succ hl)
      rw [hk, hi] at ih
      rw [sendLoop_reply C c hf, expected]
      cases classify C s.keys c d with
      | crash => exact ⟨rfl, hpkt, hk, hi⟩
      | final cc pl => exact ⟨rfl, hpkt, hk, hi⟩
      | retry =>
        obtain ⟨r1, r2, r3, r4⟩ := ih
        dsimp only
        refine ⟨r1, ?_, r3, r4.trans (by omega)⟩
        rw [range_succ_map, r2, List.cons.injEq]
        exact ⟨(List.cons.inj hpkt).1, List.map_congr_left fun i _ => nth_shift C s.keys c s.inbound iv ivs i⟩

theorem sendLoop_unserialisable (C : Ops) (c : Cmd) (hf : c.reqFails = true) (s : Sess) (ivs : List Bytes) (script : List Outcome) :
    (sendLoop C c s ivs script).2.1 = [] ∧ (sendLoop C c s ivs script).1.keys = s.keys ∧
    (sendLoop C c s ivs script).1.inbound = s.inbound ∧
    ((sendLoop C c s ivs script).2.2 = .ctxExpired ∨ (sendLoop C c s ivs script).2.2 = .serializeErr) := by
  rcases script with _ | ⟨o, rest⟩ <;> rcases ivs with _ | ⟨iv, ivs⟩ <;> simp [sendLoop, hf, initLayers, Sess.keys]

/-- what ANY command sends and where it leaves the session -/
theorem sendLoop_sent (C : Ops) (c : Cmd) (s : Sess) (hs : s.inbound < 4294967296) (ivs : List Bytes) (script : List Outcome)
    (hl : script.length ≤ ivs.length) :
    ∃ n, n ≤ script.length ∧ (sendLoop C c s ivs script).2.1 = (List.range n).map (nthDatagram C s.keys c s.inbound ivs) ∧
      (sendLoop C c s ivs script).1.keys = s.keys ∧ (sendLoop C c s ivs script).1.inbound = (s.inbound + n) % 4294967296 := by
  cases hf : c.reqFails with
  | false => exact ⟨_, expected_le _ _, (sendLoop_spec C c hf s hs ivs script hl).2⟩
  | true =>
    obtain ⟨h1, h2, h3, -⟩ := sendLoop_unserialisable C c hf s ivs script
    exact ⟨0, Nat.zero_le _, h1, h2, h3.trans (Nat.mod_eq_of_lt hs).symm⟩

theorem sendLoop_retries_then_final (C : Ops) (c : Cmd) (hf : c.reqFails = false) (s : Sess) (hs : s.inbound < 4294967296)
    (ivs : List Bytes) (pre : List Outcome) (hpre : ∀ o ∈ pre, ∃ d, o = .reply d ∧ classify C s.keys c d = .retry)
    (d : Bytes) (cc : UInt8) (p : Bytes) (hd : classify C s.keys c d = .final cc p) (rest : List Outcome)
    (hl : pre.length + 1 + rest.length ≤ ivs.length) :
    (sendLoop C c s ivs (pre ++ .reply d :: rest)).2 =
      ((List.range (pre.length + 1)).map (nthDatagram C s.keys c s.inbound ivs), .ok cc p) := by
  obtain ⟨h1, h2, -⟩ := sendLoop_spec C c hf s hs ivs (pre ++ .reply d :: rest) (by simp; omega)
  rw [expected_retries _ _ hpre, expected, hd] at h1 h2
  exact Prod.ext h2 h1

theorem sendLoop_ok_inv (C : Ops) (c : Cmd) (hf : c.reqFails = false) (s : Sess) (hs : s.inbound < 4294967296)
    (ivs : List Bytes) (script : List Outcome) (hl : script.length ≤ ivs.length) (cc : UInt8) (p : Bytes)
    (h : (sendLoop C c s ivs script).2.2 = .ok cc p) :
    ∃ d v2 msg, Outcome.reply d ∈ script ∧ view (onReply C s.keys.sess (GoSlice.ofBytes d)) = (.message, some (v2, msg)) ∧
      accept s.keys c v2 msg = true ∧ isTemp msg.completionCode = false ∧ msg.completionCode = cc ∧ msg.payload = p := by
  rw [(sendLoop_spec C c hf s hs ivs script hl).1] at h
  obtain ⟨d, hm, hc⟩ := expected_ok_inv _ _ _ _ h
  obtain ⟨v2, msg, hv⟩ := classify_final_inv C s.keys c d cc p hc
  exact ⟨d, v2, msg, hm, hv⟩

end Bmc.Proto
