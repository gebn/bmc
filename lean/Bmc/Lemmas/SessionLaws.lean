import Bmc.Proto.Session
import Bmc.Lemmas.V2Refine
/-! The in-session send loop seen from outside: the part of the state no command changes (`Keys`), what the loop looks at after
    decoding a reply (`view`: a function of the keys and the datagram, `onReply_view_eq`), and the datagram an attempt transmits as
    a function of keys, command, counter and IV (`datagramOf`). -/
namespace Bmc.Proto
open Bmc Bmc.Wire Bmc.Crypto

/-- the part of the session state that never changes during a command -/
structure Keys where
  localID : Nat
  remoteID : Nat
  integ : Nat
  k1 : Bytes
  k2 : Bytes
  deriving DecidableEq

def Sess.keys (s : Sess) : Keys := ⟨s.localID, s.remoteID, s.integ, s.k1, s.k2⟩

/-- what decoding a reply leaves in the layers, and how the chain ended (a layer the chain did not reach keeps what it held) -/
structure Seen where
  rmcp : RMCP
  v2 : V2Session
  msg : Message
  how : Decoded

def Sess.seen (p : Sess × Decoded) : Seen := ⟨p.1.rmcp, p.1.v2, p.1.msg, p.2⟩

theorem rmcp_decode_any (prev : RMCP) (b0 b1 b2 b3 : UInt8) (rest : Bytes) :
    RMCP.decodeGo prev (GoSlice.ofBytes (b0 :: b1 :: b2 :: b3 :: rest)) =
      .ok ({ version := b0, sequence := b2, ack := b3 &&& 0x80 != 0, cls := b3 &&& 0xF }, GoSlice.ofBytes rest) := by
  have hn : 4 ≤ (GoSlice.ofBytes (b0 :: b1 :: b2 :: b3 :: rest)).len := by simp
  unfold RMCP.decodeGo
  simp only [Nat.not_lt.2 hn, if_false, GoSlice.idx_of_le hn, GoSlice.sliceFrom_of_le hn, Nat.reduceLT, Nat.le_refl, R.bind_ok,
    R.pure_eq, GoSlice.vis_ofBytes]
  simp [GoSlice.sub, GoSlice.ofBytes]

theorem onMessage_keys (s : Sess) (d : GoSlice) :
    (onMessage s d).1.keys = s.keys ∧ (onMessage s d).1.inbound = s.inbound := by
  unfold onMessage
  cases (d.len == 0)
  case true => exact ⟨rfl, rfl⟩
  rcases Message.decodeGo 8 s.msg d with m | _ | _ | _ <;> exact ⟨rfl, rfl⟩

theorem onWrapper_keys (C : Ops) (s : Sess) (v : V2Session) :
    (onWrapper C s v).1.keys = s.keys ∧ (onWrapper C s v).1.inbound = s.inbound := by
  unfold onWrapper
  cases v.payload.isEmpty
  case true => exact ⟨rfl, rfl⟩
  cases (v.payloadType != 0)
  case true => exact ⟨rfl, rfl⟩
  cases v.encrypted
  case false => exact onMessage_keys _ _
  rcases AESLayer.decodeGo C s.k2 true {} (GoSlice.ofBytes v.payload) with a | _ | _ | _
  case ok => exact onMessage_keys _ _
  all_goals exact ⟨rfl, rfl⟩

theorem onReply_keys (C : Ops) (s : Sess) (d : GoSlice) :
    (onReply C s d).1.keys = s.keys ∧ (onReply C s d).1.inbound = s.inbound := by
  unfold onReply
  rcases RMCP.decodeGo s.rmcp d with ⟨r, p⟩ | _ | _ | _
  case err | panic | overread => exact ⟨rfl, rfl⟩
  dsimp only
  cases (p.len == 0)
  case true => exact ⟨rfl, rfl⟩
  cases (r.cls != 7)
  case true => exact ⟨rfl, rfl⟩
  cases (p.vis.getD 0 0 != 6)
  case true => exact ⟨rfl, rfl⟩
  rcases V2Session.decodeGo (integMac C s.integ s.k1) s.v2 p with v | _ | _ | _
  case ok => exact onWrapper_keys C _ v
  all_goals exact ⟨rfl, rfl⟩

theorem initLayers_keys (s : Sess) (c : Cmd) : (initLayers s c).keys = s.keys ∧ (initLayers s c).inbound = s.inbound :=
  ⟨rfl, rfl⟩

theorem attempt_keys (C : Ops) (s : Sess) (c : Cmd) (iv : Bytes) :
    (attempt C s c iv).1.keys = s.keys ∧ (attempt C s c iv).1.inbound = (s.inbound + 1) % 4294967296 :=
  ⟨rfl, rfl⟩

def datagramOf (C : Ops) (k : Keys) (c : Cmd) (inbound : Nat) (iv : Bytes) : Bytes :=
  (attempt C (initLayers { inbound := inbound, localID := k.localID, remoteID := k.remoteID, integ := k.integ
                           k1 := k.k1, k2 := k.k2 } c) c iv).2

theorem attempt_init_eq (C : Ops) (s : Sess) (c : Cmd) (iv : Bytes) :
    (attempt C (initLayers s c) c iv).2 = datagramOf C s.keys c s.inbound iv := rfl

def Keys.sess (k : Keys) : Sess :=
  { localID := k.localID, remoteID := k.remoteID, integ := k.integ, k1 := k.k1, k2 := k.k2 }

/-- what the send loop looks at after decoding a reply: how the chain ended and, when it reached the message layer,
    the session wrapper and message it decoded -/
def view (p : Sess × Decoded) : Decoded × Option (V2Session × Message) :=
  (p.2, if p.2 = .message then some (p.1.v2, p.1.msg) else none)

theorem onMessage_view (s s' : Sess) (hv : s'.v2 = s.v2) (d : GoSlice) : view (onMessage s' d) = view (onMessage s d) := by
  unfold onMessage
  rw [show Message.decodeGo 8 s'.msg d = Message.decodeGo 8 s.msg d from rfl]
  cases (d.len == 0)
  case true => rfl
  rcases Message.decodeGo 8 s.msg d with m | _ | _ | _
  case ok => exact congrArg (fun v => (Decoded.message, some (v, m))) hv
  all_goals rfl

theorem onWrapper_view (C : Ops) (s s' : Sess) (hk : s'.k2 = s.k2) (v : V2Session) :
    view (onWrapper C s' v) = view (onWrapper C s v) := by
  unfold onWrapper
  rw [hk]
  cases v.payload.isEmpty
  case true => rfl
  cases (v.payloadType != 0)
  case true => rfl
  cases v.encrypted
  case false => exact onMessage_view _ _ (by rfl) _
  rcases AESLayer.decodeGo C s.k2 true {} (GoSlice.ofBytes v.payload) with a | _ | _ | _
  case ok => exact onMessage_view _ _ (by rfl) _
  all_goals rfl

/-- **the receive chain in terms of the pure decoders**, as the loop sees it (`view`): the RMCP layer; the three tests on what it
    leaves (something follows, class IPMI, RMCP+ format byte); the session wrapper under the session's integrity function; then
    `onWrapper`. No decoder looks at the layer it overwrites, and `view` does not show the RMCP layer: of `s` only the keys are read. -/
theorem onReply_view_eq (C : Ops) (s : Sess) (d : GoSlice) :
    view (onReply C s d) =
      match RMCP.decodeGo {} d with
      | .err => (.fail, none)
      | .panic | .overread => (.crash, none)
      | .ok (r, p) =>
        if p.len == 0 || r.cls != 7 || p.vis.getD 0 0 != 6 then (.notMessage, none) else
        match V2Session.decode (integMac C s.integ s.k1) p.vis with
        | .error _ => (.fail, none)
        | .ok v => view (onWrapper C s v) := by
  unfold onReply
  rw [show RMCP.decodeGo s.rmcp d = RMCP.decodeGo {} d from rfl]
  rcases RMCP.decodeGo {} d with ⟨r, p⟩ | _ | _ | _
  case err | panic | overread => rfl
  dsimp only
  cases (p.len == 0)
  case true => rfl
  cases (r.cls != 7)
  case true => rfl
  cases (p.vis.getD 0 0 != 6)
  case true => rfl
  rw [V2Session.decodeGo_refines]
  cases V2Session.decode (integMac C s.integ s.k1) p.vis
  case error => rfl
  case ok v => exact onWrapper_view C s { s with rmcp := r } rfl v

/-- decoding a reply gives the same verdict, wrapper and message whatever the layers held before and whatever the
    counter is: they are a function of the keys and the datagram -/
theorem onReply_view (C : Ops) (s : Sess) (d : GoSlice) : view (onReply C s d) = view (onReply C s.keys.sess d) := by
  rw [onReply_view_eq, onReply_view_eq]
  simp only [onWrapper_view C s.keys.sess s rfl]
  rfl

end Bmc.Proto
