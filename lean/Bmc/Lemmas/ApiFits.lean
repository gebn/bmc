import Bmc.Spec.Sess
import Bmc.Spec.Sdr
import Bmc.Spec.Dcmi
import Bmc.Spec.DeviceID
import Bmc.Lemmas.DcmiBits
/-! Lengths of the specification's response encodings: all within 65000 bytes, the bound (`hfit` of C07's
    `call_returns_decoded`) under which the encrypted response still has a 16-bit length (`Proto.responseAes_fits`). -/
namespace Bmc.Spec
open Bmc

theorem DeviceID.encode_fits (v : DeviceID) : v.encode.length ≤ 65000 := by
  unfold DeviceID.encode; cases v.aux <;> simp [le24, le16]

theorem AuthCaps.encode_fits (v : AuthCaps) : v.encode.length ≤ 65000 := by simp [AuthCaps.encode, le24]

theorem SessionInfo.encode_fits (v : SessionInfo) : v.encode.length ≤ 65000 := by
  unfold SessionInfo.encode
  cases v.session with
  | none => simp
  | some s =>
    obtain ⟨u, p, v20, ch, chan⟩ := s
    cases chan with
    | absent => simp [ActiveSession.encode, SessionChannelInfo.encode]
    | lan ip mac port =>
      obtain ⟨a, b, c, d⟩ := ip; obtain ⟨m0, m1, m2, m3, m4, m5⟩ := mac
      simp [ActiveSession.encode, SessionChannelInfo.encode, le16]
    | serial act dest ip port =>
      obtain ⟨a, b, c, d⟩ := ip
      cases port <;> simp [ActiveSession.encode, SessionChannelInfo.encode, le16]

theorem ChassisStatus.encode_fits (v : ChassisStatus) : v.encode.length ≤ 65000 := by
  unfold ChassisStatus.encode; cases v.frontPanel <;> simp

theorem SDRRepoInfo.encode_fits (v : SDRRepoInfo) : v.encode.length ≤ 65000 := by simp [SDRRepoInfo.encode, le16, le32]
theorem ReserveSDR.encode_fits (v : ReserveSDR) : v.encode.length ≤ 65000 := by simp [ReserveSDR.encode, le16]
theorem SensorReading.encode_fits (v : SensorReading) : v.encode.length ≤ 65000 := by
  unfold SensorReading.encode; cases v.states2 <;> simp
theorem PowerReading.encode_fits (v : PowerReading) : v.encode.length ≤ 65000 := by simp [PowerReading.encode, le16, le32]
theorem SensorInfo.encode_fits (v : SensorInfo) (h : v.wf) : v.encode.length ≤ 65000 := by
  have := h.1
  simp only [SensorInfo.encode, List.length_append, Lemmas.Dcmi.flat_length, List.length_cons, List.length_nil]; omega

theorem DcmiVersion.header_length (v : DcmiVersion) : v.header.length = 3 := by cases v <;> rfl
theorem Cap1.encode_fits (v : Cap1) : v.encode.length ≤ 65000 := by
  unfold Cap1.encode; split <;> simp [DcmiVersion.header_length]
theorem Cap2.encode_fits (v : Cap2) : v.encode.length ≤ 65000 := by
  unfold Cap2.encode; split <;> simp [DcmiVersion.header_length]
theorem Cap3.encode_fits (v : Cap3) : v.encode.length ≤ 65000 := by simp [Cap3.encode, DcmiVersion.header_length]
theorem Cap4.encode_fits (v : Cap4) : v.encode.length ≤ 65000 := by simp [Cap4.encode, DcmiVersion.header_length]
theorem Cap5.encode_fits (v : Cap5) (h : v.wf) : v.encode.length ≤ 65000 := by
  have := h.1
  simp only [Cap5.encode, List.length_append, List.length_cons, List.length_map, DcmiVersion.header_length]; omega

end Bmc.Spec
