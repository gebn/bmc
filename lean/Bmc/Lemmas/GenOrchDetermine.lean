import Bmc.Proofs.GenOrch.RetrieveSupportedCipherSuites
import Bmc.Proto.Discovery
/-! Helper lemmas for `Proofs/GenOrch/DetermineCipherSuite.lean`: the selection (a Go map used as a set, then the first
    desired suite in it) against the hand model's `find?` / `contains`; discovery followed by the selection, with the
    regenerated `RetrieveSupportedCipherSuites` as a black box (its equality theorem). -/
namespace Bmc.Lemmas.GenOrchSuites
open Bmc Bmc.GoOrch Bmc.Gen.Orch Bmc.Proto.Enum Bmc.Lemmas.GenOrch
open Bmc.Proto Bmc.Proofs.GenOrch

def viewSuite (c : Gen.Dec.CipherSuite) : Suite :=
  ⟨c.authenticationAlgorithm.toNat, c.integrityAlgorithm.toNat, c.confidentialityAlgorithm.toNat⟩

theorem viewSuite_inj (a b : Gen.Dec.CipherSuite) : viewSuite a = viewSuite b ↔ a = b := by
  constructor
  · intro h
    cases a; cases b
    simp only [viewSuite, Suite.mk.injEq] at h
    simp only [Gen.Dec.CipherSuite.mk.injEq]
    exact ⟨UInt8.toNat_inj.mp h.1, UInt8.toNat_inj.mp h.2.1, UInt8.toNat_inj.mp h.2.2⟩
  · intro h; rw [h]

/-- what `determineCipherSuite` returns, and whether it ran discovery, read off the hand model's outcome -/
def resultOf : Choice → R Suite
  | .propose s _ => .ok s
  | _ => .err
def discoveryRan : Choice → Bool
  | .propose _ d => d
  | _ => true

theorem suiteOfEntry_toEntry (r : Gen.Dec.CipherSuiteRecord) : suiteOfEntry r.toEntry = viewSuite r.cipherSuite := rfl

theorem find_view (desired : List Gen.Dec.CipherSuite) (recs : List Gen.Dec.CipherSuiteRecord) :
    (desired.find? (fun d => recs.any (fun x => decide (x.cipherSuite = d)))).map viewSuite
      = (desired.map viewSuite).find? (fun p => ((recs.map Gen.Dec.CipherSuiteRecord.toEntry).map suiteOfEntry).contains p) := by
  induction desired with
  | nil => rfl
  | cons d ds ih =>
    simp only [List.map_cons, List.find?_cons]
    have h : recs.any (fun x => decide (x.cipherSuite = d))
        = ((recs.map Gen.Dec.CipherSuiteRecord.toEntry).map suiteOfEntry).contains (viewSuite d) := by
      rw [Bool.eq_iff_iff, List.map_map]
      simp only [List.any_eq_true, decide_eq_true_eq, List.contains_iff_mem, List.mem_map, Function.comp]
      constructor
      · rintro ⟨x, hx, rfl⟩; exact ⟨x, hx, rfl⟩
      · rintro ⟨x, hx, he⟩; exact ⟨x, hx, (viewSuite_inj _ _).mp he⟩
    rw [← h]
    cases recs.any (fun x => decide (x.cipherSuite = d)) <;> simp [ih]

theorem select_view (desired : List Gen.Dec.CipherSuite) (recs : List Gen.Dec.CipherSuiteRecord) :
    (desired.find? (fun d => mapHas (recs.foldl (fun m (x : Gen.Dec.CipherSuiteRecord) => mapSet m x.cipherSuite ()) []) d)).map viewSuite
      = (desired.map viewSuite).find? (fun p => ((recs.map Gen.Dec.CipherSuiteRecord.toEntry).map suiteOfEntry).contains p) := by
  rw [← find_view]
  congr 2
  funext d
  rw [mapHas_foldl (fun (x : Gen.Dec.CipherSuiteRecord) => x.cipherSuite)]
  simp [mapHas_nil]

/-- the hand model once there are several candidates -/
def afterDiscovery (desiredV : List Suite) (page : Nat → Option Bytes) : Choice :=
  match discovered page with
  | none => .discoveryFailed
  | some a => match desiredV.find? (fun p => a.contains p) with
    | some p => .propose p true
    | none => .noSupported

theorem discoveryRan_after (d : List Suite) (page : Nat → Option Bytes) : discoveryRan (afterDiscovery d page) = true := by
  unfold afterDiscovery
  cases discovered page with
  | none => rfl
  | some a => simp only []; cases List.find? _ d <;> rfl

theorem determineFull_nil (page : Nat → Option Bytes) : determineFull [] page = afterDiscovery defaultSuites page := rfl
theorem determineFull_many (a b : Suite) (rest : List Suite) (page : Nat → Option Bytes) :
    determineFull (a :: b :: rest) page = afterDiscovery (a :: b :: rest) page := rfl

theorem discover_select (b : TBmc) (junk : Junk) (fuel : Nat) (hf : 64 ≤ fuel) (tail : Bytes) (desired : List Gen.Dec.CipherSuite)
    (log : List GetChannelCipherSuitesReq)
    (k : List Gen.Dec.CipherSuiteRecord → M (List GetChannelCipherSuitesReq) Gen.Dec.CipherSuite)
    (hk : ∀ recs s, k recs s = (match desired.find? (fun d => mapHas (recs.foldl (fun m (x : Gen.Dec.CipherSuiteRecord) => mapSet m x.cipherSuite ()) []) d) with
        | some d => .ok d | none => .err, s)) :
    ((M.cont k (bmc_RetrieveSupportedCipherSuites fuel (ansOf b junk) tail log)).1.map viewSuite
        = RF.lift (resultOf (afterDiscovery (desired.map viewSuite) (pageOf b)))) ∧
    (M.cont k (bmc_RetrieveSupportedCipherSuites fuel (ansOf b junk) tail log)).2.map viewReq
        = log.map viewReq ++ (retrieveSupportedCipherSuites (pageOf b)).1 := by
  obtain ⟨k1, k2⟩ := RetrieveSupportedCipherSuites_gen_eq b junk fuel hf tail log
  have hres := retrieve_safe (pageOf b)
  unfold afterDiscovery discovered
  generalize bmc_RetrieveSupportedCipherSuites fuel (ansOf b junk) tail log = r at k1 k2 ⊢
  generalize retrieveSupportedCipherSuites (pageOf b) = h at k1 k2 hres ⊢
  obtain ⟨r1, log'⟩ := r
  obtain ⟨l, hr⟩ := h
  rcases map_eq_lift k1 hres with ⟨rfl, rfl⟩ | ⟨recs, rfl, rfl⟩
  · exact ⟨rfl, k2⟩
  · simp only [cont_ok, hk, k2, and_true, ← select_view desired recs]
    cases List.find? _ desired <;> rfl

end Bmc.Lemmas.GenOrchSuites
