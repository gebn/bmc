import Bmc.Wire.Sdr
/-! `decodePacked6BitAscii` in two steps: the Go loop is the pure function `dec6P` of the visible bytes (`decode6Go_pure`: every
    index it uses lies within the bytes its length check covers), and `dec6P` undoes the specification's packing (`dec6P_pack`). -/
namespace Bmc.Prim
open Bmc Bmc.Wire

def Codes (cs : List UInt8) : Prop := ∀ x ∈ cs, x.toNat < 64

theorem code_getD (cs : List UInt8) (h : Codes cs) (k : Nat) : (cs.getD k 0).toNat < 64 :=
  getD_of_forall cs 0 h (by decide) k

/-- the data the decoder sees: at least the packing of `cs`, possibly followed by more bytes -/
def Holds (d : GoSlice) (cs : List UInt8) : Prop :=
  cs.length - cs.length / 4 ≤ d.len ∧ ∀ k, k < cs.length - cs.length / 4 → d.vis.getD k 0 = packByte cs k

/-- every index the loop uses for character `i < c` lies within the `c - c/4` bytes checked -/
theorem char6_pure (d : GoSlice) (c i : Nat) (hi : i < c) (hl : c - c / 4 ≤ d.len) :
    char6 d i = R.ok (char6P d.vis i) := by
  have ho := off6_eq i
  unfold char6 char6P
  generalize off6 i = o at ho
  have h1 := GoSlice.idx_ok d o (by omega)
  by_cases r0 : i % 4 = 0
  · rw [if_pos r0, if_pos r0, h1]; rfl
  · rw [if_neg r0, if_neg r0]
    by_cases r3 : i % 4 = 3
    · rw [if_neg (by omega), if_neg (by omega), if_neg (by omega), if_neg (by omega), h1]; rfl
    · have h2 := GoSlice.idx_ok d (o + 1) (by omega)
      by_cases r1 : i % 4 = 1
      · rw [if_pos r1, if_pos r1, h1, h2]; rfl
      · rw [if_neg r1, if_neg r1, if_pos (by omega), if_pos (by omega), h1, h2]; rfl

theorem loop6_eq (d : GoSlice) (n : Nat) : ∀ k, loop6 d k n = fillM (char6 d) k n := by
  induction n with
  | zero => intro k; rfl
  | succ n ih => intro k; simp only [loop6, fillM, ih]

theorem loop6_pure (d : GoSlice) (c : Nat) (hl : c - c / 4 ≤ d.len) (n i : Nat) (h : i + n ≤ c) :
    loop6 d i n = R.ok ((List.range' i n).map (char6P d.vis)) := by
  rw [loop6_eq]
  exact fillM_ok n i fun j _ _ => char6_pure d c j (by omega) hl

theorem decode6Go_pure (d : GoSlice) (c : Nat) : decode6Go d c = R.ofOption (dec6P d.vis c) := by
  unfold decode6Go dec6P
  simp only [GoSlice.vis_length]
  split
  · rfl
  · rw [loop6_pure d c (by omega) c 0 (by omega)]
    rfl

theorem decode6_short (d : GoSlice) (c : Nat) (h : d.len < c - c / 4) : decode6Go d c = R.err := by
  simp [decode6Go, h]

/-- character `i = 4q + r` is cut out of bytes `3q + (r − 1)` and the next, which hold codes `4q … 4q + 3` (`quad6`) -/
theorem char6P_pack (b : Bytes) (cs : List UInt8) (hc : Codes cs)
    (hb : ∀ k, k < cs.length - cs.length / 4 → b.getD k 0 = packByte cs k) (i : Nat) (hi : i < cs.length) :
    char6P b i = cs.getD i 0 + 0x20 := by
  obtain ⟨q, r, hr, rfl⟩ : ∃ q r, r < 4 ∧ i = 4 * q + r := ⟨i / 4, i % 4, Nat.mod_lt _ (by decide), by omega⟩
  obtain ⟨q0, q1, q2, q3⟩ := quad6 _ _ _ _ (code_getD cs hc (4 * q)) (code_getD cs hc (4 * q + 1))
    (code_getD cs hc (4 * q + 2)) (code_getD cs hc (4 * q + 3))
  obtain ⟨p0, p1, p2⟩ := packByte_group cs q
  unfold char6P
  rw [off6_eq, show (4 * q + r) / 4 = q by omega, show (4 * q + r) % 4 = r by omega]
  match r, hr with
  | 0, _ => simp only [if_true, Nat.reduceSub, Nat.add_zero]; rw [hb _ (by omega), p0, q0]
  | 1, _ =>
    simp only [Nat.reduceEqDiff, if_true, if_false, Nat.reduceSub, Nat.add_zero]
    rw [hb _ (by omega), hb _ (by omega), p0, p1, q1]
  | 2, _ =>
    simp only [Nat.reduceEqDiff, if_true, if_false, Nat.reduceSub]
    rw [hb _ (by omega), hb _ (by omega), p1, p2, q2]
  | 3, _ =>
    simp only [Nat.reduceEqDiff, if_false, Nat.reduceSub]
    rw [hb _ (by omega), p2, q3]

theorem dec6P_pack (b : Bytes) (cs : List UInt8) (hc : Codes cs) (hl : cs.length - cs.length / 4 ≤ b.length)
    (hb : ∀ k, k < cs.length - cs.length / 4 → b.getD k 0 = packByte cs k) :
    dec6P b cs.length = some (cs.map (· + 0x20), cs.length - cs.length / 4) := by
  unfold dec6P
  rw [if_neg (by omega)]
  congr 2
  apply List.ext_getElem (by simp)
  intro i h1 _
  have hi : i < cs.length := by simpa using h1
  simp [char6P_pack b cs hc hb i hi, List.getD_eq_getElem?_getD, hi]

/-- C20 (packed 6-bit ASCII): decoding the packing of any sequence of 6-bit codes — of ANY length, followed by
    any further bytes — returns the characters 20h + code, consumes ceil(3n/4) bytes, and never panics -/
theorem decode6_spec (d : GoSlice) (cs : List UInt8) (hc : Codes cs) (hd : Holds d cs) :
    decode6Go d cs.length = R.ok (cs.map (· + 0x20), cs.length - cs.length / 4) := by
  rw [decode6Go_pure, dec6P_pack d.vis cs hc (by simpa using hd.1) hd.2]
  rfl
#print axioms decode6_spec
