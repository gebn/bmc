import Bmc.Gen.Dec
import Bmc.Lemmas.GenDecLoop
import Bmc.Proto.Enum
import Bmc.Lemmas.GenDecBits
/-! Lemmas identifying the REGENERATED `parseCipherSuiteRecordData` (cipher_suites.go; `Bmc.Gen.Dec.bmc_parseCipherSuiteRecordData`,
    in the monad `RF`: its three `for` loops run with fuel) with the hand model `Proto.Enum.parseRecords` the C16 / C12 theorems
    are about. -/
namespace Bmc.Gen.Dec
def CipherSuiteRecord.toEntry (g : CipherSuiteRecord) : Bmc.Proto.Enum.Entry :=
  { id := g.cipherSuiteID.toNat, iana := g.enterprise.toNat, auth := g.cipherSuite.authenticationAlgorithm.toNat,
    integ := g.cipherSuite.integrityAlgorithm.toNat, conf := g.cipherSuite.confidentialityAlgorithm.toNat }
end Bmc.Gen.Dec
namespace Bmc.Lemmas.GenDec
open Bmc Bmc.Gen.Dec Bmc.Proto.Enum

theorem bidx_ok (j : Bytes) (i : Nat) (h : i < j.length) : bidx j i = .ok (j.getD i 0) := by
  unfold bidx; rw [GoSlice.idx_ok _ _ (by simpa using h)]; simp only [GoSlice.vis_ofBytes]

/-- A scanning loop of `parseCipherSuiteRecordData` (`tag` = 1 for integrity, 2 for confidentiality) and the model's `scan`
    walk the same bytes from `off` on: they stop at the same offset, within the slice, with the same algorithms. -/
theorem scan_sim (J : GoSlice) (tag : UInt8) {step : Nat × List UInt8 → RF (Option (Nat × List UInt8))}
    (hstep : ∀ off acc, step (off, acc) = (do
      let t ← (if J.len > off then (do let t ← RF.lift (J.idx off); pure ((t >>> 6) == tag)) else pure false)
      if t then (do let t ← RF.lift (J.idx off); pure (some (off + 1, acc ++ [t &&& 63]))) else pure none))
    (n off : Nat) (acc : List UInt8) (hn : J.len - off < n) (ho : off ≤ J.len) {F : RF (Nat × List UInt8)}
    (hF : GoDec.loopM n step (off, acc) = F) :
    ∃ S : Nat × List UInt8, F = RF.ok S ∧ off ≤ S.1 ∧ S.1 ≤ J.len ∧
      ∀ f, J.len - off ≤ f → scan J.vis tag f off (acc.map UInt8.toNat) = .ok (S.1, S.2.map UInt8.toNat) := by
  subst hF
  induction n generalizing off acc with
  | zero => omega
  | succ n ih =>
    rw [loopM_succ, hstep]
    by_cases hlt : J.len > off
    · simp only [hlt, if_true, GoSlice.idx_ok _ _ hlt, RF.lift_ok, RF.bind_ok, RF.pure_eq]
      -- a round of the model, on the byte both sides read
      have hsc : ∀ f, scan J.vis tag (f + 1) off (acc.map UInt8.toNat) =
          if (J.vis.getD off 0 >>> 6 == tag) = true
          then scan J.vis tag f (off + 1) ((acc ++ [J.vis.getD off 0 &&& 63]).map UInt8.toNat)
          else .ok (off, acc.map UInt8.toNat) := by
        intro f
        simp only [scan, GoSlice.vis_length, hlt, if_true, bidx_ok _ _ (by simpa using hlt : off < J.vis.length), R.bind_ok,
          List.map_append, List.map_cons, List.map_nil]
      by_cases ht : (J.vis.getD off 0 >>> 6 == tag) = true
      · simp only [ht, if_true, RF.bind_ok]
        obtain ⟨S, hS, h1, h2, h3⟩ := ih (off + 1) (acc ++ [J.vis.getD off 0 &&& 63]) (by omega) hlt
        refine ⟨S, hS, by omega, h2, fun f hf => ?_⟩
        obtain ⟨f, rfl⟩ : ∃ m, f = m + 1 := ⟨f - 1, by omega⟩
        rw [hsc, if_pos ht]
        exact h3 f (by omega)
      · simp only [ht, if_false, Bool.false_eq_true, RF.bind_ok]
        refine ⟨(off, acc), rfl, Nat.le_refl _, Nat.le_of_lt hlt, fun f hf => ?_⟩
        obtain ⟨f, rfl⟩ : ∃ m, f = m + 1 := ⟨f - 1, by omega⟩
        rw [hsc, if_neg ht]
    · simp only [hlt, if_false, RF.pure_eq, RF.bind_ok, Bool.false_eq_true]
      refine ⟨(off, acc), rfl, Nat.le_refl _, ho, fun f _ => ?_⟩
      cases f with
      | zero => rfl
      | succ f => simp only [scan, GoSlice.vis_length, hlt, if_false]

/-- a round of the inner loop `for _, confidentialityAlgorithm := range …` (cipher_suites.go) on the state (`records`, `record`) -/
def innerF (s : List CipherSuiteRecord × CipherSuiteRecord) (ca : UInt8) : List CipherSuiteRecord × CipherSuiteRecord :=
  let record := { s.2 with cipherSuite := { s.2.cipherSuite with confidentialityAlgorithm := ca } }
  (s.1 ++ [record], record)

/-- a round of the loop around it, `for _, integrityAlgorithm := range …`, with `cas` the confidentiality algorithms -/
def outerF (cas : List UInt8) (s : List CipherSuiteRecord × CipherSuiteRecord) (ia : UInt8) :
    List CipherSuiteRecord × CipherSuiteRecord :=
  let record := { s.2 with cipherSuite := { s.2.cipherSuite with integrityAlgorithm := ia } }
  List.foldl innerF (s.1, record) cas

/-- the fields of `record` that neither loop assigns -/
def hdrEq (a b : CipherSuiteRecord) : Prop :=
  a.cipherSuiteID = b.cipherSuiteID ∧ a.enterprise = b.enterprise ∧
    a.cipherSuite.authenticationAlgorithm = b.cipherSuite.authenticationAlgorithm

theorem inner_spec (cas : List UInt8) : ∀ (recs : List CipherSuiteRecord) (rec : CipherSuiteRecord),
    (List.foldl innerF (recs, rec) cas).1.map CipherSuiteRecord.toEntry
        = recs.map CipherSuiteRecord.toEntry ++ cas.map (fun ca =>
            ({ id := rec.cipherSuiteID.toNat, iana := rec.enterprise.toNat, auth := rec.cipherSuite.authenticationAlgorithm.toNat,
               integ := rec.cipherSuite.integrityAlgorithm.toNat, conf := ca.toNat } : Entry)) ∧
      hdrEq (List.foldl innerF (recs, rec) cas).2 rec := by
  induction cas with
  | nil => intro recs rec; simp [hdrEq]
  | cons ca cas ih =>
    intro recs rec
    simp only [List.foldl_cons, innerF]
    obtain ⟨h1, h2⟩ := ih (recs ++ [{ rec with cipherSuite := { rec.cipherSuite with confidentialityAlgorithm := ca } }])
      { rec with cipherSuite := { rec.cipherSuite with confidentialityAlgorithm := ca } }
    refine ⟨?_, ?_⟩
    · rw [h1]; simp [CipherSuiteRecord.toEntry]
    · exact h2

theorem outer_spec (cas : List UInt8) (ias : List UInt8) : ∀ (recs : List CipherSuiteRecord) (rec : CipherSuiteRecord),
    (List.foldl (outerF cas) (recs, rec) ias).1.map CipherSuiteRecord.toEntry
        = recs.map CipherSuiteRecord.toEntry ++ cross rec.cipherSuiteID.toNat rec.enterprise.toNat
            rec.cipherSuite.authenticationAlgorithm.toNat (ias.map UInt8.toNat) (cas.map UInt8.toNat) := by
  induction ias with
  | nil => intro recs rec; simp [cross]
  | cons ia ias ih =>
    intro recs rec
    simp only [List.foldl_cons, outerF]
    obtain ⟨h1, h2, h3, h4⟩ := inner_spec cas recs { rec with cipherSuite := { rec.cipherSuite with integrityAlgorithm := ia } }
    have := ih (List.foldl innerF (recs, { rec with cipherSuite := { rec.cipherSuite with integrityAlgorithm := ia } }) cas).1
      (List.foldl innerF (recs, { rec with cipherSuite := { rec.cipherSuite with integrityAlgorithm := ia } }) cas).2
    rw [this, h1, h2, h3, h4]
    simp [cross, List.map_map, Function.comp_def]

/-- `if len(algs) == 0 { algs = append(algs, None) }` on the generated side -/
theorem orNone_map (l : List UInt8) :
    orNone (l.map UInt8.toNat) = (if (l.length == 0) = true then l ++ [0] else l).map UInt8.toNat := by
  unfold orNone
  by_cases h : l.length = 0 <;> simp [h]

theorem and1_cases : ∀ x : UInt8, x &&& 1 = 0 ∨ x &&& 1 = 1 := forall_uint8 (by decide +kernel)

def roundRel (J : GoSlice) (Rs : List CipherSuiteRecord) (g : RF (Option (GoSlice × List CipherSuiteRecord)))
    (h : R (List Entry × Bytes)) : Prop :=
  match h with
  | .ok (es, j') => ∃ J' R', g = RF.ok (some (J', R')) ∧ J'.vis = j' ∧ J'.len < J.len ∧
      R'.map CipherSuiteRecord.toEntry = Rs.map CipherSuiteRecord.toEntry ++ es
  | .err => g = RF.err
  | .panic => g = RF.panic
  | .overread => g = RF.overread

/-- the outer loop `for len(joined) > 0`, for any body `step` that does in a round what `parseOne` does: with fuel above the
    length on both sides, the model's `parseLoop` -/
theorem outer_loop {step : GoSlice × List CipherSuiteRecord → RF (Option (GoSlice × List CipherSuiteRecord))}
    (round : ∀ J Rs, J.len > 0 → roundRel J Rs (step (J, Rs)) (parseOne J.vis))
    (stop : ∀ J Rs, ¬ J.len > 0 → step (J, Rs) = RF.ok none) : ∀ (n f : Nat) (J : GoSlice) (Rs : List CipherSuiteRecord),
    J.len < n → J.len < f →
    (GoDec.loopM n step (J, Rs)).map (fun s => s.2.map CipherSuiteRecord.toEntry)
      = RF.lift (parseLoop f J.vis (Rs.map CipherSuiteRecord.toEntry)) := by
  intro n
  induction n with
  | zero => intro f J Rs h; omega
  | succ n ih =>
    intro f J Rs hn hf
    obtain ⟨f, rfl⟩ : ∃ m, f = m + 1 := ⟨f - 1, by omega⟩
    rw [loopM_succ]
    simp only [parseLoop, GoSlice.vis_length]
    by_cases h0 : J.len > 0
    · have hr := round J Rs h0
      rw [if_pos h0]
      cases hp : parseOne J.vis with
      | ok p =>
        rw [hp] at hr
        obtain ⟨J', R', hg, hv, hl, hR⟩ := hr
        rw [hg, RF.bind_ok, R.bind_ok, ← hv, ← hR]
        exact ih f J' R' (by omega) (by omega)
      | _ => rw [hp] at hr; rw [show step (J, Rs) = _ from hr]; rfl
    · rw [stop J Rs h0, if_neg h0]; rfl

theorem parse_lift (d : GoSlice) :
    (bmc_parseCipherSuiteRecordData d).map (List.map CipherSuiteRecord.toEntry) = RF.lift (parseRecords d.vis) := by
  unfold bmc_parseCipherSuiteRecordData parseRecords
  -- the loop body is named, not written out; `hstep` is what it is
  generalize hstep : (fun s1 : GoSlice × List CipherSuiteRecord => _) = step
  refine Eq.trans ?_
    (outer_loop (step := step) ?round ?stop (d.len + 1) (d.vis.length + 1) d [] (Nat.lt_succ_self _) (by simp))
  · show RF.map _ (GoDec.loopM (d.len + 1) step (d, []) >>= fun j29 => pure j29.2) = _
    cases GoDec.loopM (d.len + 1) step (d, []) <;> rfl
  case stop =>
    intro J Rs h0
    subst hstep
    simp only [h0, if_false]; rfl
  case round =>
    intro J Rs h0
    subst hstep
    have hlen : J.vis.length = J.len := GoSlice.vis_length J
    simp only [h0, if_true, GoSlice.idx_ok _ _ h0, RF.lift_ok, RF.bind_ok, parseOne,
      bidx_ok _ _ (by omega : 0 < J.vis.length), R.bind_ok]
    by_cases hs : (List.getD J.vis 0 0 >>> 1 != 96) = true
    · simp only [hs, if_true, roundRel]
    simp only [hs, if_false, Bool.false_eq_true]
    -- what follows the `switch`, for any record and offset it leaves
    generalize hK : (fun j8 : CipherSuiteRecord × Nat => _) = K
    have tail : ∀ (rec : CipherSuiteRecord) (off : Nat), 1 < J.len → off < J.len → 0 < off →
        roundRel J Rs (K (rec, off)) (parseAlgs J.vis (J.vis.getD 1 0).toNat rec.enterprise.toNat off) := by
      intro rec off h1 ho hpos
      subst hK
      simp only [GoSlice.idx_ok _ _ h1, GoSlice.idx_ok _ _ ho, RF.lift_ok, RF.bind_ok, parseAlgs,
        bidx_ok _ _ (by omega : off < J.vis.length), R.bind_ok]
      by_cases ha : (List.getD J.vis off 0 >>> 6 != 0) = true
      · simp only [ha, if_true, roundRel]
      simp only [ha, if_false, Bool.false_eq_true]
      generalize hF : GoDec.loopM _ _ _ = F
      obtain ⟨S1, rfl, hge1, hle1, hh1⟩ := scan_sim J 1 (by intros; rfl) _ _ _ (by omega) (by omega) hF
      have hh1 : scan J.vis 1 J.vis.length (off + 1) [] = _ := hh1 _ (by omega)
      clear hF
      rw [hh1]
      simp only [RF.bind_ok, R.bind_ok, RF.pure_eq, ← apply_ite RF.ok]
      generalize hF : GoDec.loopM _ _ _ = F
      obtain ⟨S2, rfl, hge2, hle2, hh2⟩ := scan_sim J 2 (by intros; rfl) _ _ _ (by omega) hle1 hF
      have hh2 : scan J.vis 2 J.vis.length S1.1 [] = _ := hh2 _ (by omega)
      clear hF
      rw [hh2]
      simp only [RF.bind_ok, R.bind_ok]
      rw [foldlM_eq_ok (F := outerF (if (S2.2.length == 0) = true then S2.2 ++ [0] else S2.2)) ?cross]
      case cross =>
        intro s ia
        rw [foldlM_eq_ok (F := innerF) ?inner]
        · rfl
        · exact fun _ _ => rfl
      simp only [RF.bind_ok, GoSlice.sliceFrom_ok _ _ hle2, RF.lift_ok, Nat.not_lt.2 (hlen ▸ hle2), if_false, R.pure_eq,
        roundRel]
      refine ⟨_, _, rfl, by simp only [GoSlice.sub_vis, GoSlice.take_len_drop_vis], ?_, ?_⟩
      · simp only [GoSlice.sub_len]; omega
      · rw [outer_spec, orNone_map, orNone_map]
    -- `switch joined[0] & 1`: the regenerated code has a third arm that no byte reaches
    rcases and1_cases (List.getD J.vis 0 0) with hb | hb
    · have e0 : (List.getD J.vis 0 0 &&& 1 == 0) = true := by rw [hb]; rfl
      simp only [e0, if_true, hlen]
      by_cases h3 : J.len < 3
      · simp only [h3, if_true, RF.bind_err, roundRel]
      · simp only [h3, if_false, RF.pure_eq, RF.bind_ok, bidx_ok _ _ (by omega : 1 < J.vis.length), R.bind_ok]
        exact tail {} 2 (by omega) (by omega) (by omega)
    · have e0 : (List.getD J.vis 0 0 &&& 1 == 0) = false := by rw [hb]; rfl
      have e1 : (List.getD J.vis 0 0 &&& 1 == 1) = true := by rw [hb]; rfl
      simp only [e0, e1, if_true, if_false, Bool.false_eq_true, hlen]
      by_cases h6 : J.len < 6
      · simp only [h6, if_true, RF.bind_err, roundRel]
      · simp only [h6, if_false, RF.pure_eq, RF.bind_ok, RF.lift_ok, R.bind_ok,
          GoSlice.idx_ok _ _ (by omega : 2 < J.len), GoSlice.idx_ok _ _ (by omega : 3 < J.len),
          GoSlice.idx_ok _ _ (by omega : 4 < J.len),
          bidx_ok _ _ (by omega : 1 < J.vis.length), bidx_ok _ _ (by omega : 2 < J.vis.length),
          bidx_ok _ _ (by omega : 3 < J.vis.length), bidx_ok _ _ (by omega : 4 < J.vis.length)]
        have := tail { enterprise := (List.getD J.vis 2 0).toUInt32 + (List.getD J.vis 3 0).toUInt32 <<< 8 +
          (List.getD J.vis 4 0).toUInt32 <<< 16 } 5 (by omega) (by omega) (by omega)
        simp only [add_shl24] at this
        exact this

end Bmc.Lemmas.GenDec
