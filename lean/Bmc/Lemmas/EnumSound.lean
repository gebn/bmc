import Bmc.Lemmas.EnumParse
/-! Helper lemmas for C16, the converse direction of the record parser: whatever it accepts IS the encoding of a list
    of well-formed records, and the entries returned are that list's expansion; on anything else it fails without a panic.
    The verdict does not depend on the fuel. -/
namespace Bmc.Lemmas.Enum
open Bmc Bmc.Proto.Enum Bmc.Spec.Enum

theorem integ_of_tag : ∀ b : UInt8, (b >>> 6 == 1) = true → (b &&& 0x3f).toNat < 64 ∧ integByte (b &&& 0x3f).toNat = b := by
  apply forall_uint8; decide +kernel
theorem conf_of_tag : ∀ b : UInt8, (b >>> 6 == 2) = true → (b &&& 0x3f).toNat < 64 ∧ confByte (b &&& 0x3f).toNat = b := by
  apply forall_uint8; decide +kernel
theorem auth_of_tag : ∀ b : UInt8, (b >>> 6 != 0) = false → b.toNat < 64 ∧ authByte b.toNat = b := by
  apply forall_uint8; decide +kernel

theorem scan_spec (tag : UInt8) (mk : Nat → UInt8)
    (hmk : ∀ b : UInt8, (b >>> 6 == tag) = true → (b &&& 0x3f).toNat < 64 ∧ mk (b &&& 0x3f).toNat = b) (j : Bytes) :
    ∀ (f off : Nat) (acc : List Nat), ∃ run, (∀ x ∈ run, x < 64) ∧
      scan j tag f off acc = .ok (off + run.length, acc ++ run) ∧ j.drop off = run.map mk ++ j.drop (off + run.length) := by
  intro f
  induction f with
  | zero => intro off acc; exact ⟨[], by simp [scan]⟩
  | succ n ih =>
    intro off acc
    unfold scan
    by_cases hlt : j.length > off
    · simp only [hlt, if_true, bidx_eq, R.bind_ok]
      by_cases ht : (j.getD off 0 >>> 6 == tag) = true
      · obtain ⟨run, h1, h2, h3⟩ := ih (off + 1) (acc ++ [(j.getD off 0 &&& 0x3f).toNat])
        obtain ⟨m1, m2⟩ := hmk _ ht
        refine ⟨(j.getD off 0 &&& 0x3f).toNat :: run, List.forall_mem_cons.mpr ⟨m1, h1⟩, ?_, ?_⟩
        · rw [if_pos ht, h2, List.length_cons, List.append_assoc, Nat.add_right_comm, Nat.add_assoc]; rfl
        · rw [drop_eq_getD_cons hlt, h3, List.map_cons, m2, List.length_cons, Nat.add_right_comm, Nat.add_assoc]; rfl
      · exact ⟨[], by simp only [if_neg ht]; simp⟩
    · exact ⟨[], by simp only [if_neg hlt]; simp⟩

theorem parseAlgs_cases (j : Bytes) (id iana off : Nat) (hoff : off < j.length) :
    parseAlgs j id iana off = .err ∨ ∃ a integ conf j', a < 64 ∧ (∀ x ∈ integ, x < 64) ∧ (∀ x ∈ conf, x < 64) ∧
      j.drop off = authByte a :: (integ.map integByte ++ conf.map confByte) ++ j' ∧
      parseAlgs j id iana off = .ok (cross id iana a (Proto.Enum.orNone integ) (Proto.Enum.orNone conf), j') := by
  unfold parseAlgs
  simp only [bidx_eq, hoff, if_true, R.bind_ok]
  by_cases ha : (j.getD off 0 >>> 6 != 0) = true
  · exact Or.inl (by rw [if_pos ha])
  · obtain ⟨a1, a2⟩ := auth_of_tag _ ((Bool.not_eq_true _).mp ha)
    obtain ⟨i1, s1, h1, s4⟩ := scan_spec 1 integByte integ_of_tag j j.length (off + 1) []
    obtain ⟨i2, t1, h2, t4⟩ := scan_spec 2 confByte conf_of_tag j j.length (off + 1 + i1.length) []
    have hle : ¬ off + 1 + i1.length + i2.length > j.length := by
      have := congrArg List.length s4; have := congrArg List.length t4; simp at *; omega
    refine Or.inr ⟨_, i1, i2, j.drop (off + 1 + i1.length + i2.length), a1, s1, t1, ?_, ?_⟩
    · rw [drop_eq_getD_cons hoff, a2, s4, t4, List.cons_append, List.append_assoc]
    · rw [if_neg ha, h1]; simp only [R.bind_ok]
      rw [h2]; simp only [R.bind_ok, List.nil_append, if_neg hle, R.pure_eq]

theorem parseOne_sound (j : Bytes) (hj : 0 < j.length) :
    parseOne j = .err ∨ ∃ (r : Record) (j' : Bytes), r.wf ∧ j = r.encode ++ j' ∧ parseOne j = .ok ((expand r).map view, j') := by
  rcases parseOne_cases j hj with he | ⟨r, t, hid, hn, rfl, ht⟩
  · exact Or.inl he
  · rw [parseOne_header r hid hn t ht]
    rcases parseAlgs_cases (r.header ++ t) r.id (r.iana.getD 0) r.header.length (by simp; omega) with he | ⟨a, integ, conf, j', w1, w2, w3, hd, he⟩
    · exact Or.inl he
    · rw [List.drop_left] at hd
      exact Or.inr ⟨{ r with auth := a, integ := integ, conf := conf }, j', ⟨hid, hn, w1, w2, w3⟩,
        by rw [hd]; simp [Record.encode, Record.header], by rw [he, ← cross_expand]⟩

theorem parseLoop_spec (j : Bytes) :
    (∀ f acc, j.length ≤ f → parseLoop (f + 1) j acc = .err) ∨
    ∃ rs : List Record, (∀ r ∈ rs, r.wf) ∧ j = encodeRecords rs ∧
      ∀ f acc, j.length ≤ f → parseLoop (f + 1) j acc = .ok (acc ++ (rs.flatMap expand).map view) := by
  by_cases hpos : 0 < j.length
  · rcases parseOne_sound j hpos with he | ⟨r, j', hw, hj, he⟩
    · exact Or.inl fun f acc _ => parseLoop_err f j acc hpos he
    · have hl := encode_length r
      have ih := parseLoop_spec j'
      subst hj
      -- one round consumes `r`; the rest is shorter by at least three bytes
      have step : ∀ f acc, (r.encode ++ j').length ≤ f →
          ∃ g, j'.length ≤ g ∧ parseLoop (f + 1) (r.encode ++ j') acc = parseLoop (g + 1) j' (acc ++ (expand r).map view) :=
        fun f acc hf => ⟨f - 1, by simp at hf; omega, by
          rw [parseLoop_step f _ acc _ j' hpos he, Nat.sub_add_cancel (by simp at hf; omega)]⟩
      rcases ih with h | ⟨rs, hws, rfl, h⟩
      · exact Or.inl fun f acc hf => by obtain ⟨g, hg, e⟩ := step f acc hf; rw [e, h g _ hg]
      · exact Or.inr ⟨r :: rs, List.forall_mem_cons.mpr ⟨hw, hws⟩, (encodeRecords_cons r rs).symm, fun f acc hf => by
          obtain ⟨g, hg, e⟩ := step f acc hf; rw [e, h g _ hg]; simp⟩
  · obtain rfl := List.eq_nil_of_length_eq_zero (Nat.eq_zero_of_not_pos hpos)
    exact Or.inr ⟨[], nofun, rfl, fun f acc _ => by simp [parseLoop]⟩
termination_by j.length
decreasing_by rw [hj, List.length_append]; omega

theorem parseLoop_fuel (f1 f2 : Nat) (j : Bytes) (acc : List Entry) (h1 : j.length < f1) (h2 : j.length < f2) :
    parseLoop f1 j acc = parseLoop f2 j acc := by
  obtain ⟨f1, rfl⟩ := Nat.exists_eq_add_one_of_ne_zero (Nat.ne_zero_of_lt h1)
  obtain ⟨f2, rfl⟩ := Nat.exists_eq_add_one_of_ne_zero (Nat.ne_zero_of_lt h2)
  rcases parseLoop_spec j with h | ⟨_, _, _, h⟩ <;> rw [h f1 acc (by omega), h f2 acc (by omega)]

theorem parseRecords_spec (j : Bytes) : parseRecords j = .err ∨
    ∃ rs : List Record, (∀ r ∈ rs, r.wf) ∧ j = encodeRecords rs ∧ parseRecords j = .ok ((rs.flatMap expand).map view) := by
  rcases parseLoop_spec j with h | ⟨rs, h1, h2, h⟩
  · exact Or.inl (h _ _ (Nat.le_refl _))
  · exact Or.inr ⟨rs, h1, h2, h _ _ (Nat.le_refl _)⟩

theorem parseRecords_prefix (rs : List Record) (hw : ∀ r ∈ rs, r.wf) (tl : Bytes) (htl : ∀ r, rs.getLast? = some r → okAfter r tl) :
    parseRecords (encodeRecords rs ++ tl) = parseLoop (tl.length + 1) tl ((rs.flatMap expand).map view) := by
  rw [parseRecords, parseLoop_fuel _ ((encodeRecords rs ++ tl).length + 1 + rs.length) _ _ (by omega) (by omega),
    parseLoop_prefix rs hw tl htl, List.nil_append, parseLoop_fuel _ (tl.length + 1) _ _ (by simp; omega) (by omega)]

end Bmc.Lemmas.Enum
