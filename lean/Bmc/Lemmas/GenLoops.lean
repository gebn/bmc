import Bmc.Gen.Loops
import Bmc.Proto.Session
import Bmc.Proto.Sessionless
import Bmc.Proto.Handshake
import Bmc.Proto.Metrics
import Bmc.Lemmas.SessionLaws
import Bmc.Proofs.C11.Match
/-! Instantiating the PARAMETERS of the regenerated retry loops (`Gen/Loops.lean`) with the hand models' own pieces:

    * the SURROUNDINGS are a SCRIPT (`SW`): the outcomes of the Sends in order (`Proto.Outcome`: a reply or a loss), the draws of
      crypto/rand (one IV per serialisation inside a session), the list of datagrams handed to the transport so far, and how the
      caller's context ends when the script runs out — during the back-off after the last scripted attempt (`inSend = false`:
      `backoff.Retry` returns the context's error and the closure does not run again; the `R!` scripts of the harness, the
      convention of `Proto.sendLoop` / `slLoop` / `exchange`) or during one more Send, which fails (`inSend = true`: the convention
      of `Proto.Metrics.loop` for an exhausted list of attempts);
    * field correspondences between the generated layer structures (fixed-width fields, every field of the Go struct) and the
      structures of `Wire/` (`…To` / `…Of`);
    * the events of the log as steps on the counters of `Proto.Metrics.M` (`evApply`);
    * what a loop's error value and `SendCommand`'s pair are as results of the hand model (`resOf`, `cmdResult`), and the two
      regenerated predicates of the acceptance checks as the model's (`respTo_eq`, `ccIsTemporary_eq`). -/
namespace Bmc.Lemmas.GenLoops
open Bmc Bmc.Wire Bmc.Crypto Bmc.Proto Bmc.GoOrch Bmc.GoLoops Bmc.Gen.Loops

structure SW where
  ivs : List Bytes := []
  script : List Outcome := []
  sent : List Bytes := []
  inSend : Bool := false
  expired : Bool := false

/-- `transport.Send`: the next outcome of the script; with the script exhausted the context has expired: nothing is transmitted
    and an error comes back (the scripted transport of the harness: `e.cancel(); return nil, context.Canceled`) -/
def SW.send (w : SW) (b : Bytes) : SW × Option Bytes :=
  match w.script with
  | [] => ({ w with expired := true }, none)
  | .lost :: rest => ({ w with script := rest, sent := w.sent ++ [b] }, none)
  | .reply d :: rest => ({ w with script := rest, sent := w.sent ++ [b] }, some d)

theorem send_nil (ivs sent) (b : Bytes) (i e : Bool) :
    SW.send { ivs := ivs, script := [], sent := sent, inSend := i, expired := e } b
      = ({ ivs := ivs, script := [], sent := sent, inSend := i, expired := true }, none) := rfl

/-- the back-off after a failed attempt: the context is done exactly when the script is exhausted (and, with `inSend`, a Send
    has already met the expired context); the policy itself never gives up -/
def SW.wait (w : SW) : SW × Wait :=
  (w, if w.script.isEmpty && (!w.inSend || w.expired) then .ctxDone else .again)

def rmcpTo (g : layers_RMCP) : Wire.RMCP := { version := g.version, sequence := g.sequence, ack := g.ack, cls := g.class_ }
def rmcpOf (r : Wire.RMCP) : layers_RMCP := { version := r.version, sequence := r.sequence, ack := r.ack, class_ := r.cls }

def v2To (g : ipmi_V2Session) : Wire.V2Session :=
  { encrypted := g.encrypted, authenticated := g.authenticated, payloadType := g.payloadDescriptor.payloadType
    enterprise := g.payloadDescriptor.enterprise.toNat, payloadID := g.payloadDescriptor.payloadID.toNat
    id := g.id.toNat, sequence := g.sequence.toNat, length := g.length.toNat, pad := g.pad, signature := g.signature
    contents := g.contents, payload := g.payload }
/-- `integ`, `conf`: the two fields the model keeps in the session, not in the layer -/
def v2Of (v : Wire.V2Session) (integ conf : Opaque) : ipmi_V2Session :=
  { encrypted := v.encrypted, authenticated := v.authenticated
    payloadDescriptor := { payloadType := v.payloadType, enterprise := UInt32.ofNat v.enterprise, payloadID := UInt16.ofNat v.payloadID }
    id := UInt32.ofNat v.id, sequence := UInt32.ofNat v.sequence, length := UInt16.ofNat v.length, pad := v.pad
    signature := v.signature, contents := v.contents, payload := v.payload
    integrityAlgorithm := integ, confidentialityLayerType := conf }
theorem v2Of_auth (v : V2Session) (a b : Opaque) : (v2Of v a b).authenticated = v.authenticated := rfl
theorem v2Of_id (v : V2Session) (a b : Opaque) : (v2Of v a b).id = UInt32.ofNat v.id := rfl

def msgTo (g : ipmi_Message) : Wire.Message :=
  { function := g.operation.function, body := g.operation.body, enterprise := g.operation.enterprise.toNat
    command := g.operation.command, remoteAddress := g.remoteAddress, remoteLUN := g.remoteLUN, checksum1 := g.checksum1
    localAddress := g.localAddress, localLUN := g.localLUN, sequence := g.sequence, completionCode := g.completionCode
    checksum2 := g.checksum2, contents := g.contents, payload := g.payload }
def msgOf (m : Wire.Message) : ipmi_Message :=
  { operation := { function := m.function, body := m.body, enterprise := UInt32.ofNat m.enterprise, command := m.command }
    remoteAddress := m.remoteAddress, remoteLUN := m.remoteLUN, checksum1 := m.checksum1, localAddress := m.localAddress
    localLUN := m.localLUN, sequence := m.sequence, completionCode := m.completionCode, checksum2 := m.checksum2
    contents := m.contents, payload := m.payload }
theorem msgOf_cc (m : Message) : (msgOf m).completionCode = m.completionCode := rfl

/-- the command as the getters of `ipmi.Command` present it; `4` stands for its (non-nil) request layer, whose serialisation is
    the model's `c.req` / `c.reqFails` -/
def cmdOf (c : Cmd) (name : String) (rsp : Opaque) : ipmi_Command :=
  { operation := { function := c.fn, body := c.body, enterprise := UInt32.ofNat c.ent, command := c.cmd }
    remoteLUN := c.lun, request := 4, name := name, response := rsp }

theorem ofNat32_succ (n : Nat) : UInt32.ofNat n + 1 = UInt32.ofNat ((n + 1) % 4294967296) := by
  apply UInt32.toNat_inj.mp
  rw [UInt32.toNat_add, UInt32.toNat_ofNat', UInt32.toNat_ofNat']; simp

theorem slave20 : (UInt8.ofBitVec (Bmc.Gen.slaveAddress (UInt8.toBitVec 16))) = 0x20 := by decide
theorem swid81 : (UInt8.ofBitVec (Bmc.Gen.swidAddress (UInt8.toBitVec 64))) = 0x81 := by decide

/-- the message struct literal of both command functions: the command's operation and LUN, the BMC's and the console's address -/
def litMessage (c : ipmi_Command) : ipmi_Message :=
  { operation := c.operation, remoteAddress := UInt8.ofBitVec (Bmc.Gen.slaveAddress (UInt8.toBitVec 16)), remoteLUN := c.remoteLUN
    localAddress := UInt8.ofBitVec (Bmc.Gen.swidAddress (UInt8.toBitVec 64)), sequence := 1 }

theorem msgTo_litMessage (c : Cmd) (name : String) (rsp : Opaque) (hc : c.ent < 4294967296) :
    msgTo (litMessage (cmdOf c name rsp)) =
      { function := c.fn, body := c.body, enterprise := c.ent, command := c.cmd
        remoteAddress := 0x20, remoteLUN := c.lun, localAddress := 0x81, sequence := 1 } := by
  simp only [litMessage, msgTo, cmdOf, UInt32.toNat_ofNat_of_lt' hc, slave20, swid81]

/-- one Prometheus call on the counters of `Proto.Metrics.M` (the timer's histogram is not part of that model) -/
def evApply (m : Metrics.M) : Ev → Metrics.M
  | .inc "commandRetries" [] => { m with retries := m.retries + 1 }
  | .inc "commandResponses" [.code c] => { m with responses := Metrics.bump c.toNat m.responses }
  | .inc "commandAttempts" [.str n] => { m with cmdAttempts := Metrics.bump n m.cmdAttempts }
  | .inc "commandFailures" [.str n] => { m with cmdFailures := Metrics.bump n m.cmdFailures }
  | _ => m

-- by the equations of `evApply`: as `rfl` each is a kernel evaluation of string comparisons
theorem evApply_retries (m : Metrics.M) : evApply m (Ev.inc "commandRetries" []) = { m with retries := m.retries + 1 } := by
  simp only [evApply]
theorem evApply_responses (m : Metrics.M) (cc : UInt8) :
    evApply m (Ev.inc "commandResponses" [Label.code cc]) = { m with responses := Metrics.bump cc.toNat m.responses } := by
  simp only [evApply]
theorem evApply_attempts (m : Metrics.M) (n : String) :
    evApply m (Ev.inc "commandAttempts" [Label.str n]) = { m with cmdAttempts := Metrics.bump n m.cmdAttempts } := by
  simp only [evApply]
theorem evApply_failures (m : Metrics.M) (n : String) :
    evApply m (Ev.inc "commandFailures" [Label.str n]) = { m with cmdFailures := Metrics.bump n m.cmdFailures } := by
  simp only [evApply]
theorem evApply_timerObserve (m : Metrics.M) (n : String) : evApply m (Ev.timerObserve n) = m := rfl

def evsApply (m : Metrics.M) (l : List Ev) : Metrics.M := l.foldl evApply m

theorem evsApply_append (m : Metrics.M) (a b : List Ev) : evsApply m (a ++ b) = evsApply (evsApply m a) b := by
  simp [evsApply, List.foldl_append]
theorem evsApply_cons (m : Metrics.M) (e : Ev) (l : List Ev) : evsApply m (e :: l) = evsApply (evApply m e) l := rfl
theorem evsApply_nil (m : Metrics.M) : evsApply m [] = m := rfl

/-- the events at the head of an attempt: `commandRetries.Inc()` unless it is the first -/
def pre (first : Bool) : List Ev := if first then [] else [Ev.inc "commandRetries" []]

theorem evsApply_pre (m : Metrics.M) (first : Bool) :
    evsApply m (pre first) = { m with retries := if first then m.retries else m.retries + 1 } := by
  cases first
  · simp only [pre, Bool.false_eq_true, if_false, evsApply_cons, evsApply_nil, evApply_retries]
  · rfl

/-- how the attempts end for the instrumentation model: with the context ending in the back-off, the attempt after the last
    scripted one never runs (`cancelled`); with the context ending in one more Send, the list is simply exhausted -/
def ending (i : Bool) : List Metrics.Att := if i then [] else [.cancelled]

/-- what `buildAndSend` returned (an error value, or a panic) and the message layer it left, as a result of the hand model -/
def resOf (r : RF (Option GoErr)) (K : Conn Decoded) : Option Res :=
  match r with
  | .ok none => some (.ok K.layers.message.completionCode K.layers.message.payload)
  | .ok (some .transport) => some .transportErr
  | .ok (some .serialize) => some .serializeErr
  | .ok (some .ctx) => some .ctxExpired
  | .panic => some .crashed
  | _ => none

theorem resOf_ok {r : RF (Option GoErr)} {K : Conn Decoded} {m : Res} (h : resOf r K = some m) (hok : r = .ok none) :
    m = .ok K.layers.message.completionCode K.layers.message.payload := by
  subst hok; exact (Option.some.inj h).symm

/-- what `SendCommand` returns when its loop ended with `res`: `(0, the error)`, a panic, or the completion code with `nil` — or
    with the error of the response layer (`rsp ≠ 0`: the command has one; `bd`: the payloads it decodes) when it rejects the payload -/
def cmdResult (rsp : Opaque) (bd : Bytes → Bool) : Res → RF (UInt8 × Option GoErr)
  | .ok cc p => .ok (cc, if rsp != 0 ∧ bd p = false then some .response else none)
  | .transportErr => .ok (0, some .transport)
  | .serializeErr => .ok (0, some .serialize)
  | .ctxExpired => .ok (0, some .ctx)
  | .crashed => .panic

theorem cmdResult_ok_inv {rsp : Opaque} {bd : Bytes → Bool} {res : Res} {cc : UInt8} (h : cmdResult rsp bd res = .ok (cc, none)) :
    ∃ p, res = .ok cc p := by
  cases res with
  | ok cc' p => exact ⟨p, (Prod.mk.inj (RF.ok.inj h)).1 ▸ rfl⟩
  | _ => cases h

/-- `isResponseTo` on the operation the message layer holds -/
def respTo (c : ipmi_Command) (L : Layers) : Bool :=
  Bmc.Gen.isResponseTo L.message.operation.function.toBitVec L.message.operation.body.toBitVec
    L.message.operation.enterprise.toBitVec L.message.operation.command.toBitVec
    c.operation.function.toBitVec c.operation.body.toBitVec c.operation.enterprise.toBitVec c.operation.command.toBitVec

theorem respTo_eq (c : Cmd) (m : Message) (hm : m.enterprise < 4294967296) (hc : c.ent < 4294967296) (name : String) (rsp : Opaque)
    (L : Layers) (hL : L.message = msgOf m) : respTo (cmdOf c name rsp) L = slAcceptable c m := by
  unfold respTo
  rw [hL]
  exact Proofs.C11.isResponseTo_gen_eq c m hm hc

open Bmc.Proofs.C11 in
/-- the regenerated `CompletionCode.IsTemporary` = the model's `isTemp` -/
theorem ccIsTemporary_eq (cc : UInt8) : Bmc.Gen.ccIsTemporary cc.toBitVec = isTemp cc := by
  have h : ∀ b : BitVec 8, Bmc.Gen.ccIsTemporary b = (decide (b = 192#8) || decide (b = 195#8)) := by
    intro b; unfold Bmc.Gen.ccIsTemporary; cases decide (b = 192#8) <;> rfl
  rw [h]; exact congr (congrArg or (decide_toBitVec_eq cc 0xC0)) (decide_toBitVec_eq cc 0xC3)

end Bmc.Lemmas.GenLoops
