import Bmc.Lemmas.FloatModel
/-! # IEEE-754 binary64 round-to-nearest-even over ℚ, as an instance of the standard model (normal range, no overflow)

`rnd64 x`: the binary64 value nearest to the rational `x` (ties to the even significand): with `2^e ≤ |x| < 2^(e+1)` the unit in
the last place is `2^(e−52)` and the result is `nearestEven (x / ulp) · ulp`. The exponent is computed from the bit lengths of
numerator and denominator, corrected by one step, and then CHECKED (`2^e ≤ |x| < 2^(e+1)`; were the check to fail the function
would return `x` itself, which keeps `rnd64_err` — relative error at most `2⁻⁵³` — a two-line case split). `exponentOk_of_ne_zero`
proves the check ALWAYS passes for x ≠ 0 (`bracket`: the bit lengths put |x| within a factor two of `2^e0` either way), so
`rnd64_eq`: on every non-zero rational `rnd64` IS rounding to 53 significant bits, ties to even.
Subnormals and overflow are outside the model (the exponent is unbounded here); the header of `Proofs/C15Float.lean` says how far
the quantities of `ConvertReading` are from both. -/
namespace Bmc.FloatModel

def pow2 (e : Int) : Rat := (2 : Rat) ^ e
theorem pow2_pos (e : Int) : 0 < pow2 e := Rat.zpow_pos (by decide)
theorem pow2_add (m n : Int) : pow2 (m + n) = pow2 m * pow2 n := Rat.zpow_add (by decide) m n
theorem pow2_succ (m : Int) : pow2 (m + 1) = pow2 m * 2 := by rw [pow2_add]; rfl
theorem pow2_nat (a : Nat) : pow2 (a : Int) = ((2 ^ a : Nat) : Rat) := by
  unfold pow2; rw [Rat.zpow_natCast]; simp
theorem pow2_mono {m n : Int} (h : m ≤ n) : pow2 m ≤ pow2 n := by
  obtain ⟨k, rfl⟩ := Int.le.dest h
  have h1 : (1 : Rat) ≤ pow2 k := by rw [pow2_nat]; exact_mod_cast Nat.one_le_two_pow
  have := Rat.mul_le_mul_of_nonneg_left h1 (Rat.le_of_lt (pow2_pos m))
  rwa [Rat.mul_one, ← pow2_add] at this

def nearestEven (s : Rat) : Int :=
  let n := s.floor
  let r := s - (n : Rat)
  if r < 1 / 2 then n else if 1 / 2 < r then n + 1 else if n % 2 = 0 then n else n + 1

/-- round-to-nearest with ANY rule for ties: the lower candidate is taken only if the upper one is not strictly nearer, the upper
    one only if the lower one is not strictly nearer (`a`: lower strictly nearer, `b`: upper strictly nearer, `t`: the tie rule) -/
theorem nearest_pick {α : Type} (a b t : Prop) [Decidable a] [Decidable b] [Decidable t] (lo hi : α) :
    (if a then lo else if b then hi else if t then lo else hi) = lo ∧ (a ∨ ¬ b) ∨
    (if a then lo else if b then hi else if t then lo else hi) = hi ∧ ¬ a := by
  by_cases a <;> by_cases b <;> by_cases t <;> simp [*]

theorem nearestEven_err (s : Rat) : ab ((nearestEven s : Rat) - s) ≤ 1 / 2 := by
  have h1 := Rat.floor_le s
  have h2 := Rat.lt_floor_add_one s
  have c : ((s.floor + 1 : Int) : Rat) = (s.floor : Rat) + 1 := by simp [Rat.intCast_add]
  rw [c] at h2
  unfold nearestEven
  simp only []
  rcases nearest_pick (s - (s.floor : Rat) < 1 / 2) (1 / 2 < s - (s.floor : Rat)) (s.floor % 2 = 0) s.floor (s.floor + 1)
    with ⟨e, h⟩ | ⟨e, h⟩ <;> rw [e] <;> apply ab_le <;> grind

/-- candidate for ⌊log₂ |x|⌋ from the bit lengths, corrected by one step either way -/
def expOf (x : Rat) : Int :=
  let e0 : Int := (Nat.log2 x.num.natAbs : Int) - (Nat.log2 x.den : Int)
  if pow2 e0 ≤ ab x then (if pow2 (e0 + 1) ≤ ab x then e0 + 1 else e0) else e0 - 1

def c52 : Rat := 1 / 4503599627370496
def u64 : Rat := 1 / 9007199254740992

theorem u64_nonneg : (0 : Rat) ≤ u64 := by unfold u64; grind

def exponentOk (x : Rat) : Bool := decide (pow2 (expOf x) ≤ ab x) && decide (ab x < pow2 (expOf x) * 2)

def rnd64 (x : Rat) : Rat :=
  if exponentOk x then
    let ulp := pow2 (expOf x) * c52
    (nearestEven (x / ulp) : Rat) * ulp
  else x

theorem rnd64_err (x : Rat) : ab (rnd64 x - x) ≤ u64 * ab x := by
  unfold rnd64
  split
  · rename_i hok
    simp only [exponentOk, Bool.and_eq_true, decide_eq_true_eq] at hok
    simp only []
    have hp := pow2_pos (expOf x)
    generalize pow2 (expOf x) = p at hok hp
    have hulp : 0 < p * c52 := Rat.mul_pos hp (by decide +kernel)
    have k : 1 / 2 * (p * c52) = u64 * p := by unfold c52 u64; grind
    generalize p * c52 = ulp at hulp k
    -- |n·ulp − x| = |n − x/ulp|·ulp ≤ ulp/2 = u·2^e ≤ u·|x|
    have e : (nearestEven (x / ulp) : Rat) * ulp - x = ((nearestEven (x / ulp) : Rat) - x / ulp) * ulp := by grind
    rw [e, ab_mul, ab_of_nonneg ulp (Rat.le_of_lt hulp)]
    have m := Rat.mul_le_mul_of_nonneg_right (nearestEven_err (x / ulp)) (Rat.le_of_lt hulp)
    have l := Rat.mul_le_mul_of_nonneg_left hok.1 u64_nonneg
    grind
  · rw [ab_sub_self]
    have := Rat.mul_nonneg u64_nonneg (ab_nonneg x)
    grind

/-- rounding to 53 significant bits, ties to even, with an unbounded exponent (IEEE-754 binary64 in its normal range: no
    subnormals, no overflow) IS an instance of the standard model with u = 2⁻⁵³ -/
def Rounding.binary64 : Rounding := ⟨u64, u64_nonneg, rnd64, rnd64_err⟩

theorem binary64_u_small : Rounding.binary64.u ≤ 1 / 100 := by show u64 ≤ 1 / 100; unfold u64; grind

/-- sanity: values every binary64 implementation agrees on -/
example : rnd64 1 = 1 ∧ rnd64 (1 / 10) = 3602879701896397 / 36028797018963968 ∧ rnd64 (-3) = -3 ∧
    rnd64 (9007199254740993) = 9007199254740992 ∧ rnd64 (9007199254740995) = 9007199254740996 ∧ rnd64 0 = 0 := by decide +kernel
example : exponentOk (1 / 10) = true ∧ exponentOk 7 = true ∧ exponentOk (1 / 100000000) = true := by decide +kernel

theorem den_cast_pos (x : Rat) : (0 : Rat) < (x.den : Rat) := Rat.natCast_pos.mpr x.den_pos

theorem mul_den (x : Rat) : x * (x.den : Rat) = (x.num : Rat) := by
  conv => lhs; arg 1; rw [← Rat.mkRat_self x, Rat.mkRat_eq_div]
  exact Rat.div_mul_cancel (Rat.ne_of_gt (den_cast_pos x))

theorem ab_intCast (n : Int) : ab (n : Rat) = (n.natAbs : Rat) := by
  obtain h | h := Int.natAbs_eq n <;> generalize n.natAbs = k at h ⊢ <;> subst h
  · exact ab_of_nonneg _ Rat.natCast_nonneg
  · rw [Rat.intCast_neg, ab_neg]; exact ab_of_nonneg _ Rat.natCast_nonneg

theorem ab_mul_den (x : Rat) : ab x * (x.den : Rat) = (x.num.natAbs : Rat) := by
  rw [← ab_intCast, ← mul_den x, ab_mul, ab_of_nonneg (x.den : Rat) Rat.natCast_nonneg]

theorem log2_bracket {n : Nat} (hn : n ≠ 0) :
    pow2 (n.log2 : Int) ≤ (n : Rat) ∧ (n : Rat) < pow2 ((n.log2 : Int) + 1) := by
  rw [show (n.log2 : Int) + 1 = ((n.log2 + 1 : Nat) : Int) from rfl, pow2_nat, pow2_nat]
  exact ⟨Rat.natCast_le_natCast.mpr (Nat.log2_self_le hn), Rat.natCast_lt_natCast.mpr Nat.lt_log2_self⟩

theorem bracket (x : Rat) (hx : x ≠ 0) :
    let e0 : Int := (Nat.log2 x.num.natAbs : Int) - (Nat.log2 x.den : Int)
    pow2 (e0 - 1) < ab x ∧ ab x < pow2 (e0 + 1) := by
  intro e0
  have hn0 : x.num.natAbs ≠ 0 := fun h => hx (Rat.num_eq_zero.mp (Int.natAbs_eq_zero.mp h))
  obtain ⟨n1, n2⟩ := log2_bracket hn0
  obtain ⟨d1, d2⟩ := log2_bracket x.den_nz
  have hd := den_cast_pos x
  -- compared after multiplying by the denominator: |x| · den = |num|
  rw [← Rat.mul_lt_mul_right hd, ← Rat.mul_lt_mul_right (a := ab x) hd, ab_mul_den]
  constructor
  · have s := Rat.mul_lt_mul_of_pos_left d2 (pow2_pos (e0 - 1))
    rw [← pow2_add, show e0 - 1 + ((x.den.log2 : Int) + 1) = x.num.natAbs.log2 by omega] at s
    exact Std.lt_of_lt_of_le s n1
  · have s := Rat.mul_le_mul_of_nonneg_left d1 (Rat.le_of_lt (pow2_pos (e0 + 1)))
    rw [← pow2_add, show e0 + 1 + (x.den.log2 : Int) = (x.num.natAbs.log2 : Int) + 1 by omega] at s
    exact Std.lt_of_lt_of_le n2 s

theorem expOf_spec (x : Rat) (hx : x ≠ 0) : pow2 (expOf x) ≤ ab x ∧ ab x < pow2 (expOf x + 1) := by
  obtain ⟨lo, hi⟩ := bracket x hx
  unfold expOf
  simp only []
  split
  · split
    · rename_i h; exact absurd hi (Rat.not_lt.mpr h)
    · rename_i h1 h2; exact ⟨h1, Rat.not_le.mp h2⟩
  · rename_i h1; exact ⟨Rat.le_of_lt lo, by rw [Int.sub_add_cancel]; exact Rat.not_le.mp h1⟩

theorem exponentOk_of_ne_zero (x : Rat) (hx : x ≠ 0) : exponentOk x = true := by
  simpa [exponentOk, pow2_succ] using expOf_spec x hx

theorem rnd64_eq (x : Rat) (hx : x ≠ 0) :
    rnd64 x = (nearestEven (x / (pow2 (expOf x) * c52)) : Rat) * (pow2 (expOf x) * c52) := by
  unfold rnd64
  rw [exponentOk_of_ne_zero x hx]
  rfl

/-! Correctly rounded square root, executable: the driver compares it bit for bit with `math.Sqrt`. -/

/-- ⌊√m⌋ for m < 2^(2·bits), bit by bit from the top -/
def isqrtBits (m : Nat) : Nat → Nat → Nat
  | 0, r => r
  | bit + 1, r => let t := r + 2 ^ bit; isqrtBits m bit (if t * t ≤ m then t else r)

/-- `2^(e−52)` for the exponent `e` of √v: `2^e ≤ √v < 2^(e+1)` (Int division rounds towards −∞ for a positive divisor) -/
def sqrtUlp (v : Rat) : Rat := pow2 (expOf v / 2) * c52

/-- the 53-bit significand of the binary64 nearest to √q for `q = v / ulp²`: `n = ⌊√q⌋`, then `n` or `n + 1` according to the side
    of `(n + ½)²` on which `q` lies (a tie — impossible for binary64 arguments — to the even one) -/
def sqrtMant (q : Rat) : Nat :=
  let n := isqrtBits q.floor.toNat 54 0
  let mid : Rat := ((n : Rat) + 1 / 2) * ((n : Rat) + 1 / 2)
  if q < mid then n else if mid < q then n + 1 else if n % 2 = 0 then n else n + 1

/-- the binary64 nearest to √v (ties to even) for a positive rational v in the normal range -/
def sqrt64 (v : Rat) : Rat :=
  if v ≤ 0 then 0 else (sqrtMant (v / (sqrtUlp v * sqrtUlp v)) : Rat) * sqrtUlp v

theorem isqrtBits_spec (m : Nat) : ∀ (bit r : Nat), r * r ≤ m → m < (r + 2 ^ bit) * (r + 2 ^ bit) →
    isqrtBits m bit r * isqrtBits m bit r ≤ m ∧ m < (isqrtBits m bit r + 1) * (isqrtBits m bit r + 1) := by
  intro bit
  induction bit with
  | zero => intro r h1 h2; simpa [isqrtBits] using ⟨h1, h2⟩
  | succ bit ih =>
    intro r h1 h2
    simp only [isqrtBits]
    by_cases ht : (r + 2 ^ bit) * (r + 2 ^ bit) ≤ m
    · simp only [ht, if_true]
      apply ih _ ht
      have e : r + 2 ^ bit + 2 ^ bit = r + 2 ^ (bit + 1) := by rw [Nat.pow_succ]; omega
      rw [e]; exact h2
    · simp only [ht, if_false]
      exact ih r h1 (by omega)

theorem isqrt_spec (m : Nat) (hm : m < 2 ^ 108) :
    isqrtBits m 54 0 * isqrtBits m 54 0 ≤ m ∧ m < (isqrtBits m 54 0 + 1) * (isqrtBits m 54 0 + 1) :=
  isqrtBits_spec m 54 0 (by omega) (by
    have : (0 + 2 ^ 54) * (0 + 2 ^ 54) = 2 ^ 108 := by decide
    omega)

/-- the rounding decision of `sqrt64` at the level of `q = v / ulp²`: the chosen integer is within ½ of √q -/
theorem sqrtRound_bracket (q : Rat) (n : Nat) (hn1 : 1 ≤ n) (h1 : (n : Rat) * n ≤ q) (h2 : q < ((n : Rat) + 1) * ((n : Rat) + 1)) :
    let mid : Rat := ((n : Rat) + 1 / 2) * ((n : Rat) + 1 / 2)
    let n' : Nat := if q < mid then n else if mid < q then n + 1 else if n % 2 = 0 then n else n + 1
    ((n' : Rat) - 1 / 2) * ((n' : Rat) - 1 / 2) ≤ q ∧ q ≤ ((n' : Rat) + 1 / 2) * ((n' : Rat) + 1 / 2) ∧ 1 ≤ n' := by
  intro mid n'
  have hn : (1 : Rat) ≤ (n : Rat) := by exact_mod_cast hn1
  have c : ((n + 1 : Nat) : Rat) = (n : Rat) + 1 := by simp
  have hmid : mid = (n : Rat) * n + n + 1 / 4 := by simp only [mid]; grind
  rcases nearest_pick (q < mid) (mid < q) (n % 2 = 0) n (n + 1) with ⟨e, h⟩ | ⟨e, h⟩
  · rw [show n' = n from e]; exact ⟨by grind, by grind, hn1⟩
  · rw [show n' = n + 1 from e, c]; exact ⟨by grind, by grind, by omega⟩

theorem c52_eq : c52 = pow2 (-52) := by decide +kernel

theorem sqrtUlp_pos (v : Rat) : 0 < sqrtUlp v := by
  unfold sqrtUlp; rw [c52_eq, ← pow2_add]; exact pow2_pos _

theorem sqrtUlp_sq (v : Rat) : sqrtUlp v * sqrtUlp v = pow2 (expOf v / 2 + expOf v / 2 - 104) := by
  unfold sqrtUlp
  rw [c52_eq, ← pow2_add, ← pow2_add]
  congr 1; omega

/-- for every positive rational `q = v / ulp²` lies in `[1, 2^108)` (in fact in `[2^104, 2^106)`), within the reach of `isqrt_spec` -/
theorem sqrt_range (v : Rat) (hv : 0 < v) :
    sqrtUlp v * sqrtUlp v ≤ v ∧ v < ((2 ^ 108 : Nat) : Rat) * (sqrtUlp v * sqrtUlp v) := by
  obtain ⟨lo, hi⟩ := expOf_spec v (Rat.ne_of_gt hv)
  rw [ab_of_nonneg v (Rat.le_of_lt hv)] at lo hi
  -- with e = expOf v: ulp² = 2^(2⌊e/2⌋ − 104) ≤ 2^e ≤ v < 2^(e+1) ≤ 2^(2⌊e/2⌋ + 4) = 2^108 · ulp²
  rw [sqrtUlp_sq, ← pow2_nat, ← pow2_add]
  exact ⟨Rat.le_trans (pow2_mono (by omega)) lo, Std.lt_of_lt_of_le hi (pow2_mono (by omega))⟩

/-- **`sqrt64` is the correctly rounded square root**: for every positive rational v the value returned is within half a unit in
    the last place (of the binade of √v) of √v — stated without √: `(r − ulp/2)² ≤ v ≤ (r + ulp/2)²` with `r ≥ ulp` (so both
    bases are positive and the squares are monotone). That `r` is a 53-bit multiple of that unit is how `sqrt64` is defined
    (`sqrtMant q · sqrtUlp v`) and is not part of the statement. -/
theorem sqrt64_correctly_rounded (v : Rat) (hv : 0 < v) :
    (sqrt64 v - sqrtUlp v / 2) * (sqrt64 v - sqrtUlp v / 2) ≤ v ∧
    v ≤ (sqrt64 v + sqrtUlp v / 2) * (sqrt64 v + sqrtUlp v / 2) ∧ sqrtUlp v ≤ sqrt64 v := by
  obtain ⟨hlo, hhi⟩ := sqrt_range v hv
  have hup := sqrtUlp_pos v
  unfold sqrt64
  rw [if_neg (Rat.not_le.mpr hv)]
  generalize sqrtUlp v = ulp at *
  have hu2 : 0 < ulp * ulp := Rat.mul_pos hup hup
  -- q = v / ulp² lies in [1, 2^108)
  generalize hq : v / (ulp * ulp) = q
  obtain rfl : v = q * (ulp * ulp) := by rw [← hq]; exact (Rat.div_mul_cancel (Rat.ne_of_gt hu2)).symm
  have fpos : 1 ≤ q.floor :=
    Rat.le_floor_iff.mpr (Rat.le_of_mul_le_mul_right (c := ulp * ulp) (by rwa [Rat.intCast_one, Rat.one_mul]) hu2)
  have flt : q.floor < ((2 ^ 108 : Nat) : Int) := Rat.floor_lt_iff.mpr ((Rat.mul_lt_mul_right hu2).1 hhi)
  -- n = ⌊√⌊q⌋⌋ brackets q itself, n² and (n + 1)² being integers
  obtain ⟨s1, s2⟩ := isqrt_spec q.floor.toNat (by omega)
  obtain ⟨b1, b2, b3⟩ : ((sqrtMant q : Rat) - 1 / 2) * ((sqrtMant q : Rat) - 1 / 2) ≤ q ∧
      q ≤ ((sqrtMant q : Rat) + 1 / 2) * ((sqrtMant q : Rat) + 1 / 2) ∧ 1 ≤ sqrtMant q := by
    refine sqrtRound_bracket q (isqrtBits q.floor.toNat 54 0) ?_ ?_ ?_
    all_goals generalize isqrtBits q.floor.toNat 54 0 = n at s1 s2
    · cases n <;> omega
    · have : ((n * n : Nat) : Int) ≤ q.floor := by omega
      exact_mod_cast Rat.le_floor_iff.mp this
    · have : q.floor < (((n + 1) * (n + 1) : Nat) : Int) := by omega
      exact_mod_cast Rat.floor_lt_iff.mp this
  -- back to v = q · ulp²
  generalize sqrtMant q = n' at b1 b2 b3 ⊢
  have b3' : (1 : Rat) ≤ (n' : Rat) := by exact_mod_cast b3
  have m1 := Rat.mul_le_mul_of_nonneg_right b1 (Rat.le_of_lt hu2)
  have m2 := Rat.mul_le_mul_of_nonneg_right b2 (Rat.le_of_lt hu2)
  have m3 := Rat.mul_le_mul_of_nonneg_right b3' (Rat.le_of_lt hup)
  refine ⟨by grind, by grind, by grind⟩

end Bmc.FloatModel
