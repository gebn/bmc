import Bmc.Lemmas.SessionlessSpec
import Bmc.Lemmas.ResponseAccepted
/-! COMPLETENESS of the session-less receive path (the counterpart of `Lemmas/ResponseAccepted.lean`): the datagram a
    conforming BMC builds in answer to a command sent outside a session — the response message in plaintext inside the
    null session wrapper (RMCP+ format, payload type IPMI, neither encrypted nor authenticated) — decodes through the
    whole chain and is classified as the command's final response (or, for the two temporary codes, as a retry). -/
namespace Bmc.Proto
open Bmc Bmc.Wire Bmc.Crypto

/-- the wrapper of a session-less response; a conforming BMC uses session ID 0 and sequence number 0, the console
    accepts whatever these two fields hold -/
def slResponseWrapper (sid seq : Nat) : V2Session := { payloadType := 0, id := sid, sequence := seq }

/-- the whole datagram: RMCP header (version 6, no ACK, class IPMI) + plain wrapper + response message -/
def slResponseDatagramWith (sid seq : Nat) (c : Cmd) (cc : UInt8) (data : Bytes) : Bytes :=
  [6, 0, 0xFF, 7] ++ (V2Session.encode (fun _ => []) (slResponseWrapper sid seq) (responseBytes c cc data)).2

/-- … with the null session: what the specification prescribes outside a session -/
def slResponseDatagram (c : Cmd) (cc : UInt8) (data : Bytes) : Bytes := slResponseDatagramWith 0 0 c cc data

theorem slOnReply_reaches (l : SlLayers) (b0 b1 b2 b3 : UInt8) (rest : Bytes) (v : V2Session) (m : Message)
    (hcls : b3 &&& 0xF = 7) (hv : V2Session.decode (fun _ => []) rest = .ok v) (hpt : v.payloadType = 0)
    (he : v.encrypted = false) (hm : Message.decode 8 v.payload = .ok m) :
    slView (slOnReply l (GoSlice.ofBytes (b0 :: b1 :: b2 :: b3 :: rest))) = (.message, some m) := by
  obtain ⟨h12, h6⟩ := V2Session.decode_head hv
  have h7 := (Message.decode_ok hm).1
  have e1 : (rest.length == 0) = false := beq_eq_false_iff_ne.mpr (by omega)
  have e2 : v.payload.isEmpty = false := by cases hp : v.payload <;> simp_all
  rw [slOnReply_view_eq, rmcp_decode_any]
  simp only [GoSlice.len_ofBytes, GoSlice.vis_ofBytes, hv, hm, hcls, h6, e1, e2, hpt, he, bne_self_eq_false, Bool.or_self,
    Bool.false_eq_true, if_false]

theorem slClassify_answer (sid seq : Nat) (c c' : Cmd) (cc : UInt8) (data : Bytes) (hm : (responseMsg c' cc).WF)
    (hsid : sid < 4294967296) (hseq : seq < 4294967296) (hlen : (responseBytes c' cc data).length < 65536) :
    slClassify c (slResponseDatagramWith sid seq c' cc data) =
      if sameOperation c c' && !isTemp cc then .final cc data else .retry := by
  have hwf : (slResponseWrapper sid seq).WF (responseBytes c' cc data) :=
    ⟨(by decide : (0 : UInt8).toNat < 64), hsid, hseq, hlen, (by decide : 0 < 4294967296), (by decide : 0 < 65536),
     fun _ => ⟨rfl, rfl⟩, fun _ => ⟨rfl, rfl⟩⟩
  have hview := slOnReply_reaches {} 6 0 0xFF 7 _ _ _ rfl
    (V2Session.decode_encode (fun _ => []) (slResponseWrapper sid seq) _ hwf) rfl rfl (Message.decode_encode (responseMsg c' cc) data hm)
  refine (slClassify_of_view (d := slResponseDatagramWith sid seq c' cc data) hview).trans ?_
  show (if (slAcceptable c (responseMsg c' cc) && !isTemp cc) = true then Class.final cc data else .retry) = _
  rw [slAcceptable_response]

theorem slClassify_response_with (sid seq : Nat) (c : Cmd) (cc : UInt8) (data : Bytes) (hm : (responseMsg c cc).WF)
    (hsid : sid < 4294967296) (hseq : seq < 4294967296) (hlen : (responseBytes c cc data).length < 65536) :
    slClassify c (slResponseDatagramWith sid seq c cc data) = if isTemp cc then .retry else .final cc data := by
  rw [slClassify_answer sid seq c c cc data hm hsid hseq hlen, show sameOperation c c = true by simp [sameOperation]]
  cases isTemp cc <;> rfl

theorem slClassify_response (c : Cmd) (cc : UInt8) (data : Bytes) (hm : (responseMsg c cc).WF)
    (hlen : (responseBytes c cc data).length < 65536) :
    slClassify c (slResponseDatagram c cc data) = if isTemp cc then .retry else .final cc data :=
  slClassify_response_with 0 0 c cc data hm (by omega) (by omega) hlen

end Bmc.Proto
