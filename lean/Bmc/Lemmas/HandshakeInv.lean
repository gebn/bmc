import Bmc.Lemmas.GenHsModel
import Bmc.Spec.Rakp
/-! Inversion of the handshake model on a reply script: `Proto.newSession` is `hsRun` over the script's answers
    (`newSession_eq_hsRun`), so what a returned session went through is `hsRun_ok` read at those answers. And the model's key
    formulas as the specification's over the values exchanged (`C02.exchangeOf`). -/
namespace Bmc.Proto
open Bmc Bmc.Wire Bmc.Crypto Bmc.Lemmas.GenHs

theorem exchangePayload_error {script : List Outcome} {e : HsRes} (h : exchangePayload script = .error e) :
    e = .error ∨ e = .crashed := by
  unfold exchangePayload at h
  split at h <;> cases h <;> simp

theorem decoded_ok {α : Type} {dec : GoSlice → R α} {script : List Outcome} {v : α} :
    decoded dec script = .ok v ↔ ∃ p, exchangePayload script = .ok p ∧ dec p = .ok v := by
  unfold decoded
  cases exchangePayload script with
  | error e => simp
  | ok p => simp only [Except.ok.injEq, exists_eq_left']; cases hd : dec p <;> simp

theorem decoded_error {α : Type} {dec : GoSlice → R α} {script : List Outcome} {e : HsRes} (h : decoded dec script = .error e) :
    e = .error ∨ e = .crashed := by
  unfold decoded at h
  split at h
  · rename_i he; cases h; exact exchangePayload_error he
  · split at h <;> cases h <;> simp

theorem scriptAnswers_honest (rm : Bytes) : Proofs.EndToEnd.HonestAnswers (scriptAnswers rm) := by
  refine ⟨fun s q e h => decoded_error h, fun s q e h => ?_, fun s q e h => decoded_error h⟩
  simp only [scriptAnswers] at h
  split at h
  · cases h; exact .inl rfl
  · exact decoded_error h

/-- a session was returned only through `Accepted` on the three replies the script's exchanges decoded to: the first from the
    script, the next two from what the exchange before left of it -/
theorem newSession_ok {C : Ops} {o : Opts} {rm : Bytes} {script : List Outcome} {l r : Nat} {a i c : UInt8}
    {sik k1 k2 : Bytes} (h : (newSession C o rm script).2 = .ok l r a i c sik k1 k2) :
    ∃ osr rk2 hh rk4 script2 script3,
      script2 = script.drop (exchange script).1 ∧ script3 = script2.drop (exchange script2).1 ∧
      decoded (OpenSessionRsp.decodeGo {}) script = .ok osr ∧ decoded (RAKP2.decodeGo true {}) script2 = .ok rk2 ∧
      decoded (RAKP4.decodeGo {}) script3 = .ok rk4 ∧ o.user.length ≤ 16 ∧
      Accepted C o rm osr rk2 hh rk4 (.ok l r a i c sik k1 k2) := by
  rw [newSession_eq_hsRun] at h
  obtain ⟨osr, rm', rk2, hh, rk4, s1, s0, s2, s3, a1, a0, a2, a3, acc⟩ := hsRun_ok (scriptAnswers_honest rm) h
  obtain rfl : rm = rm' := Option.some.inj (congrArg Prod.snd a0)
  obtain rfl : s1 = s0 := congrArg Prod.fst a0
  simp only [scriptAnswers] at a2
  split at a2
  · cases a2
  · rename_i rk1 hrk1
    refine ⟨osr, rk2, hh, rk4, s1.1, s2.1, (congrArg (·.1.1) a1).symm, (congrArg (·.1.1) a2).symm, congrArg Prod.snd a1,
      congrArg Prod.snd a2, congrArg Prod.snd a3, ?_, acc⟩
    unfold RAKP1.encode at hrk1
    split at hrk1
    · cases hrk1
    · omega

end Bmc.Proto

namespace Bmc.Proofs.C02
open Bmc Bmc.Wire Bmc.Proto

/-- the values exchanged, as the console holds them when it checks RAKP 2 / RAKP 4 -/
def exchangeOf (o : Opts) (rm : Bytes) (osr : OpenSessionRsp) (rk2 : RAKP2) : Spec.Exchange :=
  { sidm := putLE32 rk2.consoleSessionID, sidc := putLE32 osr.bmcSessionID, rm := rm, rc := rk2.bmcRandom
    guid := rk2.bmcGUID, role := roleByte o, uname := o.user }

end Bmc.Proofs.C02

namespace Bmc.Proto
open Bmc Bmc.Wire Bmc.Crypto Bmc.Proofs.C02

/-! Against `Spec/Rakp.lean`: the same bytes under the same keys; for the RAKP 4 check value the truncation tables of the two
    sides agree. -/
section
variable (C : Ops) (hh : HashAlg) (o : Opts) (rm : Bytes) (osr : OpenSessionRsp) (rk2 : RAKP2)

theorem rakp2Code_spec : rakp2Code C hh o rm osr rk2 = Spec.rakp2Code C hh o.pass (exchangeOf o rm osr rk2) := rfl
theorem rakp3Code_spec : rakp3Code C hh o rk2 = Spec.rakp3Code C hh o.pass (exchangeOf o rm osr rk2) := rfl
theorem sikOf_spec : sikOf C hh o rm rk2 = Spec.sik C hh o.pass o.kg (exchangeOf o rm osr rk2) := rfl

theorem icvOf_spec (a : UInt8) (sik : Bytes) (ha : authHash a = some hh) :
    icvOf C hh a sik rm osr rk2 = Spec.icv C hh sik (exchangeOf o rm osr rk2) := by
  rcases authHash_some ha with ⟨rfl, rfl⟩ | ⟨rfl, rfl⟩ | ⟨rfl, rfl⟩ <;> rfl

end

end Bmc.Proto
