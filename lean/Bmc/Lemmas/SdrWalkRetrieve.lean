import Bmc.Lemmas.SdrWalkSound
/-! Helper lemmas for C14: `walkSDRs` as a whole, one run of the retried closure, and the retry loop. -/
namespace Bmc.Lemmas.SdrWalk
open Bmc Bmc.Wire Bmc.Spec Bmc.Proto.SdrWalk

theorem walk_later (k : Bool) (fuel : Nat) (w : World) : Later w (walk k bmc fuel w).1 := by
  unfold walk
  rw [call_reserve]
  exact later_trans (answer_later w .reserve) (walkLoop_later ..)

theorem walk_sound (fuel : Nat) (w w' : World) (m : SDRRepository) (hInv : w.Inv)
    (h : walk true bmc fuel w = (w', .ok m)) (hts : tsEq w w') :
    m = fullView w'.repo.store.recs ∧ w'.repo.store.recs = w.repo.store.recs := by
  unfold walk at h
  rw [call_reserve] at h
  simp only at h
  have m1 := answer_mono w .reserve
  have i1 := answer_inv w .reserve hInv
  have m2 := (walkLoop_later true fuel (w.answer .reserve).1 (w.answer .reserve).1.repo.resv 0 []).1
  rw [h] at m2
  obtain ⟨e1, e2⟩ := tsEq_squeeze m1 m2 hts
  have r1 := answer_same w .reserve e1
  have hpos : PosOK' [] (w.answer .reserve).1.repo.store.recs 0 := by
    cases hc : (w.answer .reserve).1.repo.store.recs with
    | nil => right; exact ⟨rfl, rfl, rfl⟩
    | cons r rest => left; right; exact ⟨rfl, rfl⟩
  have := walkLoop_sound fuel (w.answer .reserve).1 _ 0 [] _ w' m i1 (by simp) hpos (by simpa [fullView] using h) e2
  simp only [List.nil_append] at this
  obtain ⟨t1, t2⟩ := this
  exact ⟨by rw [t2]; exact t1, by rw [t2, r1]⟩

theorem attempt_later (k : Bool) (fuel : Nat) (w : World) : Later w (attempt k bmc fuel w).1 := by
  unfold attempt
  rw [call_info]
  simp only
  have l := later_trans (answer_later w .info) (walk_later k fuel (w.answer .info).1)
  cases hw : walk k bmc fuel (w.answer .info).1 with
  | mk w2 r =>
    rw [hw] at l
    cases r with
    | ok cand =>
      simp only
      rw [call_info]
      simp only
      split <;> exact later_trans l (answer_later w2 .info)
    | _ => exact l

theorem attempt_sound (fuel : Nat) (w w' : World) (m : SDRRepository) (hInv : w.Inv)
    (h : attempt true bmc fuel w = (w', .ok m)) :
    m = fullView w'.repo.store.recs ∧ w'.repo.store.recs = (w.answer .info).1.repo.store.recs := by
  unfold attempt at h
  rw [call_info] at h
  simp only at h
  have i1 := answer_inv w .info hInv
  have mw := walk_later true fuel (w.answer .info).1
  cases hw : walk true bmc fuel (w.answer .info).1 with
  | mk w2 r =>
    rw [hw] at h mw
    cases r with
    | ok cand =>
      simp only at h
      rw [call_info] at h
      simp only at h
      have m3 := answer_mono w2 .info
      have i3 := answer_inv w2 .info (mw.2 i1)
      have b1 := (inv_store _ i1).2
      have b3 := (inv_store _ i3).2
      split at h
      · simp at h
      · rename_i hnew
        simp only [Prod.mk.injEq, Res.ok.injEq] at h
        obtain ⟨rfl, rfl⟩ := h
        simp only [Proofs.C07.sdrRepoInfoView, Store.info] at hnew
        have hm := tsLe_trans mw.1 m3
        have e13 : tsEq (w.answer .info).1 (w2.answer .info).1 := by
          unfold tsLe at hm; unfold tsEq
          rw [Nat.mod_eq_of_lt b1.1, Nat.mod_eq_of_lt b1.2, Nat.mod_eq_of_lt b3.1, Nat.mod_eq_of_lt b3.2] at hnew
          omega
        obtain ⟨e12, e23⟩ := tsEq_squeeze mw.1 m3 e13
        have r3 := answer_same w2 .info e23
        have := walk_sound fuel _ w2 cand i1 hw e12
        rw [r3, this.2] at *
        exact ⟨this.1, rfl⟩
    | err => simp at h
    | outOfFuel => simp at h

theorem retrieve_sound (fuel n : Nat) : ∀ w : World, w.Inv → (retrieve true bmc fuel n w).1.Inv ∧
    ∀ m, (retrieve true bmc fuel n w).2 = some m → m = fullView (retrieve true bmc fuel n w).1.repo.store.recs := by
  induction n with
  | zero => intro w h; exact ⟨h, nofun⟩
  | succ n ih =>
    intro w h
    rw [retrieve]
    have hi := (attempt_later true fuel w).2 h
    cases ha : attempt true bmc fuel w with
    | mk w1 r =>
      rw [ha] at hi
      cases r with
      | ok m1 => exact ⟨hi, fun m hm => by cases hm; exact (attempt_sound fuel w w1 m1 h ha).1⟩
      | err => exact ih w1 hi
      | outOfFuel => exact ih w1 hi

theorem quiet_answer (R : Repo) (q : RepoReq) : (World.quiet R).answer q = (World.quiet (R.step q).1, (R.step q).2) := rfl

theorem walk_complete_quiet (R : Repo) (fuel : Nat) (hwf : wfStore R.store.recs) (hne : R.store.recs ≠ [])
    (hfull : wfFull R.store.recs) (hfuel : R.store.recs.length < fuel) :
    walk true bmc fuel (World.quiet R) =
      (World.quiet { R with resv := R.nextResv, resvOk := true }, .ok (fullView R.store.recs)) := by
  unfold walk
  rw [call_reserve]
  simp only [quiet_answer, Repo.step]
  have hpos : PosOK [] R.store.recs 0 := by
    cases hc : R.store.recs with
    | nil => exact absurd hc hne
    | cons r rest => right; exact ⟨rfl, rfl⟩
  have := walkLoop_complete R.store.recs [] fuel (World.quiet { R with resv := R.nextResv, resvOk := true }) 0 rfl rfl
    (by simpa using hwf) hfull rfl hpos hfuel
  simpa [fullView] using this

theorem attempt_complete_quiet (R : Repo) (fuel : Nat) (hwf : wfStore R.store.recs) (hne : R.store.recs ≠ [])
    (hfull : wfFull R.store.recs) (hfuel : R.store.recs.length < fuel) :
    attempt true bmc fuel (World.quiet R) =
      (World.quiet { R with resv := R.nextResv, resvOk := true }, .ok (fullView R.store.recs)) := by
  unfold attempt
  rw [call_info]
  simp only [quiet_answer, Repo.step]
  rw [walk_complete_quiet R fuel hwf hne hfull hfuel]
  simp only
  rw [call_info]
  simp only [quiet_answer, Repo.step]
  simp [World.quiet]

theorem retrieve_complete_quiet (R : Repo) (fuel n : Nat) (hwf : wfStore R.store.recs) (hne : R.store.recs ≠ [])
    (hfull : wfFull R.store.recs) (hfuel : R.store.recs.length < fuel) :
    retrieve true bmc fuel (n + 1) (World.quiet R) =
      (World.quiet { R with resv := R.nextResv, resvOk := true }, some (fullView R.store.recs)) := by
  rw [retrieve, attempt_complete_quiet R fuel hwf hne hfull hfuel]

/-- a finite check of `World.Inv`: the stores after each prefix of the schedule -/
theorem inv_of_prefixes (w : World)
    (h : ∀ k, k ≤ w.sched.length → (w.repo.store.applyAll ((w.sched.take k).flatMap (·.2))).wf) : w.Inv := by
  intro k
  by_cases hk : k ≤ w.sched.length
  · exact h k hk
  · have := h w.sched.length (Nat.le_refl _)
    rw [List.take_of_length_le (by omega)]
    rwa [List.take_length] at this

end Bmc.Lemmas.SdrWalk
