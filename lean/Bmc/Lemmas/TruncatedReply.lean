import Bmc.Proto.Handshake
import Bmc.Spec.Bmc
import Bmc.Lemmas.V2Refine
import Bmc.Lemmas.SessionLaws
import Bmc.Proofs.C07.Core
/-! A TRUNCATED handshake reply is never taken for the reply: whatever proper prefix of a session-less RMCP+ datagram
    arrives, one attempt of `buildAndSendPayload` classifies it as "retry" (the RMCP header is incomplete, or the session
    wrapper is, or its length field exceeds what is left). -/
namespace Bmc.Wire
open Bmc Bmc.Proofs.C07

theorem V2Session.decode_take (mac : Bytes → Bytes) (hdr payload : Bytes) (hH : hdr.length = 12) (hoem : hdr.getD 1 0 &&& 0x3f ≠ 2)
    (hlen : le16 (hdr.drop 10) = payload.length) (m : Nat) (hm : m < 12 + payload.length) :
    V2Session.decode mac ((hdr ++ payload).take m) = .error () := by
  by_cases h12 : m < 12
  · exact v2_short _ _ (by rw [List.length_take]; omega)
  · have e : (hdr ++ payload).take m = hdr ++ payload.take (m - 12) := by
      rw [List.take_append, hH, List.take_of_length_le (by omega)]
    rw [e]
    refine v2_length_exceeds mac _ ?_ ?_
    · rwa [getD_append_lt _ _ _ (by omega)]
    · rw [le16_drop_append _ _ _ (by omega), hlen, List.length_append, List.length_take, hH]; omega

end Bmc.Wire

namespace Bmc.Proto
open Bmc Bmc.Wire Bmc.Crypto

theorem payloadReply_wrapper_error (b0 b1 b2 b3 : UInt8) (rest : Bytes) (h : V2Session.decode (fun _ => []) rest = .error ()) :
    payloadReply (GoSlice.ofBytes (b0 :: b1 :: b2 :: b3 :: rest)) = .retry := by
  unfold payloadReply
  rw [rmcp_decode_any]
  dsimp only
  rw [V2Session.decodeGo_refines, GoSlice.vis_ofBytes, h]
  cases ((GoSlice.ofBytes rest).len == 0)
  case true => rfl
  cases (b3 &&& 0xF != 7)
  case true => rfl
  cases (rest.getD 0 0 != 6) <;> rfl

theorem truncated_setup_reply_is_retry (ptype : UInt8) (hpt : ptype.toNat < 64) (hoem : ptype ≠ 2) (payload : Bytes)
    (hlen : payload.length < 65536) (n : Nat) (hn : n < (Spec.sessionless ptype payload).length) :
    payloadReply (GoSlice.ofBytes ((Spec.sessionless ptype payload).take n)) = .retry := by
  by_cases h4 : n < 4
  · -- the RMCP header is incomplete: the RMCP layer returns an error
    unfold payloadReply RMCP.decodeGo
    rw [if_pos (by rw [GoSlice.len_ofBytes, List.length_take]; omega)]
  · obtain ⟨n', rfl⟩ : ∃ n', n = n' + 4 := ⟨n - 4, by omega⟩
    have hm : ptype &&& 0x3f = ptype := by simpa using mask6 ptype.toNat hpt
    refine payloadReply_wrapper_error 6 0 0xFF 7 _
      (V2Session.decode_take _ ([6, ptype] ++ Spec.le32 0 ++ Spec.le32 0 ++ Spec.le16 payload.length) payload rfl
        (by rwa [show ([6, ptype] ++ Spec.le32 0 ++ Spec.le32 0 ++ Spec.le16 payload.length).getD 1 0 = ptype from rfl, hm])
        (le16_spec payload.length hlen []) n' ?_)
    simp [Spec.sessionless, Spec.le32, Spec.le16] at hn
    omega

end Bmc.Proto
