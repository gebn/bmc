import Bmc.Proto.Handshake
/-! The handshake model `Proto.newSession` (`Proto/Handshake.lean`) factored at the level where an exchange has ended
    with a decoded payload — the level at which the session establishment code regenerated from the Go source
    (`Gen/Hs.lean`) takes its parameters (`Proofs/GenHs/*`):

    * `openChecks` / `rakp2Checks` / `rakp4Checks` — what `stepOpen` / `stepRakp2` / `stepRakp4` do once the reply script
      has been consumed and the payload decoded (`stepOpen_eq` …: each step IS exchange, decode, then these checks);
    * `Answers σ` / `hsRun` — the composition of the three steps over ABSTRACT answers: for each of the three requests
      (given by the arguments of the hand model's encoders) what the exchange ended with — a decoded value, an error or a
      crash — threaded through a state; and the random draw;
    * `scriptAnswers` / `newSession_eq_hsRun` — `Proto.newSession` on a reply script IS `hsRun` over the answers the script
      induces (exchange, decode; state = the rest of the script and the datagrams transmitted so far);
    * `Accepted` / `Stages` / `hsRun_ok` / `hsRun_of_stages` — what the three checks accept, and a run that ends in a session
      as the four answers it received plus that; every statement about a returned session is read off these. -/
namespace Bmc.Lemmas.GenHs
open Bmc Bmc.Wire Bmc.Crypto Bmc.Proto

theorem _root_.Bmc.Proto.authHash_some {a : UInt8} {h : HashAlg} (ha : authHash a = some h) :
    (a = 1 ∧ h = .sha1) ∨ (a = 2 ∧ h = .md5) ∨ (a = 3 ∧ h = .sha256) := by
  unfold authHash at ha
  split at ha
  · cases ha; exact .inl ⟨rfl, rfl⟩
  · cases ha; exact .inr (.inl ⟨rfl, rfl⟩)
  · cases ha; exact .inr (.inr ⟨rfl, rfl⟩)
  · cases ha

/-- `openSession`'s tag / status checks and `newV2Session`'s comparison of the confirmed algorithms with the PROPOSAL -/
def openChecks (o : Opts) (osr : OpenSessionRsp) : Except HsRes OpenSessionRsp :=
  if osr.tag != 0 then .error .error else
  if osr.status != 0 then .error .error else
  if osr.auth != o.auth || osr.integ != o.integ || osr.conf != o.conf then .error .error else
  .ok osr

/-- `rakpMessage1`'s tag / status checks, the hash table, and the RAKP 2 AuthCode check -/
def rakp2Checks (C : Ops) (o : Opts) (rm : Bytes) (osr : OpenSessionRsp) (rk2 : RAKP2) : Except HsRes (RAKP2 × HashAlg) :=
  if rk2.tag != 0 then .error .error else
  if rk2.status != 0 then .error .error else
  match authHash osr.auth with
  | none => .error .error
  | some h =>
    if rk2.authCode != rakp2Code C h o rm osr rk2 then .error .incorrectPassword else .ok (rk2, h)

/-- `rakpMessage3`'s tag / status checks, the RAKP 4 ICV check and the algorithm constructors -/
def rakp4Checks (C : Ops) (o : Opts) (rm : Bytes) (osr : OpenSessionRsp) (rk2 : RAKP2) (h : HashAlg) (rk4 : RAKP4) : Except HsRes HsRes :=
  if rk4.tag != 0 then .error .error else
  if rk4.status != 0 then .error .error else
  let sik := sikOf C h o rm rk2
  if rk4.icv != icvOf C h osr.auth sik rm osr rk2 then .error .error else
  if !(osr.integ == 1 || osr.integ == 2 || osr.integ == 4) then .error .error else
  if osr.conf != 1 then .error .error else
  .ok (.ok osr.consoleSessionID osr.bmcSessionID osr.auth osr.integ osr.conf sik
        (C.hmac h sik (List.replicate 20 1)) (C.hmac h sik (List.replicate 20 2)))

def decoded {α : Type} (dec : GoSlice → R α) (script : List Outcome) : Except HsRes α :=
  match exchangePayload script with
  | .error e => .error e
  | .ok p =>
    match dec p with
    | .panic | .overread => .error .crashed
    | .err => .error .error
    | .ok v => .ok v

theorem stepOpen_eq (o : Opts) (script : List Outcome) :
    stepOpen o script = (decoded (OpenSessionRsp.decodeGo {}) script >>= openChecks o) := by
  unfold stepOpen decoded openChecks
  cases exchangePayload script with
  | error e => rfl
  | ok p => simp only []; cases OpenSessionRsp.decodeGo {} p <;> rfl

theorem stepRakp2_eq (C : Ops) (o : Opts) (rm : Bytes) (osr : OpenSessionRsp) (script : List Outcome) :
    stepRakp2 C o rm osr script = (decoded (RAKP2.decodeGo true {}) script >>= rakp2Checks C o rm osr) := by
  unfold stepRakp2 decoded rakp2Checks
  cases exchangePayload script with
  | error e => rfl
  | ok p => simp only []; cases RAKP2.decodeGo true {} p <;> rfl

theorem stepRakp4_eq (C : Ops) (o : Opts) (rm : Bytes) (osr : OpenSessionRsp) (rk2 : RAKP2) (h : HashAlg) (script : List Outcome) :
    stepRakp4 C o rm osr rk2 h script = (decoded (RAKP4.decodeGo {}) script >>= rakp4Checks C o rm osr rk2 h) := by
  unfold stepRakp4 decoded rakp4Checks
  cases exchangePayload script with
  | error e => rfl
  | ok p => simp only []; cases RAKP4.decodeGo {} p <;> rfl

/-- the request of the Open Session exchange: the arguments of `OpenSessionReq.encode` -/
structure OpenReq where
  tag : UInt8
  priv : UInt8
  sid : Nat
  auth : UInt8
  integ : UInt8
  conf : UInt8
  deriving Repr, DecidableEq

/-- the request of the RAKP 1 / 2 exchange: the arguments of `RAKP1.encode` -/
structure Rakp1Req where
  tag : UInt8
  bmcSID : Nat
  rm : Bytes
  lookup : Bool
  priv : UInt8
  user : Bytes
  deriving Repr, DecidableEq

/-- the request of the RAKP 3 / 4 exchange: the arguments of `RAKP3.encode` (status OK) -/
structure Rakp3Req where
  tag : UInt8
  bmcSID : Nat
  authCode : Bytes
  deriving Repr, DecidableEq

/-- what each exchange ends with (a decoded value; `.error .error`: no usable reply, or it does not decode; `.error
    .crashed`: the decoder panics), as a function of a state and the request; and the random draw (`none`: an error) -/
structure Answers (σ : Type) where
  openSession : σ → OpenReq → σ × Except HsRes OpenSessionRsp
  rand : σ → σ × Option Bytes
  rakp1 : σ → Rakp1Req → σ × Except HsRes RAKP2
  rakp3 : σ → Rakp3Req → σ × Except HsRes RAKP4

/-- THE ORDER OF SESSION ESTABLISHMENT in the hand model: Open Session (tag 0, the caller's privilege level, console session
    ID 1, the PROPOSED algorithms) — checks — the random draw — RAKP 1 (tag 0, the BMC's session ID, the draw, the
    caller's lookup mode, privilege level and user name) — checks (RAKP 2 AuthCode) — RAKP 3 (tag 0, the BMC's session ID,
    the RAKP 3 AuthCode) — checks (RAKP 4 ICV, the algorithm constructors). A failed check ends it in the state reached:
    nothing more is asked. -/
def hsRun {σ : Type} (C : Ops) (A : Answers σ) (o : Opts) (s : σ) : HsRes × σ :=
  let x1 := A.openSession s ⟨0, o.priv, 1, o.auth, o.integ, o.conf⟩
  match x1.2 >>= openChecks o with
  | .error e => (e, x1.1)
  | .ok osr =>
  let x0 := A.rand x1.1
  match x0.2 with
  | none => (.error, x0.1)
  | some rm =>
  let x2 := A.rakp1 x0.1 ⟨0, osr.bmcSessionID, rm, o.lookup, o.priv, o.user⟩
  match x2.2 >>= rakp2Checks C o rm osr with
  | .error e => (e, x2.1)
  | .ok (rk2, h) =>
  let x3 := A.rakp3 x2.1 ⟨0, osr.bmcSessionID, rakp3Code C h o rk2⟩
  match x3.2 >>= rakp4Checks C o rm osr rk2 h with
  | .error e => (e, x3.1)
  | .ok r => (r, x3.1)

section
variable {C : Ops} {o : Opts} {rm : Bytes} {osr : OpenSessionRsp} {rk2 : RAKP2} {hh : HashAlg} {rk4 : RAKP4} {res e : HsRes}

theorem openChecks_ok {x : OpenSessionRsp} :
    openChecks o x = .ok osr ↔
      osr = x ∧ x.tag = 0 ∧ x.status = 0 ∧ x.auth = o.auth ∧ x.integ = o.integ ∧ x.conf = o.conf := by
  simp only [openChecks, Except.ite_error_eq_ok, bne_iff_ne, ne_eq, Decidable.not_not, Bool.or_eq_true, not_or, Except.ok.injEq,
    and_assoc, eq_comm (a := osr)]
  exact ⟨fun ⟨a, b, c, d, e, f⟩ => ⟨f, a, b, c, d, e⟩, fun ⟨f, a, b, c, d, e⟩ => ⟨a, b, c, d, e, f⟩⟩

theorem openChecks_error {x : OpenSessionRsp} (h : openChecks o x = .error e) : e = .error := by
  simp only [openChecks, Except.ite_error_eq_error, reduceCtorEq, and_false, or_false] at h
  rcases h with ⟨_, h⟩ | ⟨_, ⟨_, h⟩ | ⟨_, _, h⟩⟩ <;> exact h.symm

theorem rakp2Checks_ok {x : RAKP2} :
    rakp2Checks C o rm osr x = .ok (rk2, hh) ↔
      rk2 = x ∧ x.tag = 0 ∧ x.status = 0 ∧ authHash osr.auth = some hh ∧ x.authCode = rakp2Code C hh o rm osr x := by
  unfold rakp2Checks
  cases authHash osr.auth with
  | none => simp
  | some h' =>
    simp only [Except.ite_error_eq_ok, bne_iff_ne, ne_eq, Decidable.not_not, Except.ok.injEq, Prod.mk.injEq, Option.some.injEq]
    constructor
    · rintro ⟨a, b, c, rfl, rfl⟩; exact ⟨rfl, a, b, rfl, c⟩
    · rintro ⟨rfl, a, b, rfl, c⟩; exact ⟨a, b, c, rfl, rfl⟩

theorem rakp2Checks_error {x : RAKP2} (h : rakp2Checks C o rm osr x = .error e) : e = .error ∨ e = .incorrectPassword := by
  unfold rakp2Checks at h
  generalize authHash osr.auth = a at h
  cases a <;> simp only [Except.ite_error_eq_error, Except.error.injEq, reduceCtorEq, and_false, or_false] at h
  · rcases h with ⟨_, h⟩ | ⟨_, ⟨_, h⟩ | ⟨_, h⟩⟩ <;> exact .inl h.symm
  · rcases h with ⟨_, h⟩ | ⟨_, ⟨_, h⟩ | ⟨_, _, h⟩⟩
    · exact .inl h.symm
    · exact .inl h.symm
    · exact .inr h.symm

theorem rakp2Checks_badpw {x : RAKP2} :
    rakp2Checks C o rm osr x = .error .incorrectPassword ↔
      x.tag = 0 ∧ x.status = 0 ∧ ∃ h, authHash osr.auth = some h ∧ x.authCode ≠ rakp2Code C h o rm osr x := by
  unfold rakp2Checks
  cases authHash osr.auth <;> simp only [Except.ite_error_eq_error, Except.error.injEq, reduceCtorEq] <;> simp

theorem rakp4Checks_ok {x : RAKP4} :
    rakp4Checks C o rm osr rk2 hh x = .ok res ↔
      x.tag = 0 ∧ x.status = 0 ∧ x.icv = icvOf C hh osr.auth (sikOf C hh o rm rk2) rm osr rk2 ∧
      (osr.integ = 1 ∨ osr.integ = 2 ∨ osr.integ = 4) ∧ osr.conf = 1 ∧
      res = .ok osr.consoleSessionID osr.bmcSessionID osr.auth osr.integ osr.conf (sikOf C hh o rm rk2)
            (C.hmac hh (sikOf C hh o rm rk2) (List.replicate 20 1)) (C.hmac hh (sikOf C hh o rm rk2) (List.replicate 20 2)) := by
  simp only [rakp4Checks, Except.ite_error_eq_ok, bne_iff_ne, ne_eq, Decidable.not_not, Bool.not_eq_true', Bool.not_eq_false,
    Bool.or_eq_true, beq_iff_eq, Except.ok.injEq, or_assoc, eq_comm (a := res)]

theorem rakp4Checks_error {x : RAKP4} (he : rakp4Checks C o rm osr rk2 hh x = .error e) : e = .error := by
  simp only [rakp4Checks, Except.ite_error_eq_error, reduceCtorEq, and_false, or_false] at he
  rcases he with ⟨_, h⟩ | ⟨_, ⟨_, h⟩ | ⟨_, ⟨_, h⟩ | ⟨_, ⟨_, h⟩ | ⟨_, _, h⟩⟩⟩⟩ <;> exact h.symm

/-- what the three checks accept: the conditions on the decoded replies under which a run ends with `res` -/
structure Accepted (C : Ops) (o : Opts) (rm : Bytes) (osr : OpenSessionRsp) (rk2 : RAKP2) (hh : HashAlg) (rk4 : RAKP4)
    (res : HsRes) : Prop where
  tag1 : osr.tag = 0
  status1 : osr.status = 0
  auth : osr.auth = o.auth
  integ : osr.integ = o.integ
  conf : osr.conf = o.conf
  tag2 : rk2.tag = 0
  status2 : rk2.status = 0
  hash : authHash osr.auth = some hh
  code : rk2.authCode = rakp2Code C hh o rm osr rk2
  tag4 : rk4.tag = 0
  status4 : rk4.status = 0
  icv : rk4.icv = icvOf C hh osr.auth (sikOf C hh o rm rk2) rm osr rk2
  integOk : osr.integ = 1 ∨ osr.integ = 2 ∨ osr.integ = 4
  confOk : osr.conf = 1
  res : res = .ok osr.consoleSessionID osr.bmcSessionID osr.auth osr.integ osr.conf (sikOf C hh o rm rk2)
          (C.hmac hh (sikOf C hh o rm rk2) (List.replicate 20 1)) (C.hmac hh (sikOf C hh o rm rk2) (List.replicate 20 2))

theorem accepted_iff :
    Accepted C o rm osr rk2 hh rk4 res ↔
      openChecks o osr = .ok osr ∧ rakp2Checks C o rm osr rk2 = .ok (rk2, hh) ∧ rakp4Checks C o rm osr rk2 hh rk4 = .ok res := by
  rw [openChecks_ok, rakp2Checks_ok, rakp4Checks_ok]
  constructor
  · rintro ⟨a, b, c, d, e, f, g, h, i, j, k, l, m, n, p⟩
    exact ⟨⟨rfl, a, b, c, d, e⟩, ⟨rfl, f, g, h, i⟩, j, k, l, m, n, p⟩
  · rintro ⟨⟨_, a, b, c, d, e⟩, ⟨_, f, g, h, i⟩, j, k, l, m, n, p⟩
    exact ⟨a, b, c, d, e, f, g, h, i, j, k, l, m, n, p⟩

end

end Bmc.Lemmas.GenHs

namespace Bmc.Proofs.EndToEnd
open Bmc Bmc.Wire Bmc.Crypto Bmc.Proto Bmc.Lemmas.GenHs

/-- an exchange that does not end with a decoded value ends with "error" or "crashed" — never with something that looks like
    a session (true of every answer function built from real exchanges: `viewAnswers`, `scriptAnswers`) -/
def HonestAnswers {σ : Type} (A : Answers σ) : Prop :=
  (∀ s q e, (A.openSession s q).2 = .error e → e = .error ∨ e = .crashed) ∧
  (∀ s q e, (A.rakp1 s q).2 = .error e → e = .error ∨ e = .crashed) ∧
  (∀ s q e, (A.rakp3 s q).2 = .error e → e = .error ∨ e = .crashed)

end Bmc.Proofs.EndToEnd

namespace Bmc.Lemmas.GenHs
open Bmc Bmc.Wire Bmc.Crypto Bmc.Proto Bmc.Proofs.EndToEnd

structure Stages {σ : Type} (C : Ops) (A : Answers σ) (o : Opts) (s : σ) (res : HsRes)
    (osr : OpenSessionRsp) (rm : Bytes) (rk2 : RAKP2) (hh : HashAlg) (rk4 : RAKP4) (s1 s0 s2 s3 : σ) : Prop where
  openSession : A.openSession s ⟨0, o.priv, 1, o.auth, o.integ, o.conf⟩ = (s1, .ok osr)
  rand : A.rand s1 = (s0, some rm)
  rakp1 : A.rakp1 s0 ⟨0, osr.bmcSessionID, rm, o.lookup, o.priv, o.user⟩ = (s2, .ok rk2)
  rakp3 : A.rakp3 s2 ⟨0, osr.bmcSessionID, rakp3Code C hh o rk2⟩ = (s3, .ok rk4)
  accepted : Accepted C o rm osr rk2 hh rk4 res

theorem hsRun_of_stages {σ : Type} {C : Ops} {A : Answers σ} {o : Opts} {s : σ} {res : HsRes} {osr : OpenSessionRsp} {rm : Bytes}
    {rk2 : RAKP2} {hh : HashAlg} {rk4 : RAKP4} {s1 s0 s2 s3 : σ} (h : Stages C A o s res osr rm rk2 hh rk4 s1 s0 s2 s3) :
    hsRun C A o s = (res, s3) := by
  obtain ⟨c1, c2, c4⟩ := accepted_iff.1 h.accepted
  have bind_ok : ∀ {α β : Type} (a : α) (f : α → Except HsRes β), ((Except.ok a : Except HsRes α) >>= f) = f a := fun _ _ => rfl
  unfold hsRun
  simp only [h.openSession, bind_ok, c1, h.rand, h.rakp1, c2, h.rakp3, c4]

/-- a stage fails with the exchange's error or with one of the two errors the checks raise: so not with `bad`, if the exchange does
    not end with it and it is neither of the two -/
theorem stage_ne {α β : Type} {x : Except HsRes α} {f : α → Except HsRes β} {bad : HsRes} (hx : x ≠ .error bad)
    (hf : ∀ a e, f a = .error e → e = .error ∨ e = .incorrectPassword) (h1 : bad ≠ .error) (h2 : bad ≠ .incorrectPassword) :
    (x >>= f) ≠ .error bad := by
  intro h
  rcases Except.bind_eq_error.1 h with h | ⟨a, _, h⟩
  · exact hx h
  · exact (hf a _ h).elim h1 h2

/-- a run that ends in `bad`, a result that neither the checks raise nor an exchange ends with (a session in `hsRun_ok`, a crash in
    `hsRun_not_crashed`), went through the four stages -/
theorem hsRun_inv {σ : Type} {C : Ops} {A : Answers σ} {o : Opts} {s : σ} {bad : HsRes} (h : (hsRun C A o s).1 = bad)
    (h1 : bad ≠ .error) (h2 : bad ≠ .incorrectPassword) (e1 : ∀ s q, (A.openSession s q).2 ≠ .error bad)
    (e2 : ∀ s q, (A.rakp1 s q).2 ≠ .error bad) (e3 : ∀ s q, (A.rakp3 s q).2 ≠ .error bad) :
    ∃ osr rm rk2 hh rk4 s1 s0 s2 s3, Stages C A o s bad osr rm rk2 hh rk4 s1 s0 s2 s3 := by
  unfold hsRun at h
  simp only [] at h
  split at h
  · rename_i e he
    subst h; exact absurd he (stage_ne (e1 _ _) (fun _ _ h => .inl (openChecks_error h)) h1 h2)
  rename_i osr c1
  obtain ⟨osr0, a1, c1⟩ := Except.bind_eq_ok.1 c1
  obtain rfl := (openChecks_ok.1 c1).1
  split at h
  · exact absurd h.symm h1
  rename_i rm a0
  split at h
  · rename_i e he
    subst h; exact absurd he (stage_ne (e2 _ _) (fun _ _ h => rakp2Checks_error h) h1 h2)
  rename_i rk2 hh c2
  obtain ⟨rk20, a2, c2⟩ := Except.bind_eq_ok.1 c2
  obtain rfl := (rakp2Checks_ok.1 c2).1
  split at h
  · rename_i e he
    subst h; exact absurd he (stage_ne (e3 _ _) (fun _ _ h => .inl (rakp4Checks_error h)) h1 h2)
  rename_i res c3
  obtain ⟨rk4, a3, c3⟩ := Except.bind_eq_ok.1 c3
  simp only at h
  subst h
  exact ⟨osr, rm, rk2, hh, rk4, _, _, _, _, Prod.ext rfl a1, Prod.ext rfl a0, Prod.ext rfl a2, Prod.ext rfl a3, accepted_iff.2 ⟨c1, c2, c3⟩⟩

theorem hsRun_ok {σ : Type} {C : Ops} {A : Answers σ} (hA : HonestAnswers A) {o : Opts} {s : σ} {l r : Nat} {a i c : UInt8}
    {sik k1 k2 : Bytes} (h : (hsRun C A o s).1 = .ok l r a i c sik k1 k2) :
    ∃ osr rm rk2 hh rk4 s1 s0 s2 s3, Stages C A o s (.ok l r a i c sik k1 k2) osr rm rk2 hh rk4 s1 s0 s2 s3 :=
  hsRun_inv h nofun nofun (fun _ _ e => (hA.1 _ _ _ e).elim nofun nofun) (fun _ _ e => (hA.2.1 _ _ _ e).elim nofun nofun)
    (fun _ _ e => (hA.2.2 _ _ _ e).elim nofun nofun)

theorem hsRun_not_crashed {σ : Type} (C : Ops) (A : Answers σ) (o : Opts) (s : σ)
    (h1 : ∀ s r, (A.openSession s r).2 ≠ .error .crashed) (h2 : ∀ s r, (A.rakp1 s r).2 ≠ .error .crashed)
    (h3 : ∀ s r, (A.rakp3 s r).2 ≠ .error .crashed) : (hsRun C A o s).1 ≠ .crashed := fun h =>
  have ⟨_, _, _, _, _, _, _, _, _, st⟩ := hsRun_inv h nofun nofun h1 h2 h3
  nomatch st.accepted.res

/-- the state of the script-driven answers: what is left of the script, and every datagram transmitted so far -/
abbrev ScriptState := List Outcome × List Bytes

/-- one exchange of `buildAndSendPayload` on the rest of the script: `n` transmissions of the datagram, then the decoder -/
def scriptExchange {α : Type} (ptype : UInt8) (payload : Bytes) (dec : GoSlice → R α) (s : ScriptState) :
    ScriptState × Except HsRes α :=
  ((s.1.drop (exchange s.1).1, s.2 ++ List.replicate (exchange s.1).1 (setupDatagram ptype payload)), decoded dec s.1)

/-- the hand model's exchanges: the request serialised by the hand model's encoder (a user name of more than 16 bytes is
    refused by `RAKPMessage1.SerializeTo`: nothing is transmitted), `exchange` on the script, the layer's decoder -/
def scriptAnswers (rm : Bytes) : Answers ScriptState where
  openSession s r := scriptExchange 0x10 (OpenSessionReq.encode r.tag r.priv r.sid r.auth r.integ r.conf) (OpenSessionRsp.decodeGo {}) s
  rand s := (s, some rm)
  rakp1 s r :=
    match RAKP1.encode r.tag r.bmcSID r.rm r.lookup r.priv r.user with
    | .error _ => (s, .error .error)
    | .ok rk1 => scriptExchange 0x12 rk1 (RAKP2.decodeGo true {}) s
  rakp3 s r := scriptExchange 0x14 (RAKP3.encode r.tag r.bmcSID r.authCode) (RAKP4.decodeGo {}) s

theorem newSession_eq_hsRun (C : Ops) (o : Opts) (rm : Bytes) (script : List Outcome) :
    newSession C o rm script =
      ((hsRun C (scriptAnswers rm) o (script, [])).2.2, (hsRun C (scriptAnswers rm) o (script, [])).1) := by
  unfold newSession hsRun
  simp only [scriptAnswers, scriptExchange, stepOpen_eq, stepRakp2_eq, stepRakp4_eq, List.nil_append]
  cases h1 : (decoded (OpenSessionRsp.decodeGo {}) script >>= openChecks o) with
  | error e => rfl
  | ok osr =>
    simp only []
    cases RAKP1.encode 0 osr.bmcSessionID rm o.lookup o.priv o.user with
    | error _ => rfl
    | ok rk1 =>
      simp only []
      cases h2 : (decoded (RAKP2.decodeGo true {}) (List.drop (exchange script).1 script) >>= rakp2Checks C o rm osr) with
      | error e => rfl
      | ok p =>
        obtain ⟨rk2, h⟩ := p
        simp only []
        cases h3 : (decoded (RAKP4.decodeGo {}) (List.drop (exchange (List.drop (exchange script).1 script)).1
            (List.drop (exchange script).1 script)) >>= rakp4Checks C o rm osr rk2 h) <;> rfl

end Bmc.Lemmas.GenHs
