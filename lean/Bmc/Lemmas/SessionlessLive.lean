import Bmc.Lemmas.SlResponseAccepted
/-! What may precede the final answer outside a session (`SlNoise`): lost replies, conforming responses carrying a temporary
    completion code and conforming responses to OTHER operations. Each is classified as a retry (`SlNoise.retried`). -/
namespace Bmc.Proto
open Bmc Bmc.Wire Bmc.Crypto

inductive SlNoise (c : Cmd) : Outcome → Prop where
  | lost : SlNoise c .lost
  | busy (sid seq : Nat) (cc : UInt8) (data : Bytes) (ht : isTemp cc = true) (hm : (responseMsg c cc).WF)
      (hsid : sid < 4294967296) (hseq : seq < 4294967296) (hlen : (responseBytes c cc data).length < 65536) :
      SlNoise c (.reply (slResponseDatagramWith sid seq c cc data))
  | stray (sid seq : Nat) (c' : Cmd) (hne : sameOperation c c' = false) (cc : UInt8) (data : Bytes) (hm : (responseMsg c' cc).WF)
      (hsid : sid < 4294967296) (hseq : seq < 4294967296) (hlen : (responseBytes c' cc data).length < 65536) :
      SlNoise c (.reply (slResponseDatagramWith sid seq c' cc data))

theorem SlNoise.retried {c : Cmd} {o : Outcome} (h : SlNoise c o) : o = .lost ∨ ∃ d, o = .reply d ∧ slClassify c d = .retry := by
  cases h with
  | lost => exact .inl rfl
  | busy sid seq cc data ht hm hsid hseq hlen =>
    exact .inr ⟨_, rfl, by rw [slClassify_response_with sid seq c cc data hm hsid hseq hlen, ht]; rfl⟩
  | stray sid seq c' hne cc data hm hsid hseq hlen =>
    exact .inr ⟨_, rfl, by rw [slClassify_answer sid seq c c' cc data hm hsid hseq hlen, hne]; rfl⟩

end Bmc.Proto
