import Bmc.Gen.Enc
import Bmc.Wire.Requests
import Bmc.Wire.C08Encode
/-! Helper lemmas for `Proofs/GenEnc.lean`: the serialisers REGENERATED from the Go source (`Bmc/Gen/Enc.lean`, byte arrays of
    indeterminate content written index by index, fixed-width Go arithmetic) against the hand-written encoder models
    (`Bmc/Wire/*.lean`, list concatenation, arithmetic in ℕ); and `toModel`: the structure the translator emits for a Go
    layer (one field per Go field) read as the hand model's arguments (field renaming, `toNat` of the wider integers). -/
namespace Bmc.Lemmas.GenEnc
open Bmc Bmc.Wire Bmc.GoEnc

theorem u16_b0 (v : UInt16) : v.toUInt8 = UInt8.ofNat (v.toNat % 256) := by
  apply UInt8.toNat_inj.mp; simp
theorem u16_b1 (v : UInt16) : (v >>> 8).toUInt8 = UInt8.ofNat (v.toNat / 256 % 256) := by
  apply UInt8.toNat_inj.mp; simp [Nat.shiftRight_eq_div_pow]
theorem u32_b0 (v : UInt32) : v.toUInt8 = UInt8.ofNat (v.toNat % 256) := by
  apply UInt8.toNat_inj.mp; simp
theorem u32_b1 (v : UInt32) : (v >>> 8).toUInt8 = UInt8.ofNat (v.toNat / 256 % 256) := by
  apply UInt8.toNat_inj.mp; simp [Nat.shiftRight_eq_div_pow]
theorem u32_b2 (v : UInt32) : (v >>> 16).toUInt8 = UInt8.ofNat (v.toNat / 65536 % 256) := by
  apply UInt8.toNat_inj.mp; simp [Nat.shiftRight_eq_div_pow]
theorem u32_b3 (v : UInt32) : (v >>> 24).toUInt8 = UInt8.ofNat (v.toNat / 16777216 % 256) := by
  apply UInt8.toNat_inj.mp; simp [Nat.shiftRight_eq_div_pow]

theorem le16_eq (v : UInt16) : leBytes16 v = putLE16 v.toNat := by
  unfold leBytes16; rw [u16_b1, u16_b0]; rfl
theorem le32_eq (v : UInt32) : leBytes32 v = putLE32 v.toNat := by
  unfold leBytes32; rw [u32_b1, u32_b2, u32_b3, u32_b0]; rfl

theorem fresh_zero (s : Bytes) : fresh s 0 = [] := rfl
theorem fresh_succ (s : Bytes) (n : Nat) : fresh s (n + 1) = s.headD 0 :: fresh s.tail n := rfl
theorem length_fresh (s : Bytes) (n : Nat) : (fresh s n).length = n := by
  induction n generalizing s with
  | zero => rfl
  | succ n ih => simp [fresh, ih]

theorem fresh_add (s : Bytes) (a b : Nat) : fresh s (a + b) = fresh s a ++ fresh (s.drop a) b := by
  induction a generalizing s with
  | zero => simp [fresh_zero]
  | succ a ih =>
    rw [Nat.add_right_comm, fresh_succ, fresh_succ, ih]
    simp

theorem drop_fresh_add (s : Bytes) (n k : Nat) : (fresh s (n + k)).drop n = fresh (s.drop n) k := by
  rw [fresh_add, List.drop_append_of_le_length (by rw [length_fresh]; exact Nat.le_refl _)]
  simp [length_fresh]

theorem bounds_ok (w : Bytes) (lo hi : Nat) (h1 : lo ≤ hi) (h2 : hi ≤ w.length) : bounds w lo hi = .ok () := by
  unfold bounds
  have a : ¬ hi < lo := by omega
  have b : ¬ w.length < hi := by omega
  simp [a, b]
theorem put16_ok (w : Bytes) (lo hi : Nat) (v : UInt16) (h1 : lo + 2 ≤ hi) (h2 : hi ≤ w.length) :
    put16 w lo hi v = .ok (splice w lo (putLE16 v.toNat)) := by
  unfold put16
  have c : ¬ hi - lo < 2 := by omega
  simp [bounds_ok w lo hi (by omega) h2, c, le16_eq]
theorem put32_ok (w : Bytes) (lo hi : Nat) (v : UInt32) (h1 : lo + 4 ≤ hi) (h2 : hi ≤ w.length) :
    put32 w lo hi v = .ok (splice w lo (putLE32 v.toNat)) := by
  unfold put32
  have c : ¬ hi - lo < 4 := by omega
  simp [bounds_ok w lo hi (by omega) h2, c, le32_eq]
theorem copyInto_ok (w : Bytes) (lo hi : Nat) (src : Bytes) (h1 : lo ≤ hi) (h2 : hi ≤ w.length) :
    copyInto w lo hi src = .ok (splice w lo (src.take (hi - lo))) := by
  unfold copyInto
  simp [bounds_ok w lo hi h1 h2]
theorem slice_ok (w : Bytes) (lo hi : Nat) (h1 : lo ≤ hi) (h2 : hi ≤ w.length) :
    GoEnc.slice w lo hi = .ok ((w.drop lo).take (hi - lo)) := by
  unfold GoEnc.slice
  simp [bounds_ok w lo hi h1 h2]

/-- What `PrependBytes` / `AppendBytes` handed back, with `pre` written so far and `k` bytes still indeterminate. The translated
    serialisers write their windows front to back, so every statement is an operation AT THE FRONTIER (index `pre.length`),
    which moves what it writes into `pre`; no byte of `stale` is ever named, and a window written to its end is `pre`. -/
def win (pre s : Bytes) (k : Nat) : Bytes := pre ++ fresh s k

theorem fresh_eq_win (s : Bytes) (n : Nat) : fresh s n = win [] s n := rfl
theorem win_zero (pre s : Bytes) : win pre s 0 = pre := List.append_nil _
theorem length_win (pre s : Bytes) (k : Nat) : (win pre s k).length = pre.length + k := by
  simp [win, length_fresh]
theorem length_putLE16 (n : Nat) : (putLE16 n).length = 2 := rfl
theorem length_putLE32 (n : Nat) : (putLE32 n).length = 4 := rfl

theorem splice_win (pre s bs : Bytes) (k : Nat) :
    splice (win pre s (k + bs.length)) pre.length bs = win (pre ++ bs) (s.drop bs.length) k := by
  unfold win
  rw [Nat.add_comm k, fresh_add]
  simp [splice, length_fresh]

theorem setB_win (pre s : Bytes) (k i : Nat) (v : UInt8) (hi : i = pre.length) :
    setB (win pre s (k + 1)) i v = .ok (win (pre ++ [v]) (s.drop 1) k) := by
  subst hi
  simp [win, setB, fresh_succ, length_fresh]

theorem put16_win (pre s : Bytes) (k lo hi : Nat) (v : UInt16) (h1 : lo = pre.length) (h2 : hi = lo + 2) :
    put16 (win pre s (k + 2)) lo hi v = .ok (win (pre ++ putLE16 v.toNat) (s.drop 2) k) := by
  subst h1 h2
  rw [put16_ok _ _ _ _ (Nat.le_refl _) (by simp [length_win])]
  exact congrArg _ (splice_win pre s (putLE16 v.toNat) k)

theorem put32_win (pre s : Bytes) (k lo hi : Nat) (v : UInt32) (h1 : lo = pre.length) (h2 : hi = lo + 4) :
    put32 (win pre s (k + 4)) lo hi v = .ok (win (pre ++ putLE32 v.toNat) (s.drop 4) k) := by
  subst h1 h2
  rw [put32_ok _ _ _ _ (Nat.le_refl _) (by simp [length_win])]
  exact congrArg _ (splice_win pre s (putLE32 v.toNat) k)

/-- `copy` of a source of `n` bytes that fits (`n` is given by the caller: `copyInto_win (n := 16)` for a Go `[16]byte`) -/
theorem copyInto_win (pre s src : Bytes) (k n lo hi : Nat) (hn : src.length = n) (h1 : lo = pre.length) (h2 : hi = lo + n) :
    copyInto (win pre s (k + n)) lo hi src = .ok (win (pre ++ src) (s.drop n) k) := by
  subst h1 h2 hn
  rw [copyInto_ok _ _ _ _ (Nat.le_add_right _ _) (by simp [length_win]), Nat.add_sub_cancel_left, List.take_length]
  exact congrArg _ (splice_win pre s src k)

/-- `copy(w[lo:], src)` filling what is left of the window -/
theorem copyInto_rest (pre s src : Bytes) (lo hi : Nat) (h1 : lo = pre.length) (h2 : hi = lo + src.length) :
    copyInto (win pre s src.length) lo hi src = .ok (pre ++ src) := by
  have := copyInto_win pre s src 0 src.length lo hi rfl h1 h2
  simpa [win_zero] using this

/-- the byte written last, read back and written again (`w[i] |= flag`) -/
theorem getB_last (pre s : Bytes) (k : Nat) (x : UInt8) (i : Nat) (hi : i = pre.length) :
    getB (win (pre ++ [x]) s k) i = .ok x := by
  subst hi; simp [win, getB]
theorem setB_last (pre s : Bytes) (k : Nat) (x v : UInt8) (i : Nat) (hi : i = pre.length) :
    setB (win (pre ++ [x]) s k) i v = .ok (win (pre ++ [v]) s k) := by
  subst hi; simp [win, setB]

/-- `if c { w[i] |= flag }` on the byte written last leaves the same window in both branches: no case split for a flag -/
theorem ite_last (c : Prop) [Decidable c] (pre s : Bytes) (k : Nat) (a b : UInt8) :
    (if c then R.ok (win (pre ++ [a]) s k) else R.ok (win (pre ++ [b]) s k)) = R.ok (win (pre ++ [if c then a else b]) s k) := by
  split <;> rfl

/-- a loop `for i := 0; i < n; i++ { w[i] = f(i) }` on a new window (the integrity pad, the confidentiality pad) -/
theorem fill_win (s : Bytes) (f : Nat → UInt8) (n k : Nat) :
    List.foldlM (fun w i => setB w i (f i)) (win [] s (n + k)) (List.range n) = R.ok (win ((List.range n).map f) (s.drop n) k) := by
  induction n generalizing k with
  | zero => simp
  | succ n ih =>
    rw [List.range_succ, List.foldlM_append, Nat.add_right_comm, Nat.add_assoc, ih (k + 1)]
    rw [R.bind_ok, List.foldlM_cons, setB_win _ _ _ _ _ (by simp), List.drop_drop, List.map_append]
    rfl

/-- reading back what has been written (`checksum(w[:2])`) -/
theorem slice_win (pre s : Bytes) (k hi : Nat) (h : hi = pre.length) : GoEnc.slice (win pre s k) 0 hi = .ok pre := by
  subst h
  rw [slice_ok _ _ _ (Nat.zero_le _) (by simp [length_win])]
  simp [win]

theorem slice_from (a b : Bytes) (lo hi : Nat) (h1 : lo ≤ a.length) (h2 : hi = a.length + b.length) :
    GoEnc.slice (a ++ b) lo hi = .ok (a.drop lo ++ b) := by
  subst h2
  rw [slice_ok _ _ _ (by omega) (by simp)]
  rw [← List.length_append, List.take_of_length_le (by simp), List.drop_append_of_le_length h1]

/-- Run a translated serialiser: every statement on a window is one of the frontier lemmas above, whose side conditions
    (`i = pre.length`, `hi = lo + 4`) the length lemmas decide; the caller adds the case at hand and what the layer needs. -/
syntax "enc_win" ("[" Lean.Parser.Tactic.simpLemma,* "]")? : tactic
macro_rules
  | `(tactic| enc_win) => `(tactic| enc_win [])
  | `(tactic| enc_win [$extra,*]) => `(tactic|
  simp only [setB_win, put16_win, put32_win, getB_last, setB_last, ite_last, fill_win, copyInto_rest, slice_win, slice_from,
    R.bind_ok, R.pure_eq, win_zero, R.map_ok, fresh_eq_win, ↓reduceIte, Bool.false_eq_true, Nat.reduceAdd, Nat.reduceLeDiff,
    List.length_append, List.length_cons, List.length_nil, List.length_map, List.length_range, length_putLE16, length_putLE32,
    length_win, $extra,*])

end Bmc.Lemmas.GenEnc

namespace Bmc.Gen.Enc
open Bmc Bmc.Wire Bmc.Wire.Req

def GetChannelAuthenticationCapabilitiesReq.toModel (g : GetChannelAuthenticationCapabilitiesReq) : AuthCaps :=
  { extendedData := g.extendedData, channel := g.channel, maxPrivilegeLevel := g.maxPrivilegeLevel }

def GetChannelCipherSuitesReq.toModel (g : GetChannelCipherSuitesReq) : CipherSuites :=
  { channel := g.channel, payloadType := g.payloadType, listIndex := g.listIndex }

def GetSessionInfoReq.toModel (g : GetSessionInfoReq) : SessionInfo :=
  { index := g.index, handle := g.handle, id := g.id.toNat }

def GetDCMISensorInfoReq.toModel (g : GetDCMISensorInfoReq) : DcmiSensorInfo :=
  { type := g.type_, entity := g.entity, instance_ := g.instance_, instanceStart := g.instanceStart }

def RAKPMessage3.toModel (g : RAKPMessage3) : Rakp3 :=
  { tag := g.tag, status := g.status, bmcSessionID := g.managedSystemSessionID.toNat, authCode := g.authCode }

def RAKPMessage1.toModel (g : RAKPMessage1) : Rakp1 :=
  { tag := g.tag, bmcSessionID := g.managedSystemSessionID.toNat, random := g.remoteConsoleRandom
    privilegeLevelLookup := g.privilegeLevelLookup, maxPrivilegeLevel := g.maxPrivilegeLevel, username := g.username }

/-- the same Go value as the decoding side's model of the layer (C08; `BaseLayer` is not touched by the serialiser) -/
def RAKPMessage1.toSetup (g : RAKPMessage1) (contents : Bytes) : Wire.Setup.RAKP1 :=
  { tag := g.tag, bmcSID := g.managedSystemSessionID.toNat, consoleRandom := g.remoteConsoleRandom
    lookup := g.privilegeLevelLookup, maxPriv := g.maxPrivilegeLevel, username := g.username, contents := contents }

/-- `BaseLayer` (`contents`, `payload`) is not touched by the serialiser -/
def V1Session.toModel (g : Gen.Enc.V1Session) (contents payload : Bytes) : Wire.V1Session :=
  { authType := g.authType, sequence := g.sequence.toNat, id := g.id.toNat, authCode := g.authCode, length := g.length
    contents := contents, payload := payload }

/-- `BaseLayer` (`contents`, `payload`) is not touched by the serialiser -/
def Message.toModel (g : Gen.Enc.Message) (contents payload : Bytes) : Wire.Message :=
  { function := g.operation.function, body := g.operation.body, enterprise := g.operation.enterprise.toNat
    command := g.operation.command, remoteAddress := g.remoteAddress, remoteLUN := g.remoteLUN, checksum1 := g.checksum1
    localAddress := g.localAddress, localLUN := g.localLUN, sequence := g.sequence, completionCode := g.completionCode
    checksum2 := g.checksum2, contents := contents, payload := payload }

/-- `BaseLayer` (`contents`, `payload`) is not touched by the serialiser; `IntegrityAlgorithm` is the theorem's `mac` -/
def V2Session.toModel (g : Gen.Enc.V2Session) (contents payload : Bytes) : Wire.V2Session :=
  { encrypted := g.encrypted, authenticated := g.authenticated, payloadType := g.payloadDescriptor.payloadType
    enterprise := g.payloadDescriptor.enterprise.toNat, payloadID := g.payloadDescriptor.payloadID.toNat
    id := g.id.toNat, sequence := g.sequence.toNat, length := g.length.toNat, pad := g.pad, signature := g.signature
    contents := contents, payload := payload }

/-- `Period` is a `time.Duration`: nanoseconds -/
def GetPowerReadingReq.toModel (g : GetPowerReadingReq) : PowerReading := { mode := g.mode, periodNs := g.period }

def OpenSessionReq.toModel (g : OpenSessionReq) : OpenSession :=
  { tag := g.tag, maxPrivilegeLevel := g.maxPrivilegeLevel, sessionID := g.sessionID.toNat
    authWildcard := g.authenticationPayload.wildcard, auth := g.authenticationPayload.algorithm
    integWildcard := g.integrityPayload.wildcard, integ := g.integrityPayload.algorithm
    confWildcard := g.confidentialityPayload.wildcard, conf := g.confidentialityPayload.algorithm }

end Bmc.Gen.Enc

namespace Bmc.Lemmas.GenEnc
open Bmc Bmc.Wire Bmc.GoEnc Bmc.Gen.Enc

/-- the v2.0 integrity pad as Go computes it (`(4 - n%4) % 4` in `int`, then `uint8`) -/
theorem pad_eq (x : Nat) :
    UInt8.ofInt (Int.tmod (((4 : Nat) : Int) - (((x % 4) : Nat) : Int)) ((4 : Nat) : Int)) = UInt8.ofNat ((4 - x % 4) % 4) := by
  have h : x % 4 < 4 := Nat.mod_lt _ (by decide)
  generalize x % 4 = k at h
  match k, h with
  | 0, _ => decide
  | 1, _ => decide
  | 2, _ => decide
  | 3, _ => decide

theorem pad_toNat (x : Nat) : (UInt8.ofNat ((4 - x % 4) % 4)).toNat = (4 - x % 4) % 4 := by
  simp [UInt8.toNat_ofNat']; omega

theorem nat_natCast (n : Nat) : GoEnc.nat ((n : Nat) : Int) = .ok n := by
  unfold GoEnc.nat; simp
theorem ofInt_natCast (n : Nat) : UInt8.ofInt ((n : Nat) : Int) = UInt8.ofNat n := by
  unfold UInt8.ofInt
  apply UInt8.toNat_inj.mp
  have : (((n : Nat) : Int) % 2 ^ 8).toNat = n % 256 := by omega
  rw [this]
  simp
theorem checksum_eq (b : Bytes) : ipmi_checksum b = Prim.checksum b := rfl
theorem isRequest_eq (f : UInt8) : NetworkFunction_IsRequest f = isRequest f := rfl

theorem auth_serialise (p : AuthenticationPayload) (stale buf : Bytes) :
    AuthenticationPayload.Serialise p stale buf = .ok (buf ++ algPayload 0 p.wildcard p.algorithm, stale.drop 8) := by
  unfold AuthenticationPayload.Serialise algPayload
  cases p.wildcard <;> enc_win <;> rfl
theorem integ_serialise (p : IntegrityPayload) (stale buf : Bytes) :
    IntegrityPayload.Serialise p stale buf = .ok (buf ++ algPayload 1 p.wildcard p.algorithm, stale.drop 8) := by
  unfold IntegrityPayload.Serialise algPayload
  cases p.wildcard <;> enc_win <;> rfl
theorem conf_serialise (p : ConfidentialityPayload) (stale buf : Bytes) :
    ConfidentialityPayload.Serialise p stale buf = .ok (buf ++ algPayload 2 p.wildcard p.algorithm, stale.drop 8) := by
  unfold ConfidentialityPayload.Serialise algPayload
  cases p.wildcard <;> enc_win <;> rfl

end Bmc.Lemmas.GenEnc
