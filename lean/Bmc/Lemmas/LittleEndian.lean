import Bmc.Wire.Encode
import Bmc.Spec.Basic
/-! Little-endian words of a layout `pre ++ word ++ rest`: the readers `le16` / `le32` (Wire/V2Session.lean) give back what the
    model's writers `putLE16` / `putLE32` and the specification's `Spec.le16` / `Spec.le32` (the same byte lists) produce,
    whatever follows and at whatever offset the word stands. -/
namespace Bmc.Wire
open Bmc

theorem getD_append_lt (l r : Bytes) (i : Nat) (h : i < l.length) : (l ++ r).getD i 0 = l.getD i 0 := by
  simp [List.getD_eq_getElem?_getD, List.getElem?_append_left h]

theorem le16_append (l r : Bytes) (h : 2 ≤ l.length) : le16 (l ++ r) = le16 l := by
  unfold le16
  rw [getD_append_lt l r 0 (by omega), getD_append_lt l r 1 (by omega)]

theorem le32_append (l r : Bytes) (h : 4 ≤ l.length) : le32 (l ++ r) = le32 l := by
  unfold le32
  rw [getD_append_lt l r 0 (by omega), getD_append_lt l r 1 (by omega), getD_append_lt l r 2 (by omega),
    getD_append_lt l r 3 (by omega)]

theorem le16_drop_append (l r : Bytes) (k : Nat) (h : k + 2 ≤ l.length) : le16 ((l ++ r).drop k) = le16 (l.drop k) := by
  rw [List.drop_append_of_le_length (by omega)]
  exact le16_append _ _ (by simp; omega)

theorem le32_drop_append (l r : Bytes) (k : Nat) (h : k + 4 ≤ l.length) : le32 ((l ++ r).drop k) = le32 (l.drop k) := by
  rw [List.drop_append_of_le_length (by omega)]
  exact le32_append _ _ (by simp; omega)

theorem le16_putLE16 (n : Nat) (h : n < 65536) (r : Bytes) : le16 (putLE16 n ++ r) = n := by
  simp [le16, putLE16]; omega

theorem le32_putLE32 (n : Nat) (h : n < 4294967296) (r : Bytes) : le32 (putLE32 n ++ r) = n := by
  simp [le32, putLE32]; omega

theorem le16_at (pre r : Bytes) (k n : Nat) (hk : pre.length = k) (h : n < 65536) :
    le16 ((pre ++ (putLE16 n ++ r)).drop k) = n := by
  rw [List.drop_left' hk, le16_putLE16 n h]
theorem le32_at (pre r : Bytes) (k n : Nat) (hk : pre.length = k) (h : n < 4294967296) :
    le32 ((pre ++ (putLE32 n ++ r)).drop k) = n := by
  rw [List.drop_left' hk, le32_putLE32 n h]

/-- the three bytes of an enterprise number (the model writes them one by one) -/
theorem le24_split (n : Nat) (h : n < 16777216) : n % 256 + 256 * (n / 256 % 256) + 65536 * (n / 65536 % 256) = n := by omega

theorem le16_spec (n : Nat) (h : n < 65536) (r : Bytes) : le16 (Spec.le16 n ++ r) = n := le16_putLE16 n h r
theorem le32_spec (n : Nat) (h : n < 4294967296) (r : Bytes) : le32 (Spec.le32 n ++ r) = n := le32_putLE32 n h r

/-! Reads beyond a word the specification wrote are reads of what follows it (with `le16_spec` / `le32_spec` for the word
    itself, a decoder's reads walk through `x :: (Spec.le16 a ++ (Spec.le32 b ++ …))` without unfolding the words). -/
theorem drop_le16 (n : Nat) (r : Bytes) (k : Nat) : (Spec.le16 n ++ r).drop (k + 2) = r.drop k := rfl
theorem drop_le32 (n : Nat) (r : Bytes) (k : Nat) : (Spec.le32 n ++ r).drop (k + 4) = r.drop k := rfl
theorem getD_le16 (n : Nat) (r : Bytes) (k : Nat) : (Spec.le16 n ++ r).getD (k + 2) 0 = r.getD k 0 := rfl
theorem getD_le32 (n : Nat) (r : Bytes) (k : Nat) : (Spec.le32 n ++ r).getD (k + 4) 0 = r.getD k 0 := rfl
theorem take_le32 (n : Nat) (r : Bytes) (k : Nat) : (Spec.le32 n ++ r).take (k + 4) = Spec.le32 n ++ r.take k := rfl

end Bmc.Wire

namespace Bmc.Lemmas.Sess
/-- the three bytes `Spec.le24 n` writes, added up as the decoders do, give `n` back -/
theorem le24_read (n : Nat) (h : n < 16777216) :
    (UInt8.ofNat (n % 256)).toNat + 256 * (UInt8.ofNat (n / 256 % 256)).toNat
      + 65536 * (UInt8.ofNat (n / 65536 % 256)).toNat = n := by
  have lt : ∀ k, (UInt8.ofNat (k % 256)).toNat = k % 256 := fun k => UInt8.toNat_ofNat_of_lt' (Nat.mod_lt k (by decide))
  rw [lt, lt, lt]
  exact Wire.le24_split n h
end Bmc.Lemmas.Sess
