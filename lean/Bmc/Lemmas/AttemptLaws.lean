import Bmc.Proto.Session
import Bmc.Lemmas.V2RoundTrip
/-! Where a datagram shows its session ID and sequence number: the clear-text head of the session wrapper, and the datagram of one
    attempt. -/
namespace Bmc.Wire
open Bmc

/-- the clear-text head of a non-OEM session wrapper: bytes 2…9 are session ID and sequence number -/
theorem V2Session.encode_ids (mac : Bytes → Bytes) (s : V2Session) (inner : Bytes) (h : s.payloadType ≠ 2) :
    ((V2Session.encode mac s inner).2.drop 2).take 8 = putLE32 s.id ++ putLE32 s.sequence := by
  have hne : (s.payloadType == 2) = false := by simpa using h
  rw [V2Session.encode_eq]
  cases s.authenticated <;> simp [v2Header, hne, putLE32]

end Bmc.Wire

namespace Bmc.Proto
open Bmc Bmc.Wire Bmc.Crypto

/-- the datagram an attempt transmits carries the layer's session ID and the bumped counter, in clear, at wire offsets 6 and 10
    (`nthDatagram_fields` in `Lemmas/SessionProps.lean` is the form the C09 theorems use) -/
theorem attempt_header (C : Ops) (s : Sess) (c : Cmd) (iv : Bytes) (hpt : s.v2.payloadType ≠ 2) :
    (((attempt C s c iv).2.drop 6).take 8 = putLE32 s.v2.id ++ putLE32 ((s.inbound + 1) % 4294967296)) ∧
    (attempt C s c iv).1.inbound = (s.inbound + 1) % 4294967296 := by
  simp only [attempt]
  generalize AESLayer.encode C s.k2 iv _ = inner
  have := V2Session.encode_ids (integMac C s.integ s.k1) { s.v2 with sequence := (s.inbound + 1) % 4294967296 } inner hpt
  refine ⟨?_, trivial⟩
  simp only [RMCP.encode, List.cons_append, List.nil_append, List.drop_succ_cons]
  simpa using this
#print axioms attempt_header

end Bmc.Proto
