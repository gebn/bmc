import Bmc.Proto.Handshake
/-! The handshake under loss: replies that are lost, or that one attempt of `buildAndSendPayload` classifies as "retry"
    (garbage, truncated, a packet that does not decode down to the session wrapper), only cause retransmissions of the
    SAME datagram; the outcome is that of the script with those replies removed. -/
namespace Bmc.Proto
open Bmc Bmc.Wire Bmc.Crypto

/-- a per-attempt outcome that makes the exchange try again -/
def Skipped (o : Outcome) : Prop := o = .lost ∨ ∃ d, o = .reply d ∧ payloadReply (GoSlice.ofBytes d) = .retry

/-- a reply that ends the exchange (whatever it then turns out to contain) -/
def Ends (d : Bytes) : Prop := payloadReply (GoSlice.ofBytes d) ≠ .retry

theorem exchange_skip (junk : List Outcome) (hj : ∀ o ∈ junk, Skipped o) (rest : List Outcome) :
    exchange (junk ++ rest) = ((exchange rest).1 + junk.length, (exchange rest).2) := by
  induction junk with
  | nil => simp
  | cons o junk ih =>
    have ih' := ih (fun x hx => hj x (by simp [hx]))
    rcases hj o (by simp) with rfl | ⟨d, rfl, hd⟩
    · simp only [List.cons_append, exchange, ih', List.length_cons]; constructor <;> simp <;> omega
    · simp only [List.cons_append, exchange, hd, ih', List.length_cons]; constructor <;> simp <;> omega

theorem exchange_ends (d : Bytes) (hd : Ends d) (rest : List Outcome) :
    exchange (.reply d :: rest) = (1, some (payloadReply (GoSlice.ofBytes d))) := by
  unfold Ends at hd
  cases hp : payloadReply (GoSlice.ofBytes d) with
  | retry => exact absurd hp hd
  | got p => simp only [exchange, hp]
  | crash => simp only [exchange, hp]

theorem exchange_junk_then (junk : List Outcome) (hj : ∀ o ∈ junk, Skipped o) (d : Bytes) (hd : Ends d) (rest : List Outcome) :
    exchange (junk ++ .reply d :: rest) = (junk.length + 1, some (payloadReply (GoSlice.ofBytes d))) := by
  rw [exchange_skip junk hj, exchange_ends d hd]
  simp only [Prod.mk.injEq, and_true]
  omega

theorem drop_junk_then (junk : List Outcome) (d : Bytes) (rest : List Outcome) :
    (junk ++ .reply d :: rest).drop (junk.length + 1) = rest := by
  have : junk.length + 1 = (junk ++ [Outcome.reply d]).length := by simp
  rw [this, show junk ++ Outcome.reply d :: rest = (junk ++ [Outcome.reply d]) ++ rest by simp, List.drop_left]

theorem stepOpen_congr (o : Opts) (s s' : List Outcome) (h : (exchange s).2 = (exchange s').2) : stepOpen o s = stepOpen o s' := by
  unfold stepOpen exchangePayload; rw [h]

theorem stepRakp2_congr (C : Ops) (o : Opts) (rm : Bytes) (osr : OpenSessionRsp) (s s' : List Outcome)
    (h : (exchange s).2 = (exchange s').2) : stepRakp2 C o rm osr s = stepRakp2 C o rm osr s' := by
  unfold stepRakp2 exchangePayload; rw [h]

theorem stepRakp4_congr (C : Ops) (o : Opts) (rm : Bytes) (osr : OpenSessionRsp) (rk2 : RAKP2) (hh : HashAlg) (s s' : List Outcome)
    (h : (exchange s).2 = (exchange s').2) : stepRakp4 C o rm osr rk2 hh s = stepRakp4 C o rm osr rk2 hh s' := by
  unfold stepRakp4 exchangePayload; rw [h]

theorem newSession_junk (C : Ops) (o : Opts) (rm : Bytes) (j1 j2 j3 : List Outcome) (r1 r2 r3 : Bytes) (tail : List Outcome)
    (h1 : ∀ x ∈ j1, Skipped x) (h2 : ∀ x ∈ j2, Skipped x) (h3 : ∀ x ∈ j3, Skipped x) (e1 : Ends r1) (e2 : Ends r2) (e3 : Ends r3) :
    newSession C o rm (j1 ++ .reply r1 :: (j2 ++ .reply r2 :: (j3 ++ .reply r3 :: tail))) =
      ((List.zipWith List.replicate [j1.length + 1, j2.length + 1, j3.length + 1]
          (newSession C o rm [.reply r1, .reply r2, .reply r3]).1).flatten,
       (newSession C o rm [.reply r1, .reply r2, .reply r3]).2) := by
  -- an exchange ends on `j ++ reply :: rest` as on `[reply]`, `j.length` transmissions later; a step sees its script through that only
  have A := exchange_junk_then j1 h1 r1 e1 (j2 ++ .reply r2 :: (j3 ++ .reply r3 :: tail))
  have A0 := exchange_ends r1 e1 [.reply r2, .reply r3]
  have B := exchange_junk_then j2 h2 r2 e2 (j3 ++ .reply r3 :: tail)
  have B0 := exchange_ends r2 e2 [.reply r3]
  have Cc := exchange_junk_then j3 h3 r3 e3 tail
  have C0 := exchange_ends r3 e3 []
  have DA := drop_junk_then j1 r1 (j2 ++ .reply r2 :: (j3 ++ .reply r3 :: tail))
  have DB := drop_junk_then j2 r2 (j3 ++ .reply r3 :: tail)
  have so := stepOpen_congr o _ _ (by rw [A, A0] : (exchange (j1 ++ .reply r1 :: (j2 ++ .reply r2 :: (j3 ++ .reply r3 :: tail)))).2 = (exchange [.reply r1, .reply r2, .reply r3]).2)
  unfold newSession
  simp only [so, A, A0, DA, B, B0, DB, Cc, C0, List.drop_succ_cons, List.drop_zero, List.replicate_one]
  cases stepOpen o [.reply r1, .reply r2, .reply r3] with
  | error e => simp
  | ok osr =>
    simp only []
    cases RAKP1.encode 0 osr.bmcSessionID rm o.lookup o.priv o.user with
    | error _ => simp
    | ok rk1 =>
      simp only []
      rw [stepRakp2_congr C o rm osr _ [.reply r2, .reply r3] (by rw [B, B0])]
      cases stepRakp2 C o rm osr [.reply r2, .reply r3] with
      | error e => simp
      | ok p =>
        obtain ⟨rk2, h⟩ := p
        simp only []
        rw [stepRakp4_congr C o rm osr rk2 h _ [.reply r3] (by rw [Cc, C0])]
        cases stepRakp4 C o rm osr rk2 h [.reply r3] <;> simp

theorem newSession_skips (C : Ops) (o : Opts) (rm : Bytes) (j1 j2 j3 : List Outcome) (r1 r2 r3 : Bytes) (tail : List Outcome)
    (h1 : ∀ x ∈ j1, Skipped x) (h2 : ∀ x ∈ j2, Skipped x) (h3 : ∀ x ∈ j3, Skipped x) (e1 : Ends r1) (e2 : Ends r2) (e3 : Ends r3) :
    (newSession C o rm (j1 ++ .reply r1 :: (j2 ++ .reply r2 :: (j3 ++ .reply r3 :: tail)))).2 =
      (newSession C o rm [.reply r1, .reply r2, .reply r3]).2 := by
  rw [newSession_junk C o rm j1 j2 j3 r1 r2 r3 tail h1 h2 h3 e1 e2 e3]

theorem newSession_retransmits (C : Ops) (o : Opts) (rm : Bytes) (j1 j2 j3 : List Outcome) (r1 r2 r3 : Bytes) (tail : List Outcome)
    (h1 : ∀ x ∈ j1, Skipped x) (h2 : ∀ x ∈ j2, Skipped x) (h3 : ∀ x ∈ j3, Skipped x) (e1 : Ends r1) (e2 : Ends r2) (e3 : Ends r3)
    (d1 d2 d3 : Bytes) (hbase : (newSession C o rm [.reply r1, .reply r2, .reply r3]).1 = [d1, d2, d3]) :
    (newSession C o rm (j1 ++ .reply r1 :: (j2 ++ .reply r2 :: (j3 ++ .reply r3 :: tail)))).1 =
      List.replicate (j1.length + 1) d1 ++ List.replicate (j2.length + 1) d2 ++ List.replicate (j3.length + 1) d3 := by
  rw [newSession_junk C o rm j1 j2 j3 r1 r2 r3 tail h1 h2 h3 e1 e2 e3, hbase]
  simp

end Bmc.Proto
