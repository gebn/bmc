import Bmc.Lemmas.SdrWalkSpec
/-! Helper lemmas for C14: soundness of a walk that ends normally against a BMC whose repository may change
    at any moment, as long as the two timestamps read the same before and after. -/
namespace Bmc.Lemmas.SdrWalk
open Bmc Bmc.Wire Bmc.Spec Bmc.Proto.SdrWalk

/-- `b` is `a` later on: the timestamps have not gone back and a BMC whose stores are well formed is still one -/
abbrev Later (a b : World) : Prop := tsLe a b ∧ (a.Inv → b.Inv)

theorem later_trans {a b c : World} (h1 : Later a b) (h2 : Later b c) : Later a c :=
  ⟨tsLe_trans h1.1 h2.1, fun h => h2.2 (h1.2 h)⟩

theorem answer_later (w : World) (q : RepoReq) : Later w (w.answer q).1 := ⟨answer_mono w q, answer_inv w q⟩

theorem call_later {α : Type} (dec : Bytes → R α) (w : World) (q : Req) : Later w (call bmc dec w q).1 := by
  rw [call_fst]; exact answer_later w _

theorem walkLoop_later (k : Bool) (fuel : Nat) : ∀ (w : World) (resv id : Nat) (m : SDRRepository),
    Later w (walkLoop k bmc fuel w resv id m).1 := by
  induction fuel with
  | zero => intro w resv id m; exact ⟨tsLe_refl w, fun h => h⟩
  | succ n ih =>
    intro w resv id m
    by_cases hid : id = 0xFFFF
    · rw [walkLoop, if_pos hid]; exact ⟨tsLe_refl w, fun h => h⟩
    · obtain ⟨w1, o1, h1, hr⟩ := walkLoop_round k bmc n w resv id m hid
      have c1 := call_later GetSDRRsp.decode w (.getSDR resv id 0 5)
      rw [h1] at c1
      rcases hr with e | ⟨hdr, header, _, _, ⟨_, e⟩ | ⟨_, _, w2, o2, h2, hr⟩⟩
      · rw [e]; exact c1
      · rw [e]; exact later_trans c1 (ih ..)
      · have c2 := call_later GetSDRRsp.decode w1 (.getSDR resv id 5 header.length.toNat)
        rw [h2] at c2
        rcases hr with e | ⟨body, fsr, _, _, e⟩
        · rw [e]; exact later_trans c1 c2
        · rw [e]; exact later_trans (later_trans c1 c2) (ih ..)

theorem locate_nil (id : Nat) : locate [] id = none := by
  unfold locate; split
  · rfl
  · split <;> rfl

theorem call_getSDR_empty (w : World) (resv id off len : Nat)
    (hrecs : (w.answer (.getSDR resv id off len)).1.repo.store.recs = []) :
    call bmc GetSDRRsp.decode w (.getSDR resv id off len) = ((w.answer (.getSDR resv id off len)).1, none) := by
  have hans := answer_getSDR w resv id off len
  unfold Repo.getSDR at hans
  rw [hrecs, locate_nil] at hans
  split at hans
  · rw [call_bmc _ w (.getSDR resv id off len) _ _ hans]
    simp [GetSDRRsp.decode, GetSDRRsp.decodeGo, toSpec]
  · rw [call_bmc _ w (.getSDR resv id off len) _ _ hans]
    simp [GetSDRRsp.decode, GetSDRRsp.decodeGo, toSpec]

/-- the position of a walk that may also be standing at the start of an EMPTY repository -/
def PosOK' (pre rest : List SdrRec) (id : Nat) : Prop := PosOK pre rest id ∨ (pre = [] ∧ rest = [] ∧ id = 0)

theorem posOK_cons (pre rest : List SdrRec) (id : Nat) (h : PosOK' pre rest id) (hid : id ≠ 0xFFFF) :
    (∃ r rest', rest = r :: rest' ∧ (id = r.id ∨ (id = 0 ∧ pre = []))) ∨ (pre = [] ∧ rest = []) := by
  rcases h with h | ⟨h1, h2, _⟩
  · cases rest with
    | nil => exact absurd h hid
    | cons r rest' => exact Or.inl ⟨r, rest', rfl, h⟩
  · exact Or.inr ⟨h1, h2⟩

/-- ONE READ during which the timestamps stood still: the records did, the walk stands at a record, and the read
    returned that record's window and the ID of the one after it -/
theorem read_still (w : World) (hInv : w.Inv) (resv id off len : Nat) (hoff : off ≤ 5) (pre rest : List SdrRec)
    (hrecs : w.repo.store.recs = pre ++ rest) (hpos : PosOK' pre rest id) (hid : id ≠ 0xFFFF)
    (w1 : World) (rsp : GetSDRRsp) (h : call bmc GetSDRRsp.decode w (.getSDR resv id off len) = (w1, some rsp))
    (hts : tsEq w w1) :
    w1.repo.store.recs = pre ++ rest ∧ ∃ r rest', rest = r :: rest' ∧ rsp.next = nextID rest' ∧
      rsp.payload = (r.bytes.drop off).take (if len = 0xFF then r.bytes.length else len) := by
  have hw1 : (w.answer (.getSDR resv id off len)).1 = w1 := by
    have := call_fst GetSDRRsp.decode w (.getSDR resv id off len)
    rw [h] at this; exact this.symm
  have r1 : (w.answer (.getSDR resv id off len)).1.repo.store.recs = pre ++ rest := by
    rw [answer_same w _ (by rw [hw1]; exact hts), hrecs]
  have hwf : wfStore (pre ++ rest) := by rw [← hrecs]; exact (inv_store w hInv).1
  refine ⟨by rw [← hw1, r1], ?_⟩
  rcases posOK_cons pre rest id hpos hid with ⟨r, rest', rfl, hid'⟩ | ⟨rfl, rfl⟩
  · rw [call_getSDR_at w resv id off len pre r rest' hwf r1 hid' (by omega)] at h
    split at h
    · simp at h
    · simp only [Prod.mk.injEq, Option.some.injEq] at h
      exact ⟨r, rest', rfl, by rw [← h.2], by rw [← h.2]⟩
  · rw [call_getSDR_empty w resv id off len r1] at h; simp at h

/-- SOUNDNESS of the walk (`keyOwn = true`): against a BMC whose repository may be modified and whose reservation may
    be cancelled before any request, a walk that ends normally while the timestamps stand still has collected
    exactly the Full Sensor Records of the store, each under its own ID -/
theorem walkLoop_sound (fuel : Nat) : ∀ (w : World) (resv id : Nat) (pre rest : List SdrRec) (w' : World) (m' : SDRRepository),
    w.Inv → w.repo.store.recs = pre ++ rest → PosOK' pre rest id →
    walkLoop true bmc fuel w resv id (fullView pre) = (w', .ok m') → tsEq w w' →
    m' = fullView (pre ++ rest) ∧ w'.repo.store.recs = pre ++ rest := by
  induction fuel with
  | zero => intro w resv id pre rest w' m' _ _ _ h; simp [walkLoop] at h
  | succ n ih =>
    intro w resv id pre rest w' m' hInv hrecs hpos h hts
    have hwf : wfStore (pre ++ rest) := by rw [← hrecs]; exact (inv_store w hInv).1
    by_cases hid : id = 0xFFFF
    · rw [walkLoop, if_pos hid] at h
      simp only [Prod.mk.injEq, Res.ok.injEq] at h
      obtain ⟨rfl, rfl⟩ := h
      cases rest with
      | nil => simp [hrecs]
      | cons r rest =>
        exfalso
        have := (hwf.2.1 r (by simp)).1
        rcases hpos with hpos | ⟨_, h2, _⟩
        · simp only [PosOK] at hpos
          omega
        · simp at h2
    · obtain ⟨w1, o1, h1, hr⟩ := walkLoop_round true bmc n w resv id (fullView pre) hid
      have c1 := call_later GetSDRRsp.decode w (.getSDR resv id 0 5)
      rw [h1] at c1
      -- the header read, once it is known that the timestamps stood still over it
      have first : tsEq w w1 → ∀ hdr header, o1 = some hdr → SDRHeader.decodeGo {} (GoSlice.ofBytes hdr.payload) = .ok header →
          w1.repo.store.recs = pre ++ rest ∧ ∃ r rest', rest = r :: rest' ∧ hdr.next = nextID rest' ∧ header.typ = r.typ ∧
            header.id = r.id ∧ header.length = UInt8.ofNat r.body.length := by
        rintro e1 hdr header rfl hh
        obtain ⟨r1, r, rest', rfl, n1, p1⟩ := read_still w hInv resv id 0 5 (by omega) pre rest hrecs hpos hid w1 hdr h1 e1
        have hr := hwf.2.1 r (by simp)
        rw [p1, show (if (5 : Nat) = 0xFF then r.bytes.length else 5) = 5 by simp, header_decode r (by omega)] at hh
        simp only [R.ok.injEq] at hh
        subst hh
        exact ⟨r1, r, rest', rfl, n1, rfl, rfl, rfl⟩
      rcases hr with e | ⟨hdr, header, ho, hh, ⟨ht, e⟩ | ⟨ht, hl, w2, o2, h2, hr⟩⟩
      · rw [e] at h; cases h
      · rw [e] at h
        have m3 := (walkLoop_later true n w1 resv hdr.next (fullView pre)).1
        rw [h] at m3
        obtain ⟨e1, e2⟩ := tsEq_squeeze c1.1 m3 hts
        obtain ⟨r1, r, rest', rfl, n1, t1, _, _⟩ := first e1 hdr header ho hh
        rw [t1] at ht
        rw [← fullView_snoc_other pre r ht, n1] at h
        simpa using ih w1 resv (nextID rest') (pre ++ [r]) rest' w' m' (c1.2 hInv) (by rw [r1]; simp)
          (Or.inl (posOK_next pre r rest')) h e2
      · have c2 := call_later GetSDRRsp.decode w1 (.getSDR resv id 5 header.length.toNat)
        rw [h2] at c2
        rcases hr with e | ⟨body, fsr, rfl, hf, e⟩
        · rw [e] at h; cases h
        · rw [e] at h
          have m3 := (walkLoop_later true n w2 resv body.next (Proto.SdrWalk.insert (fullView pre) header.id fsr)).1
          simp only [if_true] at h
          rw [h] at m3
          obtain ⟨e1, e2⟩ := tsEq_squeeze c1.1 (tsLe_trans c2.1 m3) hts
          obtain ⟨e2, e3⟩ := tsEq_squeeze c2.1 m3 e2
          obtain ⟨r1, r, rest', rfl, n1, t1, i1, l1⟩ := first e1 hdr header ho hh
          have hr := hwf.2.1 r (by simp)
          obtain ⟨r2, _, _, hc, n2, p2⟩ := read_still w1 (c1.2 hInv) resv id 5 _ (by omega) pre _ r1 hpos hid w2 body h2 e2
          obtain ⟨rfl, rfl⟩ := List.cons.inj hc
          rw [t1] at ht
          rw [l1, body_window r hr.2] at p2
          rw [p2, FullSensorRecord.decodeGo_refines, GoSlice.vis_ofBytes] at hf
          have hd : FullSensorRecord.decode r.body = .ok fsr := by
            cases hx : FullSensorRecord.decode r.body with
            | ok f => rw [hx] at hf; simp only [R.ofExcept_ok, R.ok.injEq] at hf; rw [hf]
            | error e => rw [hx] at hf; simp at hf
          rw [i1, insert_own pre r rest' fsr hwf ht hd, n2] at h
          simpa using ih w2 resv (nextID rest') (pre ++ [r]) rest' w' m' (c2.2 (c1.2 hInv)) (by rw [r2]; simp)
            (Or.inl (posOK_next pre r rest')) h e3

end Bmc.Lemmas.SdrWalk
