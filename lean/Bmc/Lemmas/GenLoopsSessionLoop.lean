import Bmc.Lemmas.GenLoopsSession
import Bmc.Lemmas.AcceptInv
import Bmc.Lemmas.MetricsWire
/-! The regenerated `V2Session.buildAndSend` under the scripted surroundings: one run of the closure in the model's terms
    (`sess_run_serfail`, `sess_run_lost`, `sess_run_nil`, `sess_run_reply`), and the inductions over the script that give what
    `Proto.sendLoop` returns (`sess_runs`) and what `Proto.Metrics.loop` counts (`sess_runs_metrics`). -/
namespace Bmc.Lemmas.GenLoops
open Bmc Bmc.Wire Bmc.Crypto Bmc.Proto Bmc.GoOrch Bmc.GoLoops Bmc.Gen.Loops

theorem sessAcc_eq (k : Keys) (c : Cmd) (name : String) (rsp : Opaque) (v2 : V2Session) (msg : Message)
    (hid : v2.id < 4294967296) (hm : msg.enterprise < 4294967296) (hL : k.localID < 4294967296) (hc : c.ent < 4294967296)
    (L : Layers) (a b : Opaque) (hv : L.v2Session = v2Of v2 a b) (hmsg : L.message = msgOf msg) :
    sessAcc (sessConsts k) (cmdOf c name rsp) L = accept k c v2 msg := by
  unfold sessAcc accept
  rw [respTo_eq c msg hm hc name rsp L hmsg, hv, v2Of_auth, v2Of_id]
  have h1 : ((sessConsts k).integrityAlgorithm != 0) = !(k.integ == 0) := by
    unfold sessConsts; cases k.integ == 0 <;> rfl
  have h2 : (UInt32.ofNat v2.id == (sessConsts k).localID) = (v2.id == k.localID) :=
    Bool.eq_iff_iff.mpr (by
      rw [beq_iff_eq, beq_iff_eq, UInt32.ofNat_eq_iff_mod_eq_toNat, Nat.mod_eq_of_lt hid]
      show v2.id = (UInt32.ofNat k.localID).toNat ↔ _
      rw [UInt32.toNat_ofNat_of_lt' hL])
  rw [h1, h2]
  unfold slAcceptable
  simp only [Bool.not_and, Bool.not_not, Bool.and_assoc]

section run
variable (C : Ops) (k : Keys) (c : Cmd) (bd : Bytes → Bool) (name : String) (rsp : Opaque)

/-- the request does not serialise: terminal, nothing drawn, sent or counted -/
theorem sess_run_serfail (hf : c.reqFails = true) (first : Bool) (te : Option GoErr) (w : SW) (K : Conn Decoded) :
    V2Session_buildAndSend_func1 (sessWorld C k c bd) (sessConsts k) (cmdOf c name rsp) (first, te) (w, K)
      = (.ok ((false, some .serialize), none), w,
         { K with events := K.events ++ pre first, layers := sessLit (sessConsts k) (cmdOf c name rsp) K.inbound, buffer := [] }) := by
  simp only [sessFunc1_eq, sessSerialize_lit C k c bd name rsp, hf, Bool.true_eq_false, Bool.false_eq_true, if_false]

/-- the connection when the Send is made: the retry counted, the layer structs rebuilt and serialised under the next IV, the
    counter advanced -/
def sessSending (first : Bool) (ivs : List Bytes) (K : Conn Decoded) : Conn Decoded :=
  { K with events := K.events ++ pre first, inbound := K.inbound + 1
           layers := serLayers C k c (ivs.headD []) (sessLit (sessConsts k) (cmdOf c name rsp) K.inbound)
           buffer := serBytes C k c (ivs.headD []) (sessLit (sessConsts k) (cmdOf c name rsp) K.inbound) }

variable (hf : c.reqFails = false) (first : Bool) (ivs sent0 : List Bytes) (i x : Bool) (K : Conn Decoded)
include hf

/-- **ONE RUN of the regenerated closure under the scripted surroundings**: an IV is drawn, the datagram serialised from the rebuilt
    layer structs and the counter advanced whatever happens next. On a lost reply: the transport's error, terminal … -/
theorem sess_run_lost (rest : List Outcome) :
    V2Session_buildAndSend_func1 (sessWorld C k c bd) (sessConsts k) (cmdOf c name rsp) (first, none)
        ({ ivs := ivs, script := .lost :: rest, sent := sent0, inSend := i, expired := x }, K)
      = (.ok ((false, some .transport), none),
         { ivs := ivs.tail, script := rest, inSend := i, expired := x,
           sent := sent0 ++ [serBytes C k c (ivs.headD []) (sessLit (sessConsts k) (cmdOf c name rsp) K.inbound)] },
         sessSending C k c name rsp first ivs K) := by
  simp only [sessFunc1_eq, sessSerialize_lit C k c bd name rsp, hf, if_true]
  rw [recv_script _ rfl]
  rfl

/-- … with the script exhausted, the Send meets the expired context: the same, and nothing is handed to the transport … -/
theorem sess_run_nil :
    V2Session_buildAndSend_func1 (sessWorld C k c bd) (sessConsts k) (cmdOf c name rsp) (first, none)
        ({ ivs := ivs, script := [], sent := sent0, inSend := i, expired := x }, K)
      = (.ok ((false, some .transport), none), { ivs := ivs.tail, script := [], sent := sent0, inSend := i, expired := true },
         sessSending C k c name rsp first ivs K) := by
  simp only [sessFunc1_eq, sessSerialize_lit C k c bd name rsp, hf, if_true]
  rw [recv_script _ rfl]
  rfl

variable (hL : k.localID < 4294967296) (hc : c.ent < 4294967296)
include hL hc

omit hf in
/-- what `sessDecode` and the closure's three checks make of a reply is what `classify` and `attOf` say of it -/
theorem sess_seen (L : Layers) (t : Decoded) (d : Bytes) :
    ReplySeen (sessAcc (sessConsts k) (cmdOf c name rsp)) L (sessDecode C k L t d) (classify C k c d) (attOf C k c (.reply d)) := by
  simp only [sessDecode, classify, attOf]
  rcases hv : view (onReply C k.sess (GoSlice.ofBytes d)) with ⟨_ | _ | _ | _, _ | ⟨v2, msg⟩⟩
  case message.some =>
    -- what was decoded fits the 32-bit fields of the layer structs
    obtain ⟨_, _, _, hvd, _, _, hmd⟩ := onReply_message_inv C k.sess _ v2 msg hv
    exact .message _ msg _ rfl
      (sessAcc_eq k c name rsp v2 msg (v2_decode_id_lt _ _ _ hvd) (msg_decode_ent_lt _ _ hmd) hL hc _ _ _ rfl rfl)
  all_goals constructor

/-- … **on a reply, as all three see it** (`ReplyEnds`) -/
theorem sess_run_reply (d : Bytes) (rest : List Outcome) :
    ∃ (r : RF ((Bool × Option GoErr) × Option GoErr)) (K' : Conn Decoded),
      V2Session_buildAndSend_func1 (sessWorld C k c bd) (sessConsts k) (cmdOf c name rsp) (first, none)
          ({ ivs := ivs, script := .reply d :: rest, sent := sent0, inSend := i, expired := x }, K)
        = (r, { ivs := ivs.tail, script := rest, inSend := i, expired := x,
                sent := sent0 ++ [serBytes C k c (ivs.headD []) (sessLit (sessConsts k) (cmdOf c name rsp) K.inbound)] }, K') ∧
      K'.inbound = K.inbound + 1 ∧
      ReplyEnds (fun e => ((false, none), e)) (K.events ++ pre first) (classify C k c d) (attOf C k c (.reply d)) r K' := by
  simp only [sessFunc1_eq, sessSerialize_lit C k c bd name rsp, hf, if_true]
  rw [recv_script _ rfl]
  obtain ⟨r, K', h, hi, -, he⟩ := afterReply_seen (sessWorld C k c bd) _ (fun e => ((false, none), e)) (fun _ => Bool.and_true _) d
    _ (sessSending C k c name rsp first ivs K) (sess_seen C k c name rsp hL hc _ K.decoded d)
  exact ⟨r, K', h, hi, he⟩

end run

section loop
variable (C : Ops) (k : Keys) (c : Cmd) (bd : Bytes → Bool) (name : String) (rsp : Opaque)
  (hL : k.localID < 4294967296) (hr : k.remoteID < 4294967296) (hc : c.ent < 4294967296)
include hL hc hr

/-- **THE LOOP** (as many runs as the script has outcomes: the context ends in the back-off): the regenerated retry loop transmits
    the datagrams, leaves the counter and ends (`resOf`: its error value and the message layer read as a result) the way
    `Proto.sendLoop` says -/
theorem sess_runs : ∀ (script : List Outcome) (s : Sess), s.keys = k → s.inbound < 4294967296 →
    ∀ (ivs : List Bytes), script.length ≤ ivs.length → ∀ (first : Bool) (sent0 : List Bytes) (K : Conn Decoded),
    K.inbound = UInt32.ofNat s.inbound →
    let r := runs (V2Session_buildAndSend_func1 (sessWorld C k c bd) (sessConsts k) (cmdOf c name rsp)) script.length (first, none)
              ({ ivs := ivs, script := script, sent := sent0, inSend := false, expired := false }, K)
    let m := sendLoop C c s ivs script
    r.2.1.sent = sent0 ++ m.2.1 ∧ r.2.2.inbound = UInt32.ofNat m.1.inbound ∧ resOf (errOfS r.1) r.2.2 = some m.2.2 := by
  intro script
  induction script with
  | nil => intro s _ _ ivs _ first sent0 K hK; simp [runs_zero, sendLoop, resOf, errOfS, hK]
  | cons o rest ih =>
    intro s hk hs ivs hl first sent0 K hK
    subst hk
    obtain _ | ⟨iv, ivs⟩ := ivs
    · simp at hl
    rw [List.length_cons]
    cases hf : c.reqFails
    · have hb : serBytes C s.keys c iv (sessLit (sessConsts s.keys) (cmdOf c name rsp) K.inbound) = (attempt C (initLayers s c) c iv).2 := by
        rw [hK]; exact serBytes_attempt C c name rsp s iv hr hc
      have hK1 : K.inbound + 1 = UInt32.ofNat ((s.inbound + 1) % 4294967296) := by rw [hK, ofNat32_succ]
      cases o with
      | lost =>
        rw [runs_done _ (sess_run_lost C s.keys c bd name rsp hf first (iv :: ivs) sent0 false false K rest), sendLoop_lost C c hf, ← hb]
        exact ⟨rfl, hK1, rfl⟩
      | reply d =>
        obtain ⟨hk2, hi2⟩ := after_reply C s c iv (GoSlice.ofBytes d)
        obtain ⟨r, K', hop, hi, h⟩ := sess_run_reply C s.keys c bd name rsp hf first (iv :: ivs) sent0 false false K hL hc d rest
        rw [hK1, ← hi2] at hi
        rw [List.headD_cons, List.tail_cons, hb] at hop
        rw [sendLoop_reply C c hf]
        rcases h with ⟨hcl, rfl⟩ | ⟨cc, p, hcl, _, rfl, h1, h2, _⟩ | ⟨e, hcl, rfl, _⟩ <;> rw [hcl]
        · rw [runs_panic _ hop]; exact ⟨rfl, hi, rfl⟩
        · rw [runs_done _ hop]; exact ⟨rfl, hi, by rw [← h1, ← h2]; rfl⟩
        · rw [runs_retry _ hop]
          obtain ⟨a1, a2, a3⟩ := ih _ hk2 (by rw [hi2]; exact Nat.mod_lt _ (by decide)) ivs (by simpa using hl) false _ K' hi
          exact ⟨by rw [a1]; simp, a2, a3⟩
    · rw [runs_done _ (sess_run_serfail C s.keys c bd name rsp hf ..), sendLoop_serfail C c hf]
      exact ⟨by simp, hK, rfl⟩

omit hr

/-- **THE LOG**: what the Prometheus calls of the regenerated loop add up to is what `Proto.Metrics.loop` computes on `attOf` of
    the same script — for both ways the caller's context can end -/
theorem sess_runs_metrics (hf : c.reqFails = false) (m0 : Metrics.M) (i : Bool) : ∀ (script : List Outcome), noCrash C k c script →
    ∀ (first : Bool) (ivs sent0 : List Bytes) (K : Conn Decoded),
    let r := runs (V2Session_buildAndSend_func1 (sessWorld C k c bd) (sessConsts k) (cmdOf c name rsp))
              (script.length + (if i then 1 else 0)) (first, none)
              ({ ivs := ivs, script := script, sent := sent0, inSend := i, expired := false }, K)
    let l := Metrics.loop true (evsApply m0 K.events) first (script.map (attOf C k c) ++ ending i)
    evsApply m0 r.2.2.events = l.1 ∧ (errOfS r.1 = .ok none ↔ l.2 = true) ∧ ∃ x, r.1 = .ok x := by
  intro script
  induction script with
  | nil =>
    intro _ first ivs sent0 K
    cases i
    · simp [runs_zero, errOfS, ending, Metrics.loop]
    · simp [runs_done _ (sess_run_nil C k c bd name rsp hf first ivs sent0 true false K), sessSending, errOfS, ending, Metrics.loop,
        evsApply_append, evsApply_pre]
  | cons o rest ih =>
    intro hn first ivs sent0 K
    rw [List.length_cons, Nat.add_right_comm]
    simp only [List.map_cons, List.cons_append]
    cases o with
    | lost =>
      rw [runs_done _ (sess_run_lost C k c bd name rsp hf first ivs sent0 i false K rest)]
      simp [sessSending, errOfS, attOf, Metrics.loop, evsApply_append, evsApply_pre]
    | reply d =>
      obtain ⟨r, K', hop, -, h⟩ := sess_run_reply C k c bd name rsp hf first ivs sent0 i false K hL hc d rest
      rcases h.metrics _ (hn d (List.mem_cons_self ..)) true m0 (rest.map (attOf C k c) ++ ending i) with ⟨rfl, hl⟩ | ⟨e, rfl, hl⟩
      · rw [runs_done _ hop, hl]
        exact ⟨rfl, by simp [errOfS], _, rfl⟩
      · rw [runs_retry _ hop, hl]
        exact ih (fun d hd => hn d (List.mem_cons_of_mem _ hd)) false ivs.tail _ K'

end loop
end Bmc.Lemmas.GenLoops
