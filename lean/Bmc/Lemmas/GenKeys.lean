import Bmc.Gen.Keys
import Bmc.Lemmas.GenHsModel
import Bmc.Lemmas.GenEnc
/-! Helper definitions and lemmas for `Proofs/GenKeys/*.lean`: the key-derivation code REGENERATED from the Go source
    (`Bmc/Gen/Keys.lean`) against the hand-written handshake model (`Proto/Handshake.lean`, `Proto/Session.lean`).

* `mac` — THE TRUSTED CONTRACT of `hash.Hash`, written out: what `Sum(nil)` returns for a hash value the module
  builds, after the message `m` was written into it in the reset state.
* `Rakp1Is` / `Rakp2Is` — the correspondence between the fields of the Go structs the translated functions read and
  the values of the handshake model (`Opts`, the console random, `OpenSessionRsp`, `RAKP2`); `rakp1Of` / `rakp2Of` — the
  Go values for given model values (`rakp1Of` through the REGENERATED literal of `newV2Session`). -/
namespace Bmc.Lemmas.GenKeys
open Bmc Bmc.Wire Bmc.Crypto Bmc.Proto Bmc.Gen.Keys

/-- `crypto/md5.New`, `crypto/sha1.New`, `crypto/sha256.New` are MD5, SHA-1, SHA-256 -/
def hashAlg : HashFn → HashAlg
  | .md5_New => .md5
  | .sha1_New => .sha1
  | .sha256_New => .sha256

/-- `Sum(nil)` of a hash value after exactly `m` was written into it since it was created or last reset:
    `hmac.New(f, key)` computes HMAC_f(key, m); a `truncatedHash` runs the REGENERATED `truncatedHash.Sum` on `nil`
    over the embedded hash, whose `Sum(b)` is `b` followed by its own MAC. `none` = the slice expression of
    `truncatedHash.Sum` reaches beyond the MAC (a panic, or bytes that are not the MAC's). -/
def mac (C : Ops) : HashVal → Bytes → Option Bytes
  | .hmac f key, m => some (C.hmac (hashAlg f) key m)
  | .truncated inner n, m =>
    match mac C inner m with
    | none => none
    | some full => truncatedHash_Sum (fun b => b ++ full) n []

/-- the Go `RAKPMessage1` that the key formulas read holds the model's values: as `newV2Session` fills it from the
    options, the random draw and the Open Session Response -/
structure Rakp1Is (g : RAKPMessage1) (o : Opts) (rm : Bytes) (osr : OpenSessionRsp) : Prop where
  managedSystemSessionID : g.managedSystemSessionID.toNat = osr.bmcSessionID
  remoteConsoleRandom : g.remoteConsoleRandom = rm
  privilegeLevelLookup : g.privilegeLevelLookup = o.lookup
  maxPrivilegeLevel : g.maxPrivilegeLevel = o.priv
  username : g.username = o.user

/-- the Go `RAKPMessage2` that the key formulas read holds the model's decoded RAKP 2
    (the same renaming as `Lemmas/GenDec.lean: RAKPMessage2.toModel`) -/
structure Rakp2Is (g : RAKPMessage2) (rk2 : RAKP2) : Prop where
  remoteConsoleSessionID : g.remoteConsoleSessionID.toNat = rk2.consoleSessionID
  managedSystemRandom : g.managedSystemRandom = rk2.bmcRandom
  managedSystemGUID : g.managedSystemGUID = rk2.bmcGUID

/-- the `rakpMessage1` of `newV2Session` for the model's values: the REGENERATED literal applied to
    `openSessionRsp.ManagedSystemSessionID ↦ osr.bmcSessionID`, `remoteConsoleRandom ↦ rm`,
    `opts.PrivilegeLevelLookup ↦ o.lookup`, `opts.MaxPrivilegeLevel ↦ o.priv`, `opts.Username ↦ o.user` -/
def rakp1Of (o : Opts) (rm : Bytes) (osr : OpenSessionRsp) : RAKPMessage1 :=
  newV2Session_rakpMessage1 (UInt32.ofNat osr.bmcSessionID) rm o.lookup o.priv o.user

def rakp2Of (rk2 : RAKP2) : RAKPMessage2 :=
  { remoteConsoleSessionID := UInt32.ofNat rk2.consoleSessionID, managedSystemRandom := rk2.bmcRandom
    managedSystemGUID := rk2.bmcGUID }

theorem rakp1Of_is (o : Opts) (rm : Bytes) (osr : OpenSessionRsp) (h : osr.bmcSessionID < 4294967296) :
    Rakp1Is (rakp1Of o rm osr) o rm osr := by
  refine ⟨?_, rfl, rfl, rfl, rfl⟩
  simp only [rakp1Of, newV2Session_rakpMessage1, UInt32.toNat_ofNat']
  exact Nat.mod_eq_of_lt h

theorem rakp2Of_is (rk2 : RAKP2) (h : rk2.consoleSessionID < 4294967296) : Rakp2Is (rakp2Of rk2) rk2 := by
  refine ⟨?_, rfl, rfl⟩
  simp only [rakp2Of, UInt32.toNat_ofNat']
  exact Nat.mod_eq_of_lt h

theorem putUint32LE_eq (a : Bytes) (v : UInt32) (h : a.length = 4) : GoKeys.putUint32LE a v = putLE32 v.toNat := by
  rw [show GoKeys.putUint32LE a v = GoEnc.leBytes32 v ++ a.drop 4 from rfl, GenEnc.le32_eq, List.drop_eq_nil_of_le (by omega),
    List.append_nil]

theorem putUint32LE_length (a : Bytes) (v : UInt32) (h : a.length = 4) : (GoKeys.putUint32LE a v).length = 4 := by
  rw [putUint32LE_eq a v h]; rfl

theorem putLE32_length (n : Nat) : (putLE32 n).length = 4 := GenEnc.length_putLE32 n

/-- `for i := 0; i < n; i++ { l[i] = b }` over a byte string of at least `n` bytes: its first `n` bytes become `b` -/
theorem fill (b : UInt8) : ∀ (n : Nat) (l : Bytes), n ≤ l.length →
    List.foldl (fun (l : Bytes) (i : Nat) => l.set i b) l (List.range n) = List.replicate n b ++ l.drop n := by
  intro n
  induction n with
  | zero => intro l _; simp
  | succ n ih =>
    intro l h
    rw [List.range_succ, List.foldl_append, ih l (by omega)]
    simp only [List.foldl_cons, List.foldl_nil]
    rw [List.set_append_right _ _ (by simp), List.length_replicate, Nat.sub_self, List.replicate_succ']
    have : n < l.length := by omega
    rw [List.drop_eq_getElem_cons this, List.set_cons_zero, List.append_assoc]
    rfl

theorem truncatedHash_Sum_nil (full : Bytes) (n : Nat) (h : n ≤ full.length) :
    truncatedHash_Sum (fun b => b ++ full) (n : Int) [] = some (full.take n) := by
  simp [truncatedHash_Sum, GoKeys.sliceTo, h]

theorem copyArr_full (n : Nat) (dst src : Bytes) (h : n ≤ src.length) : GoKeys.copyArr n dst src = src.take n := by
  simp [GoKeys.copyArr, Nat.min_eq_left h]

/-- in the shape of the model's check (`rakp4Checks`); on 1, `ipmi.NewAES128CBC` receives the `[16]byte` that
    `copy(key[:], g.K(2))` leaves -/
theorem cipher_table (a : UInt8) (K : Int → Bytes) :
    algorithmCipher_k2 a K = if (a != 1) = true then none else some (GoKeys.copyArr 16 (List.replicate 16 0) (K 2)) := by
  unfold algorithmCipher_k2
  by_cases h0 : a = 0
  · subst h0; rfl
  by_cases h1 : a = 1
  · subst h1; rfl
  simp [h0, h1]

/-- the role byte: `role := uint8(MaxPrivilegeLevel); if !PrivilegeLevelLookup { role |= 1 << 4 }` is the model's -/
theorem role_eq (o : Opts) :
    (if (!o.lookup) = true then o.priv ||| 16 else o.priv) = roleByte o := by
  unfold roleByte; cases o.lookup <;> simp

end Bmc.Lemmas.GenKeys
