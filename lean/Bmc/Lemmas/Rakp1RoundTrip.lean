import Bmc.Wire.C08Encode
import Bmc.Lemmas.LittleEndian
/-! Round trip of RAKP Message 1 (C08). -/
namespace Bmc.Wire
open Bmc

/-- values of the Go struct that the wire format can carry: a 32-bit session ID, the 16-byte random (a `[16]byte` in Go),
    a privilege level that fits its nibble, a user name of at most 16 bytes -/
structure Setup.RAKP1.WF (v : Setup.RAKP1) : Prop where
  sid : v.bmcSID < 4294967296
  rnd : v.consoleRandom.length = 16
  priv : v.maxPriv.toNat < 16
  user : v.username.length ≤ 16

/-- the role byte: privilege nibble, bit 4 set = name-only lookup -/
theorem role_rt : ∀ p : Nat, p < 16 → ∀ l : Bool,
    let b : UInt8 := (UInt8.ofNat p &&& 0xF) ||| (if l then 0 else 0x10)
    ((b &&& 0x10) == 0) = l ∧ b &&& 0xF = UInt8.ofNat p := by decide +kernel

/-- the bytes `RAKPMessage1.SerializeTo` writes -/
def Setup.RAKP1.wire (v : Setup.RAKP1) : Bytes :=
  [v.tag, 0, 0, 0] ++ putLE32 v.bmcSID ++ v.consoleRandom
    ++ [(v.maxPriv &&& 0xF) ||| (if v.lookup then 0 else 0x10), 0, 0, UInt8.ofNat v.username.length] ++ v.username

theorem Setup.RAKP1.serialize_ok (v : Setup.RAKP1) (h : v.username.length ≤ 16) : v.serialize = .ok v.wire := by
  simp [Setup.RAKP1.serialize, RAKP1.encode, Setup.RAKP1.wire, show ¬ (16 < v.username.length) by omega]

theorem Setup.RAKP1.decode_wire (v : Setup.RAKP1) (h : v.WF) :
    Setup.RAKP1.decode v.wire = .ok { v with contents := v.wire } := by
  obtain ⟨hsid, hrnd, hpriv, huser⟩ := h
  obtain ⟨tag, sid, rnd, lookup, priv, user, contents⟩ := v
  simp only at hsid hrnd hpriv huser
  have r := role_rt _ hpriv lookup
  simp only [UInt8.ofNat_toNat] at r
  obtain ⟨r1, r2⟩ := r
  have wsid : ∀ r, le32 (([tag, 0, 0, 0] ++ (putLE32 sid ++ r)).drop 4) = sid := fun r => le32_at [_, _, _, _] r 4 _ rfl hsid
  have g19 : ∀ (a b c d : UInt8), (rnd ++ a :: b :: c :: d :: user)[19]? = some d := by
    intro a b c d
    rw [List.getElem?_append_right (by omega)]; simp [hrnd]
  have d20 : ∀ (a b c d : UInt8), List.drop 20 (rnd ++ a :: b :: c :: d :: user) = user := by
    intro a b c d
    rw [show 20 = rnd.length + 4 by omega, ← List.drop_drop]; simp
  have eu : List.length user % 256 = List.length user := by omega
  unfold Setup.RAKP1.decode Setup.RAKP1.wire
  simp only [List.append_assoc, wsid]
  simp [putLE32, hrnd, g19, d20, r1, r2, eu]
  rw [if_neg (by omega), if_neg (by omega), if_neg (by omega)]

end Bmc.Wire
