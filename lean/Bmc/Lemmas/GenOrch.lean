import Bmc.Basic.GoOrch
/-! General lemmas about the loop combinators and the association-list maps of `Basic/GoOrch.lean`, used by the equality
    proofs of the regenerated orchestration functions (`Proofs/GenOrch/*`): `range` loops that only compute; the simulation
    rule `loop_sim` for a fuelled loop against a hand loop, and termination by a measure as its special case. -/
namespace Bmc.Lemmas.GenOrch
open Bmc Bmc.GoOrch

theorem forEach_pure {σ α β : Type} (g : β → α → β) (l : List α) (b : β) (s : σ) :
    forEach l (fun b x => (pure (Step.next (g b x)) : M σ _)) b s = (.ok (l.foldl g b), s) := by
  induction l generalizing b with
  | nil => rfl
  | cons x xs ih => rw [forEach_cons]; simp only [pure_apply]; rw [ih]; rfl

theorem forEachR_find {σ α ρ : Type} (p : α → Bool) (g : α → ρ) (l : List α) (s : σ) :
    forEachR l (fun (_ : Unit) x => if p x = true then (pure (Ctl.ret (g x)) : M σ _) else pure (Ctl.next ())) () s
      = (.ok (match l.find? p with | some x => Sum.inr (g x) | none => Sum.inl ()), s) := by
  induction l with
  | nil => rfl
  | cons x xs ih =>
    rw [forEachR_cons]
    by_cases h : p x = true
    · simp [h]
    · simp only [h, if_false, pure_apply, Bool.false_eq_true]
      rw [ih]
      simp [h]

theorem foldl_snoc {α : Type} (l acc : List α) : l.foldl (fun b x => b ++ [x]) acc = acc ++ l := by
  induction l generalizing acc with
  | nil => simp
  | cons x xs ih => simp [ih]

/-- a translated outcome that maps onto the hand model's, where the hand model does not panic: both fail or both succeed -/
theorem map_eq_lift {α β : Type} {f : α → β} {r : RF α} {h : R β} (k : r.map f = RF.lift h)
    (hres : h.bad = false) : (r = .err ∧ h = .err) ∨ ∃ a, r = .ok a ∧ h = .ok (f a) := by
  rcases R.err_or_ok hres with rfl | ⟨b, rfl⟩ <;> cases r <;> simp only [RF.map, RF.lift, reduceCtorEq, RF.ok.injEq] at k
  · exact Or.inl ⟨rfl, rfl⟩
  · exact Or.inr ⟨_, rfl, by rw [k]⟩

/-- `x, err := f(…); return x, err` -/
theorem cont_pure {σ α : Type} (x : RF α × σ) : M.cont Pure.pure x = x := by
  rcases x with ⟨_ | _, s⟩ <;> rfl

theorem mapHas_nil {κ ν : Type} [DecidableEq κ] (k : κ) : mapHas ([] : List (κ × ν)) k = false := rfl

theorem mapHas_mapSet {κ ν : Type} [DecidableEq κ] (m : List (κ × ν)) (k k' : κ) (v : ν) :
    mapHas (mapSet m k v) k' = (decide (k = k') || mapHas m k') := by
  unfold mapHas mapSet
  simp only [List.any_append, List.any_filter, List.any_cons, List.any_nil, Bool.or_false]
  by_cases h : k = k'
  · subst h
    simp
  · simp only [h, decide_false, Bool.false_or, Bool.or_false]
    congr 1
    funext e
    by_cases he : e.1 = k'
    · subst he
      have : e.1 ≠ k := fun hh => h hh.symm
      simp [this]
    · simp [he]

theorem mapHas_foldl {κ α : Type} [DecidableEq κ] (key : α → κ) (l : List α) (m : List (κ × Unit)) (k : κ) :
    mapHas (l.foldl (fun m x => mapSet m (key x) ()) m) k = (l.any (fun x => decide (key x = k)) || mapHas m k) := by
  induction l generalizing m with
  | nil => simp
  | cons x xs ih =>
    simp only [List.foldl_cons, ih, mapHas_mapSet, List.any_cons]
    cases decide (key x = k) <;> cases List.any xs _ <;> simp

end Bmc.Lemmas.GenOrch

namespace Bmc.GoOrch
variable {σ β X O : Type}

/-- what is to be shown of the outcome of one round of a `loop`: `next` where the loop goes on, `exit` of what the loop
    then returns where it does not. (`simp` unfolds it: it then settles the outcome first and visits `next` or `exit` only
    in the case that applies; as rewrite rules the six equations would have it simplify both under every outcome.) -/
@[simp] def Step.Round (next : β → σ → Prop) (exit : RF β × σ → Prop) : RF (Step β) × σ → Prop
  | (.ok (.next b), s) => next b s
  | (.ok (.brk b), s) => exit (.ok b, s)
  | (.err, s) => exit (.err, s)
  | (.panic, s) => exit (.panic, s)
  | (.overread, s) => exit (.overread, s)
  | (.outOfFuel, s) => exit (.outOfFuel, s)

theorem Step.Round.imp {next next' : β → σ → Prop} {exit exit' : RF β × σ → Prop} (hn : ∀ b s, next b s → next' b s)
    (he : ∀ r, exit r → exit' r) : ∀ {o : RF (Step β) × σ}, Step.Round next exit o → Step.Round next' exit' o
  | (.ok (.next _), _), h => hn _ _ h
  | (.ok (.brk _), _), h | (.err, _), h | (.panic, _), h | (.overread, _), h | (.outOfFuel, _), h => he _ h

/-- SIMULATION of a fuelled loop by a function `H` of the same fuel (a structurally recursive hand loop): `Inv` ties
    the loop variables and the state to `H`'s arguments (it may speak of the fuel left), `Sim` is what is claimed of the
    two results. Per round: where the loop goes on, `H`'s arguments for the rest are named and the claim about the rest
    is carried back over the round (e.g. a request consed onto `H`'s log against one appended to the state's); where it
    ends, the claim holds. The conclusion is about any `r` the loop equals, so that `generalize h : loop fuel _ _ _ = r`
    can hand over a loop whose body is an anonymous function of a regenerated definition. -/
theorem loop_sim {step : β → M σ (Step β)} {H : Nat → X → O} {Inv : Nat → β → σ → X → Prop}
    {Sim : β → σ → X → RF β × σ → O → Prop}
    (zero : ∀ b s x, Inv 0 b s x → Sim b s x (.outOfFuel, s) (H 0 x))
    (round : ∀ n b s x, Inv (n + 1) b s x → Step.Round
      (fun b' s' => ∃ x', Inv n b' s' x' ∧ ∀ r, Sim b' s' x' r (H n x') → Sim b s x r (H (n + 1) x))
      (fun r => Sim b s x r (H (n + 1) x)) (step b s)) :
    ∀ n b s x, Inv n b s x → ∀ r, loop n step b s = r → Sim b s x r (H n x) := by
  intro n
  induction n with
  | zero => intro b s x h r hr; subst hr; exact zero b s x h
  | succ n ih =>
    intro b s x h r hr
    subst hr
    have := round n b s x h
    rw [loop_succ]
    generalize step b s = o at this
    obtain ⟨ro, s'⟩ := o
    cases ro with
    | ok c =>
      cases c with
      | next b' => obtain ⟨x', hi, hs⟩ := this; exact hs _ (ih b' s' x' hi _ rfl)
      | brk b' => exact this
    | _ => exact this

/-- TERMINATION within the fuel: a measure that every round that goes on decreases (given an invariant), and no round
    runs out of fuel itself -/
theorem loop_noFuelOut {step : β → M σ (Step β)} (μ : β → σ → Nat) (Inv : β → σ → Prop)
    (round : ∀ b s, Inv b s → Step.Round (fun b' s' => Inv b' s' ∧ μ b' s' < μ b s) (fun r => r.1 ≠ .outOfFuel) (step b s))
    (n : Nat) (b : β) (s : σ) (h : Inv b s) (hn : μ b s < n) : ∀ r, loop n step b s = r → r.1 ≠ .outOfFuel :=
  loop_sim (H := fun _ (_ : Unit) => ()) (Inv := fun n b s _ => Inv b s ∧ μ b s < n) (Sim := fun _ _ _ r _ => r.1 ≠ .outOfFuel)
    (fun _ _ _ h => absurd h.2 (Nat.not_lt_zero _))
    (fun n b s _ h => (round b s h.1).imp (fun b' s' h' => ⟨(), ⟨h'.1, by have := h.2; have := h'.2; omega⟩, fun _ h => h⟩)
      fun _ h => h) n b s () ⟨h, hn⟩

end Bmc.GoOrch
