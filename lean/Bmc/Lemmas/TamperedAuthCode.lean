import Bmc.Lemmas.ResponseAccepted
import Bmc.Lemmas.V2RoundTrip
/-! A conforming response whose AuthCode bytes are replaced by ANYTHING else (a flipped bit, a truncated or extended code,
    another key's code) does not decode: it is a retry, never the command's result. -/
namespace Bmc.Proto
open Bmc Bmc.Wire Bmc.Crypto

/-- the conforming response datagram with `code` in place of the integrity value -/
def responseWithCode (C : Ops) (k : Keys) (c : Cmd) (cc : UInt8) (data : Bytes) (seq : Nat) (iv : Bytes) (code : Bytes) : Bytes :=
  let inner := responseAes C k c cc data iv
  let w := responseWrapper k seq
  [6, 0, 0xFF, 7] ++ (v2Header w inner.length ++ (inner ++ (v2Trailer (v2Pad w inner.length) ++ code)))

/-- what the AuthCode of that datagram has to be -/
def responseCode (C : Ops) (k : Keys) (c : Cmd) (cc : UInt8) (data : Bytes) (seq : Nat) (iv : Bytes) : Bytes :=
  let inner := responseAes C k c cc data iv
  let w := responseWrapper k seq
  integMac C k.integ k.k1 (v2Header w inner.length ++ (inner ++ v2Trailer (v2Pad w inner.length)))

theorem responseDatagram_eq (C : Ops) (k : Keys) (c : Cmd) (cc : UInt8) (data : Bytes) (seq : Nat) (iv : Bytes)
    (hlen : (responseAes C k c cc data iv).length < 65536) :
    responseDatagram C k c cc data seq iv = responseWithCode C k c cc data seq iv (responseCode C k c cc data seq iv) := by
  unfold responseDatagram responseWithCode responseCode
  rw [V2Session.encode_auth _ _ _ rfl]
  have : (responseAes C k c cc data iv).length % 65536 = (responseAes C k c cc data iv).length := by omega
  simp only [this]

theorem classify_wrapper_error (C : Ops) (k : Keys) (c : Cmd) (b0 b1 b2 b3 : UInt8) (rest : Bytes)
    (h : V2Session.decode (integMac C k.integ k.k1) rest = .error ()) : classify C k c (b0 :: b1 :: b2 :: b3 :: rest) = .retry := by
  unfold classify
  rw [onReply_view_eq, rmcp_decode_any]
  dsimp only
  rw [GoSlice.vis_ofBytes, show V2Session.decode (integMac C k.sess.integ k.sess.k1) rest = .error () from h]
  generalize (_ || _ || _ : Bool) = stop
  cases stop <;> rfl

theorem classify_tampered_code (C : Ops) (k : Keys) (c : Cmd) (cc : UInt8) (data : Bytes) (seq : Nat) (iv : Bytes) (code : Bytes)
    (hlen : (responseAes C k c cc data iv).length < 65536) (hne : code ≠ responseCode C k c cc data seq iv) :
    classify C k c (responseWithCode C k c cc data seq iv code) = .retry := by
  refine classify_wrapper_error C k c 6 0 0xFF 7 _ ?_
  have hp := v2Pad_le (responseWrapper k seq) (responseAes C k c cc data iv).length
  have hb : (v2Header (responseWrapper k seq) (responseAes C k c cc data iv).length).getD 1 0 = 0xC0 := by
    show (0 ||| 0x80 ||| 0x40 : UInt8) = 0xC0; decide
  exact V2Session.decode_layout_badsig _ _ _ _ _ false (by rw [v2Header_length]; rfl) rfl (by rw [hb]; decide) (by rw [hb]; decide)
    (v2Header_len16 (responseWrapper k seq) _ hlen) (by omega) hne

end Bmc.Proto
