import Bmc.Gen.Hs
import Bmc.Lemmas.GenHsModel
import Bmc.Lemmas.GenKeys
/-! Helper definitions for `Proofs/GenHs/*.lean`: SESSION ESTABLISHMENT as REGENERATED from the Go source (`Bmc/Gen/Hs.lean`:
    `newV2Session`, `openSession`, `rakpMessage1`, `rakpMessage3`) against the hand-written handshake model
    (`Proto/Handshake.lean`, factored into exchanges and checks in `Lemmas/GenHsModel.lean`). THE IDENTIFICATION, stated explicitly:

    * `osrView` / `rk2View` / `rk4View` — what the response struct of a payload holds after `buildAndSendPayload`, read as the
      model's decoded `OpenSessionRsp` / `RAKP2` / `RAKP4` (field renaming, `toNat` of the session IDs; the same renaming as
      `Lemmas/GenDec.lean: …toModel` followed by `Lemmas/SetupBridge.lean: forgetOpen`);
    * `goOpenReq` / `goRakp1` / `goRakp3` — the request struct handed to a wrapper, for the arguments of the hand model's
      encoders (`OpenSessionReq.encode`, `RAKP1.encode`, `RAKP3.encode`: tag, IDs, algorithms, …; no wildcard; RAKP 3 status OK);
    * `viewAnswers` — the answer functions of `buildAndSendPayload` (the PARAMETERS `send_<Payload>` of `Gen/Hs.lean`) and of
      `rand.Read`, read as the model's `Answers`: error is nil ↦ the decoded value, otherwise `.error .error`;
    * `optsOf` — the options and the cipher suite `determineCipherSuite` proposed, as the model's `Opts`;
    * `goOutcome` / `sessionOf` — the model's result as the value `newV2Session` returns: the `V2Session` with its IDs, SIK,
      algorithms, the key-material generator's hash (HMAC under the SIK), the integrity hasher (keyed with K1) and the
      AES key (first 16 bytes of K2); `ErrIncorrectPassword`; any other error; a panic. -/
namespace Bmc.Lemmas.GenHs
open Bmc Bmc.Wire Bmc.Crypto Bmc.Proto Bmc.GoOrch

def osrView (g : Gen.Hs.OpenSessionRsp) : OpenSessionRsp :=
  { tag := g.tag, status := g.status, maxPriv := g.maxPrivilegeLevel, consoleSessionID := g.remoteConsoleSessionID.toNat
    bmcSessionID := g.managedSystemSessionID.toNat
    authWild := g.authenticationPayload.wildcard, auth := g.authenticationPayload.algorithm
    integWild := g.integrityPayload.wildcard, integ := g.integrityPayload.algorithm
    confWild := g.confidentialityPayload.wildcard, conf := g.confidentialityPayload.algorithm }

/-- (`BaseLayer.Contents` is not part of the regenerated structure: the model's `contents` reads as empty; no step looks at it) -/
def rk2View (g : Gen.Hs.RAKPMessage2) : RAKP2 :=
  { tag := g.tag, status := g.status, consoleSessionID := g.remoteConsoleSessionID.toNat, bmcRandom := g.managedSystemRandom
    bmcGUID := g.managedSystemGUID, authCode := g.authCode, contents := [] }

def rk4View (g : Gen.Hs.RAKPMessage4) : RAKP4 :=
  { tag := g.tag, status := g.status, consoleSessionID := g.remoteConsoleSessionID.toNat, icv := g.icv }

def goOpenReq (r : OpenReq) : Gen.Hs.OpenSessionReq :=
  { tag := r.tag, maxPrivilegeLevel := r.priv, sessionID := UInt32.ofNat r.sid
    authenticationPayload := { wildcard := false, algorithm := r.auth }
    integrityPayload := { wildcard := false, algorithm := r.integ }
    confidentialityPayload := { wildcard := false, algorithm := r.conf } }

def goRakp1 (r : Rakp1Req) : Gen.Hs.RAKPMessage1 :=
  { tag := r.tag, managedSystemSessionID := UInt32.ofNat r.bmcSID, remoteConsoleRandom := r.rm, privilegeLevelLookup := r.lookup
    maxPrivilegeLevel := r.priv, username := r.user }

def goRakp3 (r : Rakp3Req) : Gen.Hs.RAKPMessage3 :=
  { tag := r.tag, status := 0, managedSystemSessionID := UInt32.ofNat r.bmcSID, authCode := r.authCode }

/-- the random draw: the 16-byte array after `rand.Read(remoteConsoleRandom[:])` (the bytes drawn; a draw shorter than asked
    for leaves zeros) -/
def viewAnswers {σ : Type}
    (sendO : σ → Gen.Hs.OpenSessionReq → σ × Gen.Hs.OpenSessionRsp × Bool)
    (sendR1 : σ → Gen.Hs.RAKPMessage1 → σ × Gen.Hs.RAKPMessage2 × Bool)
    (sendR3 : σ → Gen.Hs.RAKPMessage3 → σ × Gen.Hs.RAKPMessage4 × Bool)
    (rr : σ → Nat → σ × Option Bytes) : Answers σ where
  openSession s r := ((sendO s (goOpenReq r)).1, if (sendO s (goOpenReq r)).2.2 then .ok (osrView (sendO s (goOpenReq r)).2.1) else .error .error)
  rand s := ((rr s 16).1, (rr s 16).2.map (GoKeys.copyArr 16 (List.replicate 16 0)))
  rakp1 s r := ((sendR1 s (goRakp1 r)).1, if (sendR1 s (goRakp1 r)).2.2 then .ok (rk2View (sendR1 s (goRakp1 r)).2.1) else .error .error)
  rakp3 s r := ((sendR3 s (goRakp3 r)).1, if (sendR3 s (goRakp3 r)).2.2 then .ok (rk4View (sendR3 s (goRakp3 r)).2.1) else .error .error)

def optsOf (opts : Gen.Hs.V2SessionOpts) (cs : Gen.Dec.CipherSuite) : Opts :=
  { user := opts.sessionOpts.username, pass := opts.sessionOpts.password, kg := opts.kg, priv := opts.sessionOpts.maxPrivilegeLevel
    lookup := opts.privilegeLevelLookup, auth := cs.authenticationAlgorithm, integ := cs.integrityAlgorithm
    conf := cs.confidentialityAlgorithm }

def hashFnOf : UInt8 → Gen.Keys.HashFn
  | 1 => .sha1_New
  | 2 => .md5_New
  | _ => .sha256_New

/-- the `hash.Hash` of every in-session packet's AuthCode: HMAC-SHA1-96, HMAC-MD5-128, HMAC-SHA256-128 keyed with K1 -/
def hasherOf (i : UInt8) (k1 : Bytes) : Gen.Keys.HashVal :=
  if i == 1 then .truncated (.hmac .sha1_New k1) 12
  else if i == 2 then .hmac .md5_New k1
  else .truncated (.hmac .sha256_New k1) 16

def sessionOf (l r : Nat) (a i c : UInt8) (sik k1 k2 : Bytes) : Gen.Hs.V2Session :=
  { localID := UInt32.ofNat l, remoteID := UInt32.ofNat r, sik := sik, authenticationAlgorithm := a, integrityAlgorithm := i
    confidentialityAlgorithm := c
    additionalKeyMaterialGenerator := { hash := .hmac (hashFnOf a) sik }
    integrityAlgorithm_ := hasherOf i k1
    confidentialityLayer := k2.take 16 }

def goOutcome : HsRes → RF (Except String Gen.Hs.V2Session)
  | .ok l r a i c sik k1 k2 => .ok (.ok (sessionOf l r a i c sik k1 k2))
  | .incorrectPassword => .ok (.error "ErrIncorrectPassword")
  | .error => .err
  | .crashed => .panic

/-- `{ m with }`: the fields of the regenerated `ipmi.RAKPMessage1` that keygen's structure has, by name -/
def keys1 (m : Gen.Hs.RAKPMessage1) : Gen.Keys.RAKPMessage1 := { m with }
def keys2 (m : Gen.Hs.RAKPMessage2) : Gen.Keys.RAKPMessage2 := { m with }

open Bmc.Lemmas.GenKeys Bmc.Gen.Keys in
theorem keys2_is (g : Gen.Hs.RAKPMessage2) : Rakp2Is (keys2 g) (rk2View g) := ⟨rfl, rfl, rfl⟩

/-! Projections of the views, so that the views themselves can stay folded in the proofs. -/
section proj
variable (opts : Gen.Hs.V2SessionOpts) (cs : Gen.Dec.CipherSuite)
theorem optsOf_user : (optsOf opts cs).user = opts.sessionOpts.username := rfl
theorem optsOf_pass : (optsOf opts cs).pass = opts.sessionOpts.password := rfl
theorem optsOf_kg : (optsOf opts cs).kg = opts.kg := rfl
theorem optsOf_priv : (optsOf opts cs).priv = opts.sessionOpts.maxPrivilegeLevel := rfl
theorem optsOf_lookup : (optsOf opts cs).lookup = opts.privilegeLevelLookup := rfl
theorem optsOf_auth : (optsOf opts cs).auth = cs.authenticationAlgorithm := rfl
theorem optsOf_integ : (optsOf opts cs).integ = cs.integrityAlgorithm := rfl
theorem optsOf_conf : (optsOf opts cs).conf = cs.confidentialityAlgorithm := rfl
variable (g : Gen.Hs.OpenSessionRsp)
theorem osrView_tag : (osrView g).tag = g.tag := rfl
theorem osrView_status : (osrView g).status = g.status := rfl
theorem osrView_auth : (osrView g).auth = g.authenticationPayload.algorithm := rfl
theorem osrView_integ : (osrView g).integ = g.integrityPayload.algorithm := rfl
theorem osrView_conf : (osrView g).conf = g.confidentialityPayload.algorithm := rfl
theorem osrView_bmc : (osrView g).bmcSessionID = g.managedSystemSessionID.toNat := rfl
theorem osrView_console : (osrView g).consoleSessionID = g.remoteConsoleSessionID.toNat := rfl
variable (g2 : Gen.Hs.RAKPMessage2) (g4 : Gen.Hs.RAKPMessage4)
theorem rk2View_tag : (rk2View g2).tag = g2.tag := rfl
theorem rk2View_status : (rk2View g2).status = g2.status := rfl
theorem rk2View_authCode : (rk2View g2).authCode = g2.authCode := rfl
theorem rk4View_tag : (rk4View g4).tag = g4.tag := rfl
theorem rk4View_status : (rk4View g4).status = g4.status := rfl
theorem rk4View_icv : (rk4View g4).icv = g4.icv := rfl
end proj

section macs
open Bmc.Lemmas.GenKeys Bmc.Gen.Keys
variable (C : Ops)

theorem mac_AuthCode (p : AuthenticationAlgorithmParams) (key m : Bytes) :
    mac C (authenticationAlgorithmParams_AuthCode p key) m = some (C.hmac (hashAlg p.hashGen) key m) := rfl
theorem mac_SIK (p : AuthenticationAlgorithmParams) (key m : Bytes) :
    mac C (authenticationAlgorithmParams_SIK p key) m = some (C.hmac (hashAlg p.hashGen) key m) := rfl
theorem mac_K (p : AuthenticationAlgorithmParams) (key m : Bytes) :
    mac C (authenticationAlgorithmParams_K p key) m = some (C.hmac (hashAlg p.hashGen) key m) := rfl

/-- `g.K(n)` for the generator `newV2Session` builds (`hash: hashGenerator.K(sik)`): its `Sum` never panics -/
theorem kOf_mac (p : AuthenticationAlgorithmParams) (sik : Bytes) :
    GoHs.kOf (mac C) (authenticationAlgorithmParams_K p sik) K_input = fun n => C.hmac (hashAlg p.hashGen) sik (K_input n) := rfl

/-- in the shape of the model's check (`rakp4Checks`), hence `(!…) = true` -/
theorem hasher_table (i : UInt8) (K : Int → Bytes) :
    algorithmHasher i K = if (!(i == 1 || i == 2 || i == 4)) = true then none else some (hasherOf i (K 1)) := by
  unfold algorithmHasher hasherOf
  by_cases h0 : i = 0
  · subst h0; rfl
  by_cases h1 : i = 1
  · subst h1; rfl
  by_cases h2 : i = 2
  · subst h2; rfl
  by_cases h4 : i = 4
  · subst h4; rfl
  simp [h0, h1, h2, h4]

theorem table_some (a : UInt8) (h : HashAlg) (ha : authHash a = some h) :
    ∃ p, algorithmAuthenticationHashGenerator a = some p ∧ hashAlg p.hashGen = h ∧ p.hashGen = hashFnOf a := by
  rcases authHash_some ha with ⟨rfl, rfl⟩ | ⟨rfl, rfl⟩ | ⟨rfl, rfl⟩ <;> exact ⟨_, rfl, rfl, rfl⟩

end macs

/-! The model's three stages on the views, in the guard form of the regenerated code. The guards are stated on the fields of the regenerated structs, not obtained by rewriting the views' projections inside the
    model's conditions: a rewrite by a `rfl` lemma leaves the `Decidable` instance of the `if` as it was, and `if_pos` / `if_neg`
    for the regenerated guard would no longer match. -/
section stages

/-- the guard of the regenerated wrappers (error nil, the request's tag 0, status OK) is the model's: a reply, then tag, then status -/
theorem wrapperGuard {β : Type} (ok : Bool) (t st : UInt8) (x : Except HsRes β) :
    (if ok = true ∧ t = 0 ∧ st = 0 then x else .error .error) =
      if ok = true then (if (t != 0) = true then .error .error else if (st != 0) = true then .error .error else x)
      else .error .error := by
  cases ok <;> by_cases ht : t = 0 <;> by_cases hs : st = 0 <;> simp [ht, hs]

theorem openStage (opts : Gen.Hs.V2SessionOpts) (cs : Gen.Dec.CipherSuite) (g : Gen.Hs.OpenSessionRsp) (ok : Bool) :
    ((if ok = true then Except.ok (osrView g) else .error .error) >>= openChecks (optsOf opts cs)) =
      if ok = true ∧ g.tag = 0 ∧ g.status = 0 then
        if (g.authenticationPayload.algorithm != cs.authenticationAlgorithm || g.integrityPayload.algorithm != cs.integrityAlgorithm ||
            g.confidentialityPayload.algorithm != cs.confidentialityAlgorithm) = true then .error .error
        else .ok (osrView g)
      else .error .error := by
  rw [wrapperGuard]; cases ok <;> rfl

theorem rakp2Stage (C : Ops) (o : Opts) (rm : Bytes) (g1 : Gen.Hs.OpenSessionRsp) (g : Gen.Hs.RAKPMessage2) (ok : Bool) :
    ((if ok = true then Except.ok (rk2View g) else .error .error) >>= rakp2Checks C o rm (osrView g1)) =
      if ok = true ∧ g.tag = 0 ∧ g.status = 0 then
        match authHash g1.authenticationPayload.algorithm with
        | none => .error .error
        | some h =>
          if (!g.authCode == rakp2Code C h o rm (osrView g1) (rk2View g)) = true then .error .incorrectPassword
          else .ok (rk2View g, h)
      else .error .error := by
  rw [wrapperGuard]; cases ok <;> rfl

theorem rakp4Stage (C : Ops) (o : Opts) (rm : Bytes) (g1 : Gen.Hs.OpenSessionRsp) (rk2 : RAKP2) (h : HashAlg) (g : Gen.Hs.RAKPMessage4) (ok : Bool) :
    ((if ok = true then Except.ok (rk4View g) else .error .error) >>= rakp4Checks C o rm (osrView g1) rk2 h) =
      if ok = true ∧ g.tag = 0 ∧ g.status = 0 then
        if (!g.icv == icvOf C h g1.authenticationPayload.algorithm (sikOf C h o rm rk2) rm (osrView g1) rk2) = true then .error .error else
        if (!(g1.integrityPayload.algorithm == 1 || g1.integrityPayload.algorithm == 2 || g1.integrityPayload.algorithm == 4)) = true then
          .error .error else
        if (g1.confidentialityPayload.algorithm != 1) = true then .error .error else
        .ok (.ok g1.remoteConsoleSessionID.toNat g1.managedSystemSessionID.toNat g1.authenticationPayload.algorithm
          g1.integrityPayload.algorithm g1.confidentialityPayload.algorithm (sikOf C h o rm rk2)
          (C.hmac h (sikOf C h o rm rk2) (List.replicate 20 1)) (C.hmac h (sikOf C h o rm rk2) (List.replicate 20 2)))
      else .error .error := by
  rw [wrapperGuard]; cases ok <;> rfl

end stages

/-- what each regenerated wrapper is once its payload cell is unfolded (`Proofs/GenHs/Wrappers.lean`): error nil, then the tag, then
    the status, the state and the cell being the same on every path -/
theorem wrapperResult {σ γ ρ : Type} (ok : Bool) (t t' st : UInt8) (rsp : ρ) (s : σ) (c : γ) :
    let x : RF ρ × σ × γ :=
      bif ok then (if (t != t') = true then (.err, s, c) else if (st != 0) = true then (.err, s, c) else (.ok rsp, s, c)) else (.err, s, c)
    (x.1, x.2.1) = (if ok = true ∧ t = t' ∧ st = 0 then .ok rsp else .err, s) := by
  cases ok <;> by_cases ht : t = t' <;> by_cases hs : st = 0 <;> simp [ht, hs]

theorem len0_isEmpty (l : Bytes) : (l.length == 0) = l.isEmpty := by cases l <;> rfl
theorem ite_pure {σ α : Type} (c : Bool) (a b : α) :
    (if c = true then (pure a : M σ α) else pure b) = pure (if c = true then a else b) := by
  cases c <;> rfl
theorem mbind_apply {σ α β : Type} (x : M σ α) (f : α → M σ β) (s : σ) : M.bind x f s = M.cont f (x s) := rfl

/-- an exchange of the regenerated code that does not end with a response struct ends with "error": never a crash (a panic below
    `buildAndSendPayload` ends the program: outside the parameters), never something that looks like a session -/
theorem viewAnswers_error {σ : Type}
    (sendO : σ → Gen.Hs.OpenSessionReq → σ × Gen.Hs.OpenSessionRsp × Bool) (sendR1 : σ → Gen.Hs.RAKPMessage1 → σ × Gen.Hs.RAKPMessage2 × Bool)
    (sendR3 : σ → Gen.Hs.RAKPMessage3 → σ × Gen.Hs.RAKPMessage4 × Bool) (rr : σ → Nat → σ × Option Bytes) :
    (∀ s q e, ((viewAnswers sendO sendR1 sendR3 rr).openSession s q).2 = .error e → e = .error) ∧
    (∀ s q e, ((viewAnswers sendO sendR1 sendR3 rr).rakp1 s q).2 = .error e → e = .error) ∧
    (∀ s q e, ((viewAnswers sendO sendR1 sendR3 rr).rakp3 s q).2 = .error e → e = .error) := by
  refine ⟨fun s q e h => ?_, fun s q e h => ?_, fun s q e h => ?_⟩ <;> simp only [viewAnswers] at h <;> split at h <;> cases h <;> rfl

end Bmc.Lemmas.GenHs
