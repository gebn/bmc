import Bmc.Basic.GoDec
import Bmc.Wire.V2Session
/-! Bit-level facts used to identify the REGENERATED decoders (`Bmc/Gen/Dec.lean`, fixed-width Go arithmetic) with
    the hand-written models (`Bmc/Wire/*.lean`, arithmetic in ℕ). -/
namespace Bmc.Lemmas.GenDec
open Bmc

theorem nat_or_shl (a b : Nat) (i : Nat) (h : a < 2 ^ i) : a ||| b <<< i = a + 2 ^ i * b := by
  rw [Nat.or_comm, ← Nat.shiftLeft_add_eq_or_of_lt h, Nat.shiftLeft_eq]
  rw [Nat.mul_comm, Nat.add_comm]

/-- `uint16(a) | uint16(b)<<8` -/
theorem or_shl8 (a b : UInt8) : (a.toUInt16 ||| (b.toUInt16 <<< 8)).toNat = a.toNat + 256 * b.toNat := by
  have ha := a.toNat_lt
  have hb := b.toNat_lt
  simp only [UInt16.toNat_or, UInt16.toNat_shiftLeft, UInt8.toNat_toUInt16]
  simp
  have : b.toNat <<< 8 % 65536 = b.toNat <<< 8 := by
    apply Nat.mod_eq_of_lt; rw [Nat.shiftLeft_eq]; omega
  rw [this, nat_or_shl _ _ 8 ha]

theorem or_shl32 (a b c d : UInt8) :
    (a.toUInt32 ||| (b.toUInt32 <<< 8) ||| (c.toUInt32 <<< 16) ||| (d.toUInt32 <<< 24)).toNat
      = a.toNat + 256 * b.toNat + 65536 * c.toNat + 16777216 * d.toNat := by
  have ha := a.toNat_lt
  have hb := b.toNat_lt
  have hc := c.toNat_lt
  have hd := d.toNat_lt
  simp only [UInt32.toNat_or, UInt32.toNat_shiftLeft, UInt8.toNat_toUInt32]
  simp
  have h1 : b.toNat <<< 8 % 4294967296 = b.toNat <<< 8 := by
    apply Nat.mod_eq_of_lt; rw [Nat.shiftLeft_eq]; omega
  have h2 : c.toNat <<< 16 % 4294967296 = c.toNat <<< 16 := by
    apply Nat.mod_eq_of_lt; rw [Nat.shiftLeft_eq]; omega
  have h3 : d.toNat <<< 24 % 4294967296 = d.toNat <<< 24 := by
    apply Nat.mod_eq_of_lt; rw [Nat.shiftLeft_eq]; omega
  rw [h1, h2, h3, nat_or_shl _ _ 8 ha, nat_or_shl _ _ 16 (by omega), nat_or_shl _ _ 24 (by omega)]

/-- `uint32(a) | uint32(b)<<8 | uint32(c)<<16` (the three-byte enterprise numbers) -/
theorem or_shl24 (a b c : UInt8) :
    (a.toUInt32 ||| (b.toUInt32 <<< 8) ||| (c.toUInt32 <<< 16)).toNat = a.toNat + 256 * b.toNat + 65536 * c.toNat := by
  simpa using or_shl32 a b c 0

/-- `uint32(a) + uint32(b)<<8 + uint32(c)<<16` (the enterprise number of an OEM cipher suite record) -/
theorem add_shl24 (a b c : UInt8) :
    (a.toUInt32 + (b.toUInt32 <<< 8) + (c.toUInt32 <<< 16)).toNat = a.toNat + b.toNat * 256 + c.toNat * 65536 := by
  have ha := a.toNat_lt
  have hb := b.toNat_lt
  have hc := c.toNat_lt
  simp only [UInt32.toNat_add, UInt32.toNat_shiftLeft, UInt8.toNat_toUInt32]
  simp
  rw [Nat.shiftLeft_eq, Nat.shiftLeft_eq]; omega

theorem le16_toNat (b : Bytes) : (GoDec.le16 b).toNat = Wire.le16 b := or_shl8 _ _
theorem le32_toNat (b : Bytes) : (GoDec.le32 b).toNat = Wire.le32 b := or_shl32 _ _ _ _

end Bmc.Lemmas.GenDec
