import Bmc.Lemmas.SessionSpec
import Bmc.Proto.Metrics
/-! TIE between the instrumentation model (C18, abstract per-attempt outcomes) and the byte-level model of the
    in-session send loop: the abstract outcome of an attempt is a FUNCTION of the keys, the command and the bytes of the
    reply (`attOf`), and under that function two of the quantities the C18 theorems count — did the call succeed, how many
    times the retry closure ran — are exactly those of the byte-level loop (`expected (classify …)`, which `sendLoop_spec`
    shows the loop model — tied to the code byte for byte — computes). The third, the completion codes received
    (`Metrics.responsesOf`), is tied to the bytes by the definition of `attOf` alone; no theorem here speaks of it. -/
namespace Bmc.Proto
open Bmc Bmc.Wire Bmc.Crypto

/-- what the instrumentation sees of one attempt: `commandResponses` is incremented after the acceptance checks, for
    temporary and final codes alike; everything else that arrives is retried without being counted -/
def attOf (C : Ops) (k : Keys) (c : Cmd) : Outcome → Metrics.Att
  | .lost => .lost
  | .reply d =>
    match view (onReply C k.sess (GoSlice.ofBytes d)) with
    | (.message, some (v2, msg)) =>
      if accept k c v2 msg then
        (if isTemp msg.completionCode then .temp msg.completionCode.toNat else .final msg.completionCode.toNat)
      else .junk
    | _ => .junk

/-- no reply of the script crashes the chain: true of every script under a lawful cipher (`Proofs.C05.decodeChain_total`), a
    hypothesis here so that this file does not depend on the C05 proofs -/
def noCrash (C : Ops) (k : Keys) (c : Cmd) (script : List Outcome) : Prop :=
  ∀ d, Outcome.reply d ∈ script → classify C k c d ≠ .crash

theorem attOf_cases (C : Ops) (k : Keys) (c : Cmd) (d : Bytes) :
    classify C k c d = .crash ∨
    (∃ cc p, classify C k c d = .final cc p ∧ attOf C k c (.reply d) = .final cc.toNat) ∨
    (classify C k c d = .retry ∧ ((∃ t, attOf C k c (.reply d) = .temp t) ∨ attOf C k c (.reply d) = .junk)) := by
  simp only [classify, attOf]
  rcases view (onReply C k.sess (GoSlice.ofBytes d)) with ⟨_ | _ | _ | _, _ | ⟨v2, msg⟩⟩ <;> simp
  cases accept k c v2 msg <;> cases isTemp msg.completionCode <;> simp

/-- whether the command succeeds, and how often the retry closure ran (= datagrams the byte-level loop transmits, plus the one
    run in which the expired context was noticed when the script ran out), as the contract on the reply bytes says -/
theorem metrics_wire (C : Ops) (k : Keys) (c : Cmd) (script : List Outcome) (hn : noCrash C k c script) :
    Metrics.succeeds true (script.map (attOf C k c)) = (match (expected (classify C k c) script).2 with | .ok _ _ => true | _ => false) ∧
    Metrics.closureRuns true (script.map (attOf C k c)) =
      (expected (classify C k c) script).1 + (if (expected (classify C k c) script).2 = .ctxExpired then 1 else 0) := by
  induction script with
  | nil => exact ⟨rfl, rfl⟩
  | cons o rest ih =>
    obtain ⟨ih1, ih2⟩ := ih fun d hd => hn d (.tail _ hd)
    cases o with
    | lost => exact ⟨rfl, rfl⟩
    | reply d =>
      rw [List.map_cons, expected]
      rcases attOf_cases C k c d with hc | ⟨cc, p, hc, ha⟩ | ⟨hc, ⟨t, ha⟩ | ha⟩
      · exact absurd hc (hn d (.head _))
      · rw [hc, ha]; exact ⟨rfl, rfl⟩
      -- a retried reply, counted or not: one more run of the closure, then the rest of the script
      all_goals
        rw [hc, ha]
        dsimp only
        exact ⟨ih1, (congrArg (1 + ·) ih2).trans (by omega)⟩

end Bmc.Proto
