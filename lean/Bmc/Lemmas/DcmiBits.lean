import Bmc.Spec.Dcmi
import Bmc.Wire.Dcmi
import Bmc.Lemmas.LittleEndian
/-! Byte-level facts used by `Proofs/C07/Dcmi.lean` (finite checks over whole field ranges) and the list facts about
    the two variable-length layers. -/
namespace Bmc.Lemmas.Dcmi
open Bmc Bmc.Wire

/-- whichever the version, the header is three bytes, and the library's test for v1.0 looks at the first two -/
theorem header_spec (ver : Spec.DcmiVersion) :
    ∃ ma mi rev, ver.header = [ma, mi, rev] ∧ (ma == 1 && mi == 0) = ver.isV10 := by
  cases ver <;> exact ⟨_, _, _, rfl, rfl⟩

/-- the two length guards the five capabilities decoders begin with: three header bytes, then at least `k` body bytes -/
theorem short_body {α : Type} (b : Bytes) (k : Nat) (x : Except Unit α) (h : b.length < 3 + k) :
    (if b.length < 3 then .error () else if b.length - 3 < k then .error () else x) = .error () := by
  split
  · rfl
  · rw [if_pos (by omega)]

/-- `capN_bK`: byte K of the body of capabilities parameter N -/
theorem cap1_b0 : ∀ a b c d : Bool,
    ((Spec.bit a 3 ||| Spec.bit b 2 ||| Spec.bit c 1 ||| Spec.bit d 0) &&& 8 != 0) = a ∧
    ((Spec.bit a 3 ||| Spec.bit b 2 ||| Spec.bit c 1 ||| Spec.bit d 0) &&& 4 != 0) = b ∧
    ((Spec.bit a 3 ||| Spec.bit b 2 ||| Spec.bit c 1 ||| Spec.bit d 0) &&& 2 != 0) = c ∧
    ((Spec.bit a 3 ||| Spec.bit b 2 ||| Spec.bit c 1 ||| Spec.bit d 0) &&& 1 != 0) = d := by decide +kernel
theorem cap1_b1 : ∀ a : Bool, (Spec.bit a 0 &&& 1 != 0) = a := by decide
theorem cap1_b2_v10 : ∀ a b c d e f : Bool,
    ((Spec.bit a 5 ||| Spec.bit b 4 ||| Spec.bit c 3 ||| Spec.bit d 2 ||| Spec.bit e 1 ||| Spec.bit f 0) &&& 32 != 0) = a ∧
    ((Spec.bit a 5 ||| Spec.bit b 4 ||| Spec.bit c 3 ||| Spec.bit d 2 ||| Spec.bit e 1 ||| Spec.bit f 0) &&& 16 != 0) = b ∧
    ((Spec.bit a 5 ||| Spec.bit b 4 ||| Spec.bit c 3 ||| Spec.bit d 2 ||| Spec.bit e 1 ||| Spec.bit f 0) &&& 8 != 0) = c ∧
    ((Spec.bit a 5 ||| Spec.bit b 4 ||| Spec.bit c 3 ||| Spec.bit d 2 ||| Spec.bit e 1 ||| Spec.bit f 0) &&& 4 != 0) = d ∧
    ((Spec.bit a 5 ||| Spec.bit b 4 ||| Spec.bit c 3 ||| Spec.bit d 2 ||| Spec.bit e 1 ||| Spec.bit f 0) &&& 2 != 0) = e ∧
    ((Spec.bit a 5 ||| Spec.bit b 4 ||| Spec.bit c 3 ||| Spec.bit d 2 ||| Spec.bit e 1 ||| Spec.bit f 0) &&& 1 != 0) = f := by
  decide +kernel
/-- three flags in bits 2:0 (parameter 1 byte 3 from v1.1; parameter 2 bytes 3, 4 in v1.0) -/
theorem flags3 : ∀ d e f : Bool,
    ((Spec.bit d 2 ||| Spec.bit e 1 ||| Spec.bit f 0) &&& 4 != 0) = d ∧
    ((Spec.bit d 2 ||| Spec.bit e 1 ||| Spec.bit f 0) &&& 2 != 0) = e ∧
    ((Spec.bit d 2 ||| Spec.bit e 1 ||| Spec.bit f 0) &&& 1 != 0) = f := by decide +kernel

theorem cap2_b0_v10 : ∀ r : Bool, ∀ k : Nat, k < 16 →
    ((Spec.bit r 7 ||| UInt8.ofNat k) &&& 0x80 != 0) = r ∧ ((Spec.bit r 7 ||| UInt8.ofNat k) &&& 0xf).toNat = k := by
  decide +kernel
theorem cap2_b0 : ∀ r f l : Bool, ∀ k : Nat, k < 16 →
    ((Spec.bit r 7 ||| Spec.bit f 6 ||| Spec.bit l 5 ||| UInt8.ofNat k) &&& 0x80 != 0) = r ∧
    ((Spec.bit r 7 ||| Spec.bit f 6 ||| Spec.bit l 5 ||| UInt8.ofNat k) &&& 0x40 != 0) = f ∧
    ((Spec.bit r 7 ||| Spec.bit f 6 ||| Spec.bit l 5 ||| UInt8.ofNat k) &&& 0x20 != 0) = l ∧
    ((Spec.bit r 7 ||| Spec.bit f 6 ||| Spec.bit l 5 ||| UInt8.ofNat k) &&& 0xf).toNat = k := by
  decide +kernel

/-- PINNED READING, not the table's: 512 SEL entries with automatic rollover, sent as the 16-bit word 0x8200 least
    significant byte first (`00 82`), come out of the library's decoder as "no rollover, 33280 entries" -/
example :
    (R.ofExcept (DcmiCap2.decode ([1, 5, 2] ++ Spec.selAttrsLSFirst true false false 512 ++ [0, 0, 10]))).map
      (fun g => (g.selAutoRollover, g.selMaxEntries)) = R.ok (false, 33280) := by decide

theorem cap3_b0 : ∀ a : Nat, a < 128 → (UInt8.ofNat a <<< 1) >>> 1 = UInt8.ofNat a := by decide +kernel

theorem rollingNs_period (p : Spec.RollingPeriod) (h : p.wf) : rollingNs p.byte = p.ns := by
  obtain ⟨hu, hv⟩ := h
  unfold rollingNs Spec.RollingPeriod.byte Spec.RollingPeriod.ns Spec.rollingDurationNs
  rw [UInt8.toNat_ofNat_of_lt' (show 64 * p.unit + p.value < 256 by omega), show (64 * p.unit + p.value) % 64 = p.value by omega,
    show (64 * p.unit + p.value) / 64 = p.unit by omega]

theorem rollingNs_periods (ps : List Spec.RollingPeriod) (h : ∀ p ∈ ps, p.wf) :
    (ps.map Spec.RollingPeriod.byte).map rollingNs = ps.map Spec.RollingPeriod.ns := by
  rw [List.map_map]
  apply List.map_congr_left
  intro p hp
  exact rollingNs_period p (h p hp)

/-- the period bytes may be any byte: each of the 256 values is the byte of a well-formed period -/
theorem period_surjective : ∀ n : Nat, n < 256 →
    (⟨n / 64, n % 64⟩ : Spec.RollingPeriod).byte = UInt8.ofNat n ∧ (n / 64 < 4 ∧ n % 64 < 64) := by decide +kernel

theorem power_state : ∀ a : Bool, (Spec.bit a 6 &&& 0x40 != 0) = a := by decide

theorem flat_length (ids : List Nat) : (ids.flatMap Spec.le16).length = 2 * ids.length := by
  induction ids with
  | nil => rfl
  | cons a t ih => simp [List.flatMap_cons, Spec.le16, ih]; omega

theorem le16_flat (ids : List Nat) (h : ∀ r ∈ ids, r < 65536) (i : Nat) (hi : i < ids.length) :
    Wire.le16 ((ids.flatMap Spec.le16).drop (i * 2)) = ids[i] := by
  induction ids generalizing i with
  | nil => simp at hi
  | cons a t ih =>
    rw [List.flatMap_cons]
    cases i with
    | zero => rw [Nat.zero_mul, List.drop_zero, le16_spec a (h a List.mem_cons_self)]; rfl
    | succ j =>
      rw [Nat.succ_mul, drop_le16]
      exact ih (fun r hr => h r (List.mem_cons_of_mem _ hr)) j (Nat.lt_of_succ_lt_succ hi)

theorem recordIDs_roundtrip (ids : List Nat) (h : ∀ r ∈ ids, r < 65536) :
    (List.range ids.length).map (fun i => Wire.le16 ((ids.flatMap Spec.le16).drop (i * 2))) = ids := by
  apply List.ext_getElem
  · simp
  · intro i h1 h2
    simp only [List.getElem_map, List.getElem_range]
    exact le16_flat ids h i h2

end Bmc.Lemmas.Dcmi
