import Bmc.Proofs.GenLoops.BuildAndSend
import Bmc.Proofs.C09
/-! Histories: command after command on one session, each run by the translated `SendCommand`, which threads ITS OWN connection
    value (sequence counter, layer structs, buffer, log) from one call to the next. `generatedHistory` collects what the calls SEND,
    `generatedResults` what they RETURN. `Tied` / `sendCommand_tied` is the step against the hand model's `sendLoop`; the inductions
    are `generatedHistory_eq_tied` (the datagrams are `runHistory`'s), `generatedResults_eq_tied` (the results are `modelResults`)
    and `generatedResults_all` (what every call has, every result of a history has). The `HistoryCxx` modules of `Proofs/EndToEnd`
    state the properties; the definitions keep the namespace of those modules. -/
namespace Bmc.Proofs.EndToEnd
open Bmc Bmc.Wire Bmc.Crypto Bmc.Proto Bmc.GoOrch Bmc.GoLoops Bmc.Gen.Loops Bmc.Lemmas.GenLoops Bmc.Proofs.GenLoops Bmc.Proofs.C09

/-- (command, its name, its response layer, the IV draws, what happens to each transmission) = `(e.1, e.2.1, e.2.2.1, e.2.2.2.1,
    e.2.2.2.2)` -/
abbrev HistItem := Cmd × String × Opaque × List Bytes × List Outcome

def generatedHistory (C : Ops) (k : Keys) (bd : Bytes → Bool) : Conn Decoded → List HistItem → List Bytes
  | _, [] => []
  | K, (c, name, rsp, ivs, script) :: rest =>
    let r := V2Session_SendCommand (sessWorld C k c bd) script.length (sessConsts k) (cmdOf c name rsp)
              ({ ivs := ivs, script := script, sent := [] }, K)
    r.2.1.sent ++ generatedHistory C k bd r.2.2 rest

def generatedResults (C : Ops) (k : Keys) (bd : Bytes → Bool) : Conn Decoded → List HistItem → List (RF (UInt8 × Option GoErr))
  | _, [] => []
  | K, (c, name, rsp, ivs, script) :: rest =>
    let r := V2Session_SendCommand (sessWorld C k c bd) script.length (sessConsts k) (cmdOf c name rsp)
              ({ ivs := ivs, script := script, sent := [] }, K)
    r.1 :: generatedResults C k bd r.2.2 rest

def modelItem (e : HistItem) : Cmd × List Bytes × List Outcome := (e.1, e.2.2.2.1, e.2.2.2.2)

/-- what the calls of a history return, computed by the hand model -/
def modelResults (C : Ops) (bd : Bytes → Bool) : Sess → List HistItem → List (RF (UInt8 × Option GoErr))
  | _, [] => []
  | s, (c, _, rsp, ivs, script) :: rest =>
    let m := sendLoop C c s ivs script
    (match m.2.2 with
     | .ok cc p => .ok (cc, if rsp != 0 ∧ bd p = false then some .response else none)
     | .transportErr => .ok (0, some .transport)
     | .serializeErr => .ok (0, some .serialize)
     | .ctxExpired => .ok (0, some .ctx)
     | .crashed => .panic) :: modelResults C bd m.1 rest

/-- well-posed history item: the request serialises, the enterprise number fits its Go type, the context allows at least one
    outcome and there is an IV draw for every transmission -/
def HistItem.ok (e : HistItem) : Prop :=
  e.1.reqFails = false ∧ e.1.ent < 4294967296 ∧ e.2.2.2.2 ≠ [] ∧ e.2.2.2.2.length ≤ e.2.2.2.1.length

/-- well-posed history item, serialisation failures allowed -/
def HistItem.ok' (e : HistItem) : Prop :=
  e.1.ent < 4294967296 ∧ e.2.2.2.2 ≠ [] ∧ e.2.2.2.2.length ≤ e.2.2.2.1.length

theorem HistItem.ok.weaken {e : HistItem} (h : e.ok) : e.ok' := h.2

/-- the connection value `K` of the translated code stands for the session state `s` of the hand model (keys `k`) -/
structure Tied (k : Keys) (s : Sess) (K : Conn Decoded) : Prop where
  keys : s.keys = k
  inb : s.inbound < 4294967296
  loc : s.localID < 4294967296
  rem : s.remoteID < 4294967296
  cnt : K.inbound = UInt32.ofNat s.inbound

theorem Tied.fresh {k : Keys} (hL : k.localID < 4294967296) (hr : k.remoteID < 4294967296) {K : Conn Decoded} (hK : K.inbound = 0) :
    Tied k k.sess K := ⟨rfl, Nat.zero_lt_succ _, hL, hr, hK⟩

theorem sendCommand_tied (C : Ops) (bd : Bytes → Bool) {k : Keys} {s : Sess} {K : Conn Decoded} (t : Tied k s K)
    (c : Cmd) (name : String) (rsp : Opaque) (ivs : List Bytes) (script : List Outcome) (he : HistItem.ok' (c, name, rsp, ivs, script)) :
    let r := V2Session_SendCommand (sessWorld C k c bd) script.length (sessConsts k) (cmdOf c name rsp)
              ({ ivs := ivs, script := script, sent := [] }, K)
    let m := sendLoop C c s ivs script
    r.2.1.sent = m.2.1 ∧ Tied k m.1 r.2.2 ∧ r.1 = cmdResult rsp bd m.2.2 := by
  obtain ⟨rfl, hs, hL, hr, hK⟩ := t
  obtain ⟨hc, hne, hl⟩ := he
  obtain ⟨a1, a2, a3⟩ := V2Session_SendCommand_gen_eq C c hc s hs hL hr ivs script hne hl script.length (Nat.le_refl _) bd name rsp [] K hK
  obtain ⟨n, -, -, hk, hi⟩ := sendLoop_sent C c s hs ivs script hl
  have hk' : (sendLoop C c s ivs script).1.localID = s.localID ∧ (sendLoop C c s ivs script).1.remoteID = s.remoteID :=
    ⟨congrArg Keys.localID hk, congrArg Keys.remoteID hk⟩
  exact ⟨by simpa using a1, ⟨hk, hi ▸ Nat.mod_lt _ (by decide), hk'.1 ▸ hL, hk'.2 ▸ hr, by rw [← a2, UInt32.ofNat_toNat]⟩, a3⟩

theorem generatedResults_length (C : Ops) (k : Keys) (bd : Bytes → Bool) (h : List HistItem) :
    ∀ K : Conn Decoded, (generatedResults C k bd K h).length = h.length := by
  induction h with
  | nil => intro _; rfl
  | cons e rest ih => intro K; simp only [generatedResults, List.length_cons, ih]

section inductions
variable (C : Ops) (bd : Bytes → Bool) (h : List HistItem) (hok : ∀ e ∈ h, e.ok') {k : Keys} {s : Sess} {K : Conn Decoded} (t : Tied k s K)
include hok t

theorem generatedHistory_eq_tied : generatedHistory C k bd K h = (runHistory C s (h.map modelItem)).2 := by
  induction h generalizing s K with
  | nil => rfl
  | cons e rest ih =>
    obtain ⟨c, name, rsp, ivs, script⟩ := e
    obtain ⟨a1, t', _⟩ := sendCommand_tied C bd t c name rsp ivs script (hok _ (List.mem_cons_self ..))
    simp only [generatedHistory, List.map_cons, modelItem, runHistory]
    rw [a1, ih (fun e he => hok e (List.mem_cons_of_mem _ he)) t']

theorem generatedResults_eq_tied : generatedResults C k bd K h = modelResults C bd s h := by
  induction h generalizing s K with
  | nil => rfl
  | cons e rest ih =>
    obtain ⟨c, name, rsp, ivs, script⟩ := e
    obtain ⟨_, t', a3⟩ := sendCommand_tied C bd t c name rsp ivs script (hok _ (List.mem_cons_self ..))
    simp only [generatedResults, modelResults]
    rw [a3, ih (fun e he => hok e (List.mem_cons_of_mem _ he)) t']
    rfl

theorem generatedResults_all (Q : HistItem → RF (UInt8 × Option GoErr) → Prop)
    (hQ : ∀ c name rsp ivs script, (c, name, rsp, ivs, script) ∈ h → ∀ (s : Sess) (K : Conn Decoded), Tied k s K →
      Q (c, name, rsp, ivs, script) (V2Session_SendCommand (sessWorld C k c bd) script.length (sessConsts k) (cmdOf c name rsp)
            ({ ivs := ivs, script := script, sent := [] }, K)).1) :
    ∀ er ∈ h.zip (generatedResults C k bd K h), Q er.1 er.2 := by
  induction h generalizing s K with
  | nil => rw [generatedResults]; exact fun _ h => nomatch h
  | cons e rest ih =>
    obtain ⟨c, name, rsp, ivs, script⟩ := e
    obtain ⟨_, t', _⟩ := sendCommand_tied C bd t c name rsp ivs script (hok _ (List.mem_cons_self ..))
    intro er her
    rw [generatedResults, List.zip_cons_cons, List.mem_cons] at her
    rcases her with rfl | her
    · dsimp only   -- (a, b).1, (a, b).2: left to `exact`, the unifier unfolds the translated `SendCommand`
      exact hQ c name rsp ivs script (List.mem_cons_self ..) s K t
    · exact ih (fun e he => hok e (List.mem_cons_of_mem _ he)) t'
        (fun c name rsp ivs script he => hQ c name rsp ivs script (List.mem_cons_of_mem _ he)) er her

end inductions
end Bmc.Proofs.EndToEnd

#print axioms Bmc.Proofs.EndToEnd.HistItem.ok.weaken
#print axioms Bmc.Proofs.EndToEnd.sendCommand_tied
#print axioms Bmc.Proofs.EndToEnd.generatedHistory_eq_tied
#print axioms Bmc.Proofs.EndToEnd.generatedResults_eq_tied
#print axioms Bmc.Proofs.EndToEnd.generatedResults_all
