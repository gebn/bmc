import Bmc.Lemmas.GenLoops
import Bmc.Lemmas.SessionSpec
/-! The regenerated functions of `Gen/Loops.lean` as plain functions of the state, for ANY surroundings `W`.

    The three retry closures share their tail — hand the buffer to the transport, decode the reply into the layer structs, check
    the innermost layer type (`tailM`, the shared text with the closure's own return values and remaining checks as parameters) —
    and the two command closures the end of it (`respToM`: the `isResponseTo` check, then the response is counted and a temporary
    completion code retried). `recv` / `afterReply` / `accepted` say what these do, proved once; each closure is then its own head
    followed by `recv`. The two `SendCommand`s are the same text around their `buildAndSend…` (`sendCommandG`). Last, a command
    closure on a delivered reply in the model's terms, for any decoder and acceptance test (`ReplySeen`, `afterReply_seen`). -/
namespace Bmc.Lemmas.GenLoops
open Bmc Bmc.Proto Bmc.GoOrch Bmc.GoLoops Bmc.Gen.Loops

section closures
variable {σ τ β : Type} (W : World σ τ)

theorem serializeLayers_eq (opts : SerializeOptions) (args : List LayerArg) (w : σ) (K : Conn τ) {w1 : σ} {L1 : Layers} {buf : Bytes} {ok : Bool}
    (h : W.serializeLayers w opts K.layers args = (w1, L1, buf, ok)) :
    serializeLayers W opts args (w, K) = (.ok (if ok then none else some GoErr.serialize), (w1, { K with layers := L1, buffer := buf })) := by
  simp [serializeLayers, h]

theorem event_eq (e : Ev) (w : σ) (K : Conn τ) :
    (event e : M (σ × Conn τ) Unit) (w, K) = (.ok (), (w, { K with events := K.events ++ [e] })) := rfl

/-- the text the three closures share after their head: `fail` / `ret` build the closure's result from the Send's error / from a
    retryable error, `rest` is what the closure does once the innermost layer has the right type -/
def tailM (ty : LayerTy) (fail ret : Option GoErr → β) (rest : M (σ × Conn τ) β) : M (σ × Conn τ) β := do
  let k9 ← getCell
  let t10 ← transportSend W k9.buffer
  let response : Bytes := t10.1
  let err_1 : Option GoErr := t10.2
  if (err_1 != none) then pure (fail err_1) else
  let t13 ← decodeLayers W response
  let err_2 : Option GoErr := t13
  if (err_2 != none) then pure (ret err_2) else
  let k16 ← getCell
  let types : τ := k16.decoded
  let err_3 : Option GoErr := (innermostEquals W types ty)
  if (err_3 != none) then pure (ret err_3) else
  rest

def afterDecode (d : Bytes) (K : Conn τ) : Conn τ :=
  { K with layers := (W.decode K.layers K.decoded d).1, decoded := (W.decode K.layers K.decoded d).2.1 }

/-- `tailM` once the transport has delivered `d` -/
def afterReply (ty : LayerTy) (ret : Option GoErr → β) (rest : M (σ × Conn τ) β) (d : Bytes) (s : σ × Conn τ) : RF β × σ × Conn τ :=
  match (W.decode s.2.layers s.2.decoded d).2.2 with
  | .panic => (.panic, s.1, afterDecode W d s.2)
  | .err => (.ok (ret (some .decode)), s.1, afterDecode W d s.2)
  | .ok =>
    if W.innermostEquals (W.decode s.2.layers s.2.decoded d).2.1 ty then rest (s.1, afterDecode W d s.2)
    else (.ok (ret (some .innermost)), s.1, afterDecode W d s.2)

/-- `tailM` as a function of the state -/
def recv (ty : LayerTy) (fail ret : Option GoErr → β) (rest : M (σ × Conn τ) β) (s : σ × Conn τ) : RF β × σ × Conn τ :=
  match W.transportSend s.1 s.2.buffer with
  | (w1, none) => (.ok (fail (some .transport)), w1, s.2)
  | (w1, some d) => afterReply W ty ret rest d (w1, s.2)

theorem tailM_eq (ty : LayerTy) (fail ret : Option GoErr → β) (rest : M (σ × Conn τ) β) (s : σ × Conn τ) :
    tailM W ty fail ret rest s = recv W ty fail ret rest s := by
  obtain ⟨w, K⟩ := s
  simp only [tailM, recv, afterReply, afterDecode, transportSend, decodeLayers, innermostEquals, GoOrch.bind_apply,
    GoOrch.getCell_apply, GoOrch.cont_ok, callW_apply]
  rcases W.transportSend w K.buffer with ⟨w1, _ | d⟩
  · rfl
  · simp only [bne_self_eq_false, Bool.false_eq_true, bne_iff_ne, ne_eq, if_false, GoOrch.ite_apply', GoOrch.pure_apply, GoOrch.bind_apply,
      callP_apply]
    rcases W.decode K.layers K.decoded d with ⟨L, t, _ | _ | _⟩
    · simp only [GoOrch.cont_ok, not_true_eq_false, if_false, GoOrch.ite_apply', GoOrch.pure_apply, GoOrch.bind_apply, GoOrch.getCell_apply]
      cases W.innermostEquals t ty <;> rfl
    · rfl
    · rfl

/-- the acceptance checks of a command closure as a function of the state: `a` on the layer structs; an accepted response is
    counted under its completion code, and a temporary code is an error to retry -/
def accepted (a : Layers → Bool) (ret : Option GoErr → β) : M (σ × Conn τ) β := fun s =>
  if a s.2.layers then
    (.ok (ret (if Bmc.Gen.ccIsTemporary s.2.layers.message.completionCode.toBitVec then some .sentinel else none)), s.1,
     { s.2 with events := s.2.events ++ [Ev.inc "commandResponses" [Label.code s.2.layers.message.completionCode]] })
  else (.ok (ret (some .errorf)), s)

/-- the text the two command closures share once the innermost layer is the message layer -/
def respToM (c : ipmi_Command) (ret : Option GoErr → β) : M (σ × Conn τ) β := do
  let k19 ← getCell
  if (!(Bmc.Gen.isResponseTo (k19.layers.message.operation).function.toBitVec (k19.layers.message.operation).body.toBitVec (k19.layers.message.operation).enterprise.toBitVec (k19.layers.message.operation).command.toBitVec (c.operation).function.toBitVec (c.operation).body.toBitVec (c.operation).enterprise.toBitVec (c.operation).command.toBitVec)) then pure (ret (some GoErr.errorf)) else
  let k21 ← getCell
  let code : UInt8 := k21.layers.message.completionCode
  event (Ev.inc "commandResponses" [Label.code code])
  if (Bmc.Gen.ccIsTemporary code.toBitVec) then pure (ret (some GoErr.sentinel)) else
  pure (ret none)

theorem respToM_eq (c : ipmi_Command) (ret : Option GoErr → β) :
    (respToM c ret : M (σ × Conn τ) β) = accepted (respTo c) ret := by
  funext s
  simp only [respToM, accepted, GoOrch.bind_apply, GoOrch.getCell_apply, GoOrch.cont_ok, GoOrch.ite_apply', GoOrch.pure_apply]
  show (if (!respTo c s.2.layers) = true then _ else _) = _
  cases respTo c s.2.layers <;> cases Bmc.Gen.ccIsTemporary s.2.layers.message.completionCode.toBitVec <;> rfl

/-- the in-session closure checks the wrapper first: authenticated when an integrity algorithm was negotiated, this session's ID -/
def sessAcc (s : V2SessionConsts) (c : ipmi_Command) (L : Layers) : Bool :=
  !(s.integrityAlgorithm != 0 && !L.v2Session.authenticated) && L.v2Session.id == s.localID && respTo c L

def sessAccM (sc : V2SessionConsts) (c : ipmi_Command) (ret : Option GoErr → β) : M (σ × Conn τ) β := do
  let k22 ← getCell
  if ((sc.integrityAlgorithm != 0) && (!k22.layers.v2Session.authenticated)) then pure (ret (some GoErr.errorf)) else
  let k24 ← getCell
  if (k24.layers.v2Session.id != sc.localID) then pure (ret (some GoErr.errorf)) else
  respToM c ret

theorem sessAccM_eq (sc : V2SessionConsts) (c : ipmi_Command) (ret : Option GoErr → β) :
    (sessAccM sc c ret : M (σ × Conn τ) β) = accepted (sessAcc sc c) ret := by
  funext s
  simp only [sessAccM, respToM_eq, GoOrch.bind_apply, GoOrch.getCell_apply, GoOrch.cont_ok, GoOrch.ite_apply', GoOrch.pure_apply]
  unfold accepted sessAcc
  cases (sc.integrityAlgorithm != 0 && !s.2.layers.v2Session.authenticated) <;>
    cases h : (s.2.layers.v2Session.id == sc.localID) <;> simp [bne, h]

/-- **the payload closure** is the shared tail, nothing more -/
theorem plFunc1_eq (s : σ × Conn τ) :
    V2Sessionless_buildAndSendPayload_func1 W () s
      = recv W .ipmi_LayerTypeV2Session (fun e => ((), e)) (fun e => ((), e)) (pure ((), none)) s :=
  tailM_eq W _ _ _ _ s

/-- the head of the two command closures: `commandRetries.Inc()` unless this is the first attempt -/
theorem firstAttempt_eq (first : Bool) (w : σ) (K : Conn τ) :
    ((if first then (do let firstAttempt : Bool := false; pure firstAttempt)
      else (do event (Ev.inc "commandRetries" []); pure first)) : M (σ × Conn τ) Bool) (w, K)
      = (.ok false, (w, { K with events := K.events ++ pre first })) := by
  cases first
  · rfl
  · exact congrArg (fun l => (RF.ok false, w, { K with events := l })) (List.append_nil _).symm

/-- **the session-less command closure** = the retry count, then the shared tail with the acceptance check -/
theorem slFunc1_eq (c : ipmi_Command) (first : Bool) (w : σ) (K : Conn τ) :
    V2Sessionless_buildAndSendCommand_func1 W c first (w, K)
      = recv W .ipmi_LayerTypeMessage (fun e => (false, e)) (fun e => (false, e)) (accepted (respTo c) (fun e => (false, e)))
          (w, { K with events := K.events ++ pre first }) := by
  simp only [V2Sessionless_buildAndSendCommand_func1, GoOrch.bind_apply, firstAttempt_eq, GoOrch.cont_ok]
  show tailM W .ipmi_LayerTypeMessage (fun e => (false, e)) (fun e => (false, e)) (respToM c fun e => (false, e)) _ = _
  rw [tailM_eq, respToM_eq]

/-- the layer structs as the in-session closure assigns them at the head of every attempt (three struct literals and the
    sequence number) -/
def sessLit (s : V2SessionConsts) (c : ipmi_Command) (inb : UInt32) : Layers :=
  { rmcp := { version := 6, sequence := 255, class_ := 7 },
    v2Session := { payloadDescriptor := ipmi_PayloadDescriptorIPMI, encrypted := true, authenticated := true,
                   id := s.remoteID, sequence := inb + 1, integrityAlgorithm := s.integrityAlgorithm,
                   confidentialityLayerType := s.confidentialityLayer_LayerType },
    message := litMessage c }

/-- **the in-session closure** = the retry count, the struct literals and their serialisation — its failure is terminal: nothing
    sent, the counter untouched —, `Inbound++`, then the shared tail with a failed Send made terminal and the three acceptance
    checks -/
theorem sessFunc1_eq (s : V2SessionConsts) (c : ipmi_Command) (first : Bool) (te : Option GoErr) (w : σ) (K : Conn τ) :
    V2Session_buildAndSend_func1 W s c (first, te) (w, K) =
      (let r := W.serializeLayers w bmc_serializeOptions (sessLit s c K.inbound)
         [.rmcp, .v2Session, .iface s.confidentialityLayer, .message, bmc_serializableLayerOrEmpty c.request]
       let K1 : Conn τ := { K with events := K.events ++ pre first, layers := r.2.1, buffer := r.2.2.1 }
       if r.2.2.2 then
         recv W .ipmi_LayerTypeMessage (fun e => ((false, e), none)) (fun e => ((false, te), e))
           (accepted (sessAcc s c) (fun e => ((false, te), e))) (r.1, { K1 with inbound := K.inbound + 1 })
       else (.ok ((false, some .serialize), none), r.1, K1)) := by
  rcases hr : W.serializeLayers w bmc_serializeOptions (sessLit s c K.inbound)
    [.rmcp, .v2Session, .iface s.confidentialityLayer, .message, bmc_serializableLayerOrEmpty c.request] with ⟨w0, L1, buf, ok⟩
  simp only [V2Session_buildAndSend_func1, GoOrch.bind_apply, firstAttempt_eq, GoOrch.cont_ok, GoOrch.modifyCell_apply]
  rw [serializeLayers_eq W _ _ _ _ (by exact hr)]
  cases ok
  · rfl
  · simp only [if_true, bne_self_eq_false, Bool.false_eq_true, if_false, GoOrch.cont_ok, GoOrch.bind_apply, GoOrch.modifyCell_apply]
    show tailM W .ipmi_LayerTypeMessage (fun e => ((false, e), none)) (fun e => ((false, te), e))
      (sessAccM s c fun e => ((false, te), e)) _ = _
    rw [tailM_eq, sessAccM_eq]

end closures

section functions
variable {σ τ β : Type} (W : World σ τ)

/-- the error value a retry loop ends with (the captured variables dropped) -/
def errOf : RF (β × Option GoErr) → RF (Option GoErr)
  | .ok x => .ok x.2
  | r => castBad r

/-- the error value `buildAndSend` returns for how its retry loop ended: the loop's error, or else the captured `terminalErr` -/
def errOfS : RF ((Bool × Option GoErr) × Option GoErr) → RF (Option GoErr)
  | .ok x => .ok (if x.2 != none then x.2 else x.1.2)
  | r => castBad r

theorem buildAndSend_apply (fuel : Nat) (s : V2SessionConsts) (c : ipmi_Command) (st : σ × Conn τ) :
    V2Session_buildAndSend W fuel s c st =
      (errOfS (backoffRetry W.backoffWait fuel (V2Session_buildAndSend_func1 W s c) (true, none) st).1,
       (backoffRetry W.backoffWait fuel (V2Session_buildAndSend_func1 W s c) (true, none) st).2) := by
  simp only [V2Session_buildAndSend, GoOrch.bind_apply]
  rcases backoffRetry W.backoffWait fuel (V2Session_buildAndSend_func1 W s c) (true, none) st with ⟨⟨⟨_, _⟩, _ | _⟩ | _ | _ | _ | _, _⟩ <;> rfl

/-- the layer structs as `buildAndSendCommand` builds them -/
def slLit (c : ipmi_Command) : Layers :=
  { rmcp := { version := 6, sequence := 255, class_ := 7 }, v2Session := { payloadDescriptor := ipmi_PayloadDescriptorIPMI },
    message := litMessage c }

/-- `buildAndSendCommand`: the struct literals, ONE serialisation (its failure is returned at once), then the retry loop on the
    connection with the datagram in the buffer -/
theorem buildAndSendCommand_apply (fuel : Nat) (c : ipmi_Command) (w : σ) (K : Conn τ) :
    V2Sessionless_buildAndSendCommand W fuel c (w, K) =
      (let s := W.serializeLayers w bmc_serializeOptions (slLit c) [.rmcp, .v2Session, .message, bmc_serializableLayerOrEmpty c.request]
       let K1 : Conn τ := { K with layers := s.2.1, buffer := s.2.2.1 }
       if s.2.2.2 then
         let r := backoffRetry W.backoffWait fuel (V2Sessionless_buildAndSendCommand_func1 W c) true (s.1, K1)
         (errOf r.1, r.2)
       else (.ok (some .serialize), s.1, K1)) := by
  rcases hs : W.serializeLayers w bmc_serializeOptions (slLit c) [.rmcp, .v2Session, .message, bmc_serializableLayerOrEmpty c.request]
    with ⟨w0, L1, buf, ok⟩
  simp only [V2Sessionless_buildAndSendCommand, GoOrch.bind_apply, GoOrch.modifyCell_apply, GoOrch.cont_ok]
  rw [serializeLayers_eq W _ _ _ _ (by exact hs)]
  cases ok
  · rfl
  · simp only [if_true, bne_self_eq_false, Bool.false_eq_true, if_false, GoOrch.cont_ok, GoOrch.bind_apply]
    rcases backoffRetry W.backoffWait fuel (V2Sessionless_buildAndSendCommand_func1 W c) true (w0, _) with ⟨_ | _ | _ | _ | _, _⟩ <;> rfl

/-- the layer structs as `buildAndSendPayload` builds them (the message layer is not mentioned: it keeps what it held) -/
def plLit (p : ipmi_Payload) (L : Layers) : Layers :=
  { L with rmcp := { version := 6, sequence := 255, class_ := 7 }, v2Session := { payloadDescriptor := p.descriptor } }

/-- `buildAndSendPayload`: the same, and the wrapper's payload of the reply that ended the loop goes to the response layer -/
theorem buildAndSendPayload_apply (fuel : Nat) (p : ipmi_Payload) (w : σ) (K : Conn τ) :
    V2Sessionless_buildAndSendPayload W fuel p (w, K) =
      (let s := W.serializeLayers w bmc_serializeOptions (plLit p K.layers) [.rmcp, .v2Session, .iface p.request]
       let K1 : Conn τ := { K with layers := s.2.1, buffer := s.2.2.1 }
       if s.2.2.2 then
         let r := backoffRetry W.backoffWait fuel (V2Sessionless_buildAndSendPayload_func1 W) () (s.1, K1)
         (match r.1 with
          | .ok ((), none) => .ok (decodeFromBytes W p.response r.2.2.layers.v2Session.payload)
          | x => errOf x, r.2)
       else (.ok (some .serialize), s.1, K1)) := by
  rcases hs : W.serializeLayers w bmc_serializeOptions (plLit p K.layers) [.rmcp, .v2Session, .iface p.request] with ⟨w0, L1, buf, ok⟩
  simp only [V2Sessionless_buildAndSendPayload, GoOrch.bind_apply, GoOrch.modifyCell_apply, GoOrch.cont_ok]
  rw [serializeLayers_eq W _ _ _ _ (by exact hs)]
  cases ok
  · rfl
  · simp only [if_true, bne_self_eq_false, Bool.false_eq_true, if_false, GoOrch.cont_ok, GoOrch.bind_apply]
    rcases backoffRetry W.backoffWait fuel (V2Sessionless_buildAndSendPayload_func1 W) () (w0, _) with ⟨⟨_, _ | _⟩ | _ | _ | _ | _, _⟩ <;> rfl

end functions

section sendCommand
variable {σ τ : Type} (W : World σ τ)

/-- the body both `SendCommand`s share; `bs` = the call of `buildAndSend` / `buildAndSendCommand` -/
def sendCommandG (c : ipmi_Command) (bs : M (σ × Conn τ) (Option GoErr)) : M (σ × Conn τ) (UInt8 × Option GoErr) := do
  event (Ev.timerStart "commandDuration")
  deferred (event (Ev.timerObserve "commandDuration")) (do
    event (Ev.inc "commandAttempts" [Label.str c.name])
    let t2 ← bs
    let err : Option GoErr := t2
    if (err != none) then (do
      event (Ev.inc "commandFailures" [Label.str c.name])
      pure ((0 : UInt8), err)) else
    let k7 ← getCell
    let code : UInt8 := k7.layers.message.completionCode
    let j9 ← (if (c.response != 0) then (do
        let k10 ← getCell
        let err_1 : Option GoErr := (decodeFromBytes W c.response k10.layers.message.payload)
        if (err_1 != none) then (do
          event (Ev.inc "commandFailures" [Label.str c.name])
          pure (some ((code, err_1)))) else
        pure none) else pure none)
    match j9 with
    | some v => pure v
    | none => (do
      pure (code, none)))

theorem V2Session_SendCommand_eq (fuel : Nat) (s : V2SessionConsts) (c : ipmi_Command) :
    V2Session_SendCommand W fuel s c = sendCommandG W c (V2Session_buildAndSend W fuel s c) := rfl
theorem V2Sessionless_SendCommand_eq (fuel : Nat) (c : ipmi_Command) :
    V2Sessionless_SendCommand W fuel c = sendCommandG W c (V2Sessionless_buildAndSendCommand W fuel c) := rfl

/-- the connection `buildAndSend…` is called on: the timer started and the attempt counted -/
def started (c : ipmi_Command) (K : Conn τ) : Conn τ :=
  { K with events := K.events ++ [Ev.timerStart "commandDuration"] ++ [Ev.inc "commandAttempts" [Label.str c.name]] }

/-- what `SendCommand` returns for what its `buildAndSend…` returned and left in the message layer: `(0, the error)`, or the
    completion code with what the command's response layer (if it has one) says of the payload -/
def sendCommandRes (c : ipmi_Command) (r : RF (Option GoErr)) (L : Layers) : RF (UInt8 × Option GoErr) :=
  match r with
  | .ok none => .ok (L.message.completionCode, if c.response != 0 then decodeFromBytes W c.response L.message.payload else none)
  | .ok (some e) => .ok (0, some e)
  | r => castBad r

/-- the log when `SendCommand` returns `r`: `commandFailures` is incremented exactly when it returns an error; the deferred timer
    observation comes last -/
def logged (c : ipmi_Command) (l : List Ev) : RF (UInt8 × Option GoErr) → List Ev
  | .ok (_, some _) => l ++ [Ev.inc "commandFailures" [Label.str c.name]] ++ [Ev.timerObserve "commandDuration"]
  | _ => l ++ [Ev.timerObserve "commandDuration"]

theorem sendCommandG_apply (c : ipmi_Command) (bs : M (σ × Conn τ) (Option GoErr)) (w : σ) (K : Conn τ) :
    sendCommandG W c bs (w, K) =
      (let b := bs (w, started c K)
       let r := sendCommandRes W c b.1 b.2.2.layers
       (r, b.2.1, { b.2.2 with events := logged c b.2.2.events r })) := by
  simp only [sendCommandG, started, sendCommandRes, GoOrch.bind_apply, event_eq, GoOrch.cont_ok, deferred_apply]
  rcases bs (w, _) with ⟨⟨_ | e⟩ | _ | _ | _ | _, w', K'⟩
  case ok.none =>
    cases (c.response != 0)
    · rfl
    · simp only [decodeFromBytes, bne_iff_ne, ne_eq, not_true_eq_false, if_true, if_false, GoOrch.cont_ok, GoOrch.bind_apply,
        GoOrch.getCell_apply, GoOrch.ite_apply', GoOrch.pure_apply, event_eq]
      cases W.decodeFromBytes c.response K'.layers.message.payload <;> rfl
  all_goals rfl

theorem evsApply_logged (m0 : Metrics.M) (c : ipmi_Command) (l : List Ev) (r : RF (UInt8 × Option GoErr)) :
    evsApply m0 (logged c l r) = evsApply (evsApply m0 l)
      (match r with | .ok (_, some _) => [Ev.inc "commandFailures" [Label.str c.name]] | _ => []) := by
  unfold logged; split <;> simp only [evsApply_append, evsApply_cons, evsApply_nil, evApply_timerObserve]

section consequences
variable {σ : Type} (W : World σ Decoded) (c : Cmd) (name : String) (rsp : Opaque) (bd : Bytes → Bool)
  (hdb : ∀ p, W.decodeFromBytes rsp p = bd p) (bs : M (σ × Conn Decoded) (Option GoErr)) (w : σ) (K : Conn Decoded)
include hdb

/-- **what `SendCommand` returns**: `cmdResult` of what its `buildAndSend…` returned, read as a result of the hand model (`resOf`);
    the surroundings and the counter are the call's -/
theorem sendCommandG_result (res : Res)
    (h : resOf (bs (w, started (cmdOf c name rsp) K)).1 (bs (w, started (cmdOf c name rsp) K)).2.2 = some res) :
    (sendCommandG W (cmdOf c name rsp) bs (w, K)).2.1 = (bs (w, started (cmdOf c name rsp) K)).2.1 ∧
    (sendCommandG W (cmdOf c name rsp) bs (w, K)).2.2.inbound = (bs (w, started (cmdOf c name rsp) K)).2.2.inbound ∧
    (sendCommandG W (cmdOf c name rsp) bs (w, K)).1 =
      cmdResult rsp bd res := by
  rw [sendCommandG_apply]
  refine ⟨rfl, rfl, ?_⟩
  generalize bs (w, started (cmdOf c name rsp) K) = b at h ⊢
  obtain ⟨⟨_ | e⟩ | _ | _ | _ | _, w', K'⟩ := b
  case ok.none =>
    cases h
    show RF.ok (_, if (rsp != 0) = true then if W.decodeFromBytes rsp _ = true then none else some GoErr.response else none)
      = RF.ok (_, if (rsp != 0) = true ∧ bd K'.layers.message.payload = false then some GoErr.response else none)
    rw [hdb]
    cases (rsp != 0) <;> cases bd K'.layers.message.payload <;> rfl
  case ok.some => cases e <;> cases h <;> rfl
  all_goals cases h <;> rfl

/-- **what `SendCommand` logs**, from what its `buildAndSend…` logs: the attempt is counted first, the loop's events follow, and
    `commandFailures` is incremented exactly when the loop failed or the response layer (if the command has one) rejected the
    payload left in the message layer. (The two timer events do not touch the counters of the instrumentation model.) -/
theorem sendCommandG_events (inSess : Bool) (m0 : Metrics.M) (atts : List Metrics.Att)
    (h : let b := bs (w, started (cmdOf c name rsp) K)
         let l := Metrics.loop inSess (evsApply m0 (started (cmdOf c name rsp) K).events) true atts
         evsApply m0 b.2.2.events = l.1 ∧ (b.1 = .ok none ↔ l.2 = true) ∧ ∃ e, b.1 = .ok e) :
    evsApply m0 (sendCommandG W (cmdOf c name rsp) bs (w, K)).2.2.events
      = Metrics.command (evsApply m0 K.events) name inSess
          (rsp == 0 || bd (sendCommandG W (cmdOf c name rsp) bs (w, K)).2.2.layers.message.payload) atts := by
  have hstart : evsApply m0 (started (cmdOf c name rsp) K).events
      = { evsApply m0 K.events with cmdAttempts := Metrics.bump name (evsApply m0 K.events).cmdAttempts } := by
    simp only [started, evsApply_append, evsApply_cons, evsApply_nil, evApply_attempts]; rfl
  rw [sendCommandG_apply, Metrics.command]
  rw [hstart] at h
  generalize bs (w, started (cmdOf c name rsp) K) = b at h ⊢
  generalize Metrics.loop inSess _ true atts = l at h ⊢
  obtain ⟨r, w', K'⟩ := b
  obtain ⟨lm, lok⟩ := l
  obtain ⟨rfl, h2, e, rfl⟩ : evsApply m0 K'.events = lm ∧ (r = .ok none ↔ lok = true) ∧ ∃ e, r = .ok e := h
  dsimp only
  rw [evsApply_logged]
  cases e with
  | some err =>
    cases lok
    · simp only [sendCommandRes, evsApply_cons, evsApply_nil, evApply_failures]; rfl
    · exact nomatch h2.mpr rfl
  | none =>
    cases h2.mp rfl
    simp only [sendCommandRes, decodeFromBytes, show (cmdOf c name rsp).response = rsp from rfl, hdb, bne]
    cases (rsp == 0) <;> cases bd K'.layers.message.payload <;>
      simp only [Bool.not_false, Bool.not_true, ↓reduceIte, Bool.false_eq_true, evsApply_cons, evsApply_nil, evApply_failures,
        Bool.or_self, Bool.or_true, Bool.or_false, Bool.and_false, Bool.and_self] <;> rfl

end consequences
end sendCommand

section reply
variable {σ β : Type} (W : World σ Decoded) (a : Layers → Bool) (ret : Option GoErr → β)

/-- what the connection's decoder made of a reply, starting from the layer structs `L`, beside how the contract (`Class`) and the
    instrumentation (`Metrics.Att`) see that reply when the closure's acceptance test is `a`: a layer panicked; a layer returned an
    error; the chain ended before the message layer; or it left `msgOf msg` in the message layer, and then the model's acceptance
    `acc` (what `a` says of those layer structs) and the completion code decide -/
inductive ReplySeen (L : Layers) : Layers × Decoded × DecodeOutcome → Class → Metrics.Att → Prop
  | crash : ReplySeen L (L, .crash, .panic) .crash .junk
  | fail : ReplySeen L (L, .fail, .err) .retry .junk
  | notMessage : ReplySeen L (L, .notMessage, .ok) .retry .junk
  | message (L' : Layers) (msg : Wire.Message) (acc : Bool) (hm : L'.message = msgOf msg) (ha : a L' = acc) :
      ReplySeen L (L', .message, .ok)
        (if acc && !isTemp msg.completionCode then .final msg.completionCode msg.payload else .retry)
        (if acc then (if isTemp msg.completionCode then .temp msg.completionCode.toNat else .final msg.completionCode.toNat) else .junk)

/-- how the run of a command closure ends on a reply, as all three see it: the closure (`r`; what it leaves in the message layer
    and, from the log `evs`, in the log of `K'`), the contract (`cls`) and the instrumentation (`att`) -/
def ReplyEnds (evs : List Ev) (cls : Class) (att : Metrics.Att) (r : RF β) (K' : Conn Decoded) : Prop :=
  (cls = .crash ∧ r = .panic) ∨
  (∃ cc p, cls = .final cc p ∧ att = .final cc.toNat ∧ r = .ok (ret none) ∧
     K'.layers.message.completionCode = cc ∧ K'.layers.message.payload = p ∧
     K'.events = evs ++ [Ev.inc "commandResponses" [Label.code cc]]) ∨
  (∃ e, cls = .retry ∧ r = .ok (ret (some e)) ∧
     ((∃ cc : UInt8, att = .temp cc.toNat ∧ K'.events = evs ++ [Ev.inc "commandResponses" [Label.code cc]]) ∨
      (att = .junk ∧ K'.events = evs)))

/-- **a command closure once the transport has delivered `d`**: after the decoder and the innermost-layer check, the session-less
    and the in-session closure are the same program `accepted a ret`; only the decoder and the acceptance test differ (`ReplySeen`) -/
theorem afterReply_seen (hi : ∀ t, W.innermostEquals t .ipmi_LayerTypeMessage = (t == .message)) (d : Bytes) (w : σ) (K : Conn Decoded)
    {cls : Class} {att : Metrics.Att} (h : ReplySeen a K.layers (W.decode K.layers K.decoded d) cls att) :
    ∃ r K', afterReply W .ipmi_LayerTypeMessage ret (accepted a ret) d (w, K) = (r, w, K') ∧
      K'.inbound = K.inbound ∧ K'.buffer = K.buffer ∧ ReplyEnds ret K.events cls att r K' := by
  rcases hx : W.decode K.layers K.decoded d with ⟨L1, t, o⟩
  rw [hx] at h
  simp only [afterReply, afterDecode, accepted, hi, hx]
  cases h with
  | crash => exact ⟨_, _, rfl, rfl, rfl, .inl ⟨rfl, rfl⟩⟩
  | fail | notMessage => exact ⟨_, _, rfl, rfl, rfl, .inr (.inr ⟨_, rfl, rfl, .inr ⟨rfl, rfl⟩⟩)⟩
  | message _ msg acc hm ha =>
    obtain ⟨_, _, m⟩ := L1
    obtain rfl : m = msgOf msg := hm
    simp only [beq_self_eq_true, if_true, ha, msgOf_cc, ccIsTemporary_eq]
    cases acc
    · exact ⟨_, _, rfl, rfl, rfl, .inr (.inr ⟨_, rfl, rfl, .inr ⟨rfl, rfl⟩⟩)⟩
    cases isTemp msg.completionCode
    · exact ⟨_, _, rfl, rfl, rfl, .inr (.inl ⟨_, _, rfl, rfl, rfl, rfl, rfl, rfl⟩)⟩
    · exact ⟨_, _, rfl, rfl, rfl, .inr (.inr ⟨_, rfl, rfl, .inl ⟨_, rfl, rfl⟩⟩)⟩

/-- … and what `Proto.Metrics.loop` makes of that attempt (`pre first`: the closure's head has counted the retry): a final answer
    ends the loop on the counters of the log, anything else goes on from them -/
theorem ReplyEnds.metrics {evs : List Ev} {first : Bool} {cls : Class} {att : Metrics.Att} {r : RF β} {K' : Conn Decoded}
    (h : ReplyEnds ret (evs ++ pre first) cls att r K') (hn : cls ≠ .crash) (inSess : Bool) (m0 : Metrics.M) (rest : List Metrics.Att) :
    (r = .ok (ret none) ∧ Metrics.loop inSess (evsApply m0 evs) first (att :: rest) = (evsApply m0 K'.events, true)) ∨
    (∃ e, r = .ok (ret (some e)) ∧
      Metrics.loop inSess (evsApply m0 evs) first (att :: rest) = Metrics.loop inSess (evsApply m0 K'.events) false rest) := by
  rcases h with ⟨hcl, _⟩ | ⟨cc, p, _, rfl, rfl, _, _, he⟩ | ⟨e, _, rfl, ⟨cc, rfl, he⟩ | ⟨rfl, he⟩⟩
  · exact absurd hcl hn
  · refine .inl ⟨rfl, ?_⟩
    simp only [he, evsApply_append, evsApply_pre, evsApply_cons, evsApply_nil, evApply_responses, Metrics.loop]
  all_goals
    refine .inr ⟨e, rfl, ?_⟩
    simp only [he, evsApply_append, evsApply_pre, evsApply_cons, evsApply_nil, evApply_responses, Metrics.loop]

end reply
end Bmc.Lemmas.GenLoops
