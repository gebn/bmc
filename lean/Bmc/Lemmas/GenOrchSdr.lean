import Bmc.Gen.Orch
import Bmc.Lemmas.GenOrch
import Bmc.Lemmas.SdrWalkLog
import Bmc.Proofs.GenDec.SDR
import Bmc.Proofs.GenDec.FullSensorRecord
/-! Helper definitions and lemmas for `Proofs/GenOrch/WalkSDRs.lean` / `RetrieveSDRRepository.lean` that do not depend on
    the BODIES of the regenerated functions: how the hand model's raw answer function (`Proto.SdrWalk.Answer σ`: completion
    code + response data) is turned into the typed answer functions the regenerated definitions take (through the hand
    model's `call` and the layer decoders), and the Go map `SDRRepository` against the hand model's. -/
namespace Bmc.Lemmas.GenOrchSdr
open Bmc Bmc.GoOrch Bmc.Gen.Orch Bmc.Proto Bmc.Proto.SdrWalk Bmc.Lemmas.GenOrch

abbrev GRepo := List (UInt16 × Gen.Dec.FullSensorRecord)
/-- the Go map `SDRRepository` as the translation keeps it, read as the hand model's -/
def viewRepo (g : GRepo) : SDRRepository := g.map fun p => (p.1.toNat, Gen.Dec.FullSensorRecord.toModel p.2)

/-- the hand model's outcome in the monad of the translation -/
def ofRes {α : Type} : Res α → RF α
  | .ok a => .ok a
  | .err => .err
  | .outOfFuel => .outOfFuel

theorem map_eq_ofRes {α β : Type} {f : α → β} {r : RF α} {h : Res β} (k : r.map f = ofRes h) :
    (∃ a, r = .ok a ∧ h = .ok (f a)) ∨ (r = .err ∧ h = .err) ∨ (r = .outOfFuel ∧ h = .outOfFuel) := by
  cases r <;> cases h <;> simp only [RF.map, ofRes, reduceCtorEq, RF.ok.injEq] at k
  · exact Or.inl ⟨_, rfl, by rw [k]⟩
  · exact Or.inr (Or.inl ⟨rfl, rfl⟩)
  · exact Or.inr (Or.inr ⟨rfl, rfl⟩)

def reqOf (q : GetSDRReq) : Req := .getSDR q.reservationID.toNat q.recordID.toNat q.offset.toNat q.length.toNat

def rspOf (w : Wire.GetSDRRsp) : GetSDRRsp := { payload := w.payload, next := UInt16.ofNat w.next }

/-- the typed answer function for Get SDR of a raw answer function: `SendCommand` + `ValidateResponse` + the response
    layer are the hand model's `call`; `junk` = what the response struct holds after a FAILED command (anything) -/
def sendOf {σ : Type} (a : Answer σ) (junk : σ → GetSDRReq → GetSDRRsp) : σ → GetSDRReq → σ × GetSDRRsp × Bool := fun s q =>
  ((SdrWalk.call a Wire.GetSDRRsp.decode s (reqOf q)).1,
   ((SdrWalk.call a Wire.GetSDRRsp.decode s (reqOf q)).2.map rspOf).getD (junk s q),
   (SdrWalk.call a Wire.GetSDRRsp.decode s (reqOf q)).2.isSome)

/-- `s.ReserveSDRRepository(ctx)` -/
def reserveOf {σ : Type} (a : Answer σ) : σ → σ × Option ReserveSDRRepositoryRsp := fun s =>
  ((SdrWalk.call a Wire.ReserveRsp.decode s .reserve).1,
   (SdrWalk.call a Wire.ReserveRsp.decode s .reserve).2.map fun w => { reservationID := UInt16.ofNat w.reservationID })

/-- what a call hands back fits the 16-bit fields of the response structs -/
theorem call_getSDR_next_lt {σ : Type} {a : Answer σ} {s s1 : σ} {q : Req} {w : Wire.GetSDRRsp}
    (h : SdrWalk.call a Wire.GetSDRRsp.decode s q = (s1, some w)) : w.next < 65536 := by
  obtain ⟨r, _, _, hd⟩ := Lemmas.SdrWalk.call_some a _ s q w (by rw [h])
  unfold Wire.GetSDRRsp.decode Wire.GetSDRRsp.decodeGo at hd
  by_cases hlt : (GoSlice.ofBytes r.data).len < 2
  · rw [if_pos hlt] at hd; cases hd
  · have hn : 2 ≤ (GoSlice.ofBytes r.data).len := Nat.le_of_not_lt hlt
    simp only [if_neg hlt, GoSlice.slice_of_le hn, GoSlice.sliceFrom_of_le hn, Nat.reduceLeDiff, Nat.le_refl, R.bind_ok,
      R.pure_eq, R.ok.injEq] at hd
    rw [← hd]; exact Wire.le16_lt _

theorem call_reserve_lt {σ : Type} {a : Answer σ} {s s1 : σ} {w : Wire.ReserveRsp}
    (h : SdrWalk.call a Wire.ReserveRsp.decode s .reserve = (s1, some w)) : w.reservationID < 65536 := by
  obtain ⟨r, _, _, hd⟩ := Lemmas.SdrWalk.call_some a _ s _ w (by rw [h])
  unfold Wire.ReserveRsp.decode Wire.ReserveRsp.decodeGo at hd
  by_cases hlt : (GoSlice.ofBytes r.data).len < 2
  · rw [if_pos hlt] at hd; cases hd
  · have hn : 2 ≤ (GoSlice.ofBytes r.data).len := Nat.le_of_not_lt hlt
    simp only [if_neg hlt, GoSlice.slice_of_le hn, Nat.reduceLeDiff, Nat.le_refl, R.bind_ok, R.pure_eq, R.ok.injEq] at hd
    rw [← hd]; exact Wire.le16_lt _

theorem viewRepo_mapSet (g : GRepo) (k : UInt16) (v : Gen.Dec.FullSensorRecord) :
    viewRepo (mapSet g k v) = SdrWalk.insert (viewRepo g) k.toNat (Gen.Dec.FullSensorRecord.toModel v) := by
  unfold viewRepo mapSet SdrWalk.insert
  simp only [List.map_append, List.map_cons, List.map_nil, List.filter_map]
  congr 2
  apply List.filter_congr
  intro p _
  by_cases h : p.1 = k
  · simp [Function.comp, h]
  · have : p.1.toNat ≠ k.toNat := fun hh => h (UInt16.toNat_inj.mp hh)
    simp [Function.comp, h, this]

theorem header_decode (payload : Bytes) : Wire.SDRHeader.decodeGo {} (GoSlice.ofBytes payload)
    = (Gen.Dec.SDR.decodeGo {} (GoSlice.ofBytes payload)).map Gen.Dec.SDR.toModel :=
  (Proofs.GenDec.SDR_gen_eq {} _).symm

theorem fsr_decode (payload : Bytes) : Wire.FullSensorRecord.decodeGo {} (GoSlice.ofBytes payload)
    = (Gen.Dec.FullSensorRecord.decodeGo {} (GoSlice.ofBytes payload)).map Gen.Dec.FullSensorRecord.toModel := by
  rw [Proofs.GenDec.FullSensorRecord_gen_eq, show Gen.Dec.FullSensorRecord.toModel {} = {} by decide]

end Bmc.Lemmas.GenOrchSdr
