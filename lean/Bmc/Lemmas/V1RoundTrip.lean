import Bmc.Wire.C08Encode
import Bmc.Lemmas.LittleEndian
/-! Round trip of the v1.5 session wrapper (C08). -/
namespace Bmc.Wire
open Bmc

/-- values of the Go struct that the wire format can carry: 32-bit numbers, a 16-byte AuthCode, which is all zero when
    the authentication type is none (the field is absent from the wire then) -/
structure V1Session.WF (s : V1Session) : Prop where
  seq : s.sequence < 4294967296
  id : s.id < 4294967296
  ac : s.authCode.length = 16
  ac0 : s.authType = 0 → s.authCode = List.replicate 16 0

theorem V1Session.decode_encode (s : V1Session) (inner : Bytes) (h : s.WF) :
    V1Session.decode (V1Session.encode s inner).2 =
      .ok { (V1Session.encode s inner).1 with
            contents := (V1Session.encode s inner).2.take (if s.authType == 0 then 10 else 26)
            payload := inner } := by
  obtain ⟨hseq, hid, hac, hac0⟩ := h
  unfold V1Session.encode V1Session.decode
  have w1 : ∀ r, le32 (([s.authType] ++ (putLE32 s.sequence ++ r)).drop 1) = s.sequence :=
    fun r => le32_at [_] r 1 _ rfl hseq
  have w5 : ∀ r, le32 (([s.authType] ++ (putLE32 s.sequence ++ (putLE32 s.id ++ r))).drop 5) = s.id :=
    fun r => by rw [← List.append_assoc]; exact le32_at _ r 5 _ rfl hid
  simp only [List.append_assoc, w1, w5]
  by_cases h0 : s.authType = 0
  · simp [h0, hac0 h0, putLE32]
  · have hb : (s.authType == 0) = false := by simpa using h0
    simp [hb, putLE32, hac]
    have d17 : ∀ x : UInt8, List.drop 17 (s.authCode ++ x :: inner) = inner := by
      intro x
      rw [show 17 = s.authCode.length + 1 by omega, ← List.drop_drop]; simp
    rw [if_neg (by omega), if_neg (by omega), d17]

end Bmc.Wire
