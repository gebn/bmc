import Bmc.Lemmas.GenLoopsSessionless
/-! The regenerated `V2Sessionless.buildAndSendCommand` under the scripted surroundings: one run of the closure in the model's
    terms (`sl_run_lost`, `sl_run_nil`, `sl_run_reply`) and the inductions over the script that give the documented contract
    `slExpected` of `Proto.slLoop` (`sl_runs`) and what `Proto.Metrics.loop` counts outside a session (`sl_runs_metrics`). -/
namespace Bmc.Lemmas.GenLoops
open Bmc Bmc.Wire Bmc.Crypto Bmc.Proto Bmc.GoOrch Bmc.GoLoops Bmc.Gen.Loops

/-- what the instrumentation sees of one attempt outside a session (the twin of `Proto.attOf`) -/
def slAttOf (c : Cmd) : Outcome → Metrics.Att
  | .lost => .lost
  | .reply d =>
    match slView (slOnReply {} (GoSlice.ofBytes d)) with
    | (.message, some msg) =>
      if slAcceptable c msg then
        (if isTemp msg.completionCode then .temp msg.completionCode.toNat else .final msg.completionCode.toNat)
      else .junk
    | _ => .junk

def slNoCrash (c : Cmd) (script : List Outcome) : Prop := ∀ d, Outcome.reply d ∈ script → slClassify c d ≠ .crash

section run
variable (c : Cmd) (bd : Bytes → Bool) (name : String) (rsp : Opaque)

/-- **ONE RUN of the regenerated closure under the scripted surroundings.** On a lost reply: the transport's error, to be retried … -/
theorem sl_run_lost (rest : List Outcome) (first : Bool) (ivs sent0 : List Bytes) (i x : Bool) (K : Conn Decoded) :
    V2Sessionless_buildAndSendCommand_func1 (slWorld c bd) (cmdOf c name rsp) first
        ({ ivs := ivs, script := .lost :: rest, sent := sent0, inSend := i, expired := x }, K)
      = (.ok (false, some .transport), { ivs := ivs, script := rest, sent := sent0 ++ [K.buffer], inSend := i, expired := x },
         { K with events := K.events ++ pre first }) := by
  rw [slFunc1_eq, recv_script (slWorld c bd) rfl]

/-- … with the script exhausted, the Send meets the expired context: the same, and nothing is handed to the transport … -/
theorem sl_run_nil (first : Bool) (ivs sent0 : List Bytes) (i x : Bool) (K : Conn Decoded) :
    V2Sessionless_buildAndSendCommand_func1 (slWorld c bd) (cmdOf c name rsp) first
        ({ ivs := ivs, script := [], sent := sent0, inSend := i, expired := x }, K)
      = (.ok (false, some .transport), { ivs := ivs, script := [], sent := sent0, inSend := i, expired := true },
         { K with events := K.events ++ pre first }) := by
  rw [slFunc1_eq, recv_script (slWorld c bd) rfl]

variable (hc : c.ent < 4294967296)
include hc

/-- what `slDecode` and the closure's `isResponseTo` check make of a reply is what `slClassify` and `slAttOf` say of it -/
theorem sl_seen (L : Layers) (t : Decoded) (d : Bytes) :
    ReplySeen (respTo (cmdOf c name rsp)) L (slDecode L t d) (slClassify c d) (slAttOf c (.reply d)) := by
  simp only [slDecode, slClassify, slAttOf]
  rcases hv : slView (slOnReply {} (GoSlice.ofBytes d)) with ⟨_ | _ | _ | _, _ | msg⟩
  case message.some =>
    obtain ⟨_, _, _, _, _, _, _, hm⟩ := slOnReply_message _ _ msg hv
    exact .message _ msg _ rfl (respTo_eq c msg (msg_decode_ent_lt _ _ hm) hc name rsp _ rfl)
  all_goals constructor

/-- … **on a reply, as all three see it** (`ReplyEnds`) -/
theorem sl_run_reply (d : Bytes) (rest : List Outcome) (first : Bool) (ivs sent0 : List Bytes) (i x : Bool) (K : Conn Decoded) :
    ∃ (r : RF (Bool × Option GoErr)) (K' : Conn Decoded),
      V2Sessionless_buildAndSendCommand_func1 (slWorld c bd) (cmdOf c name rsp) first
          ({ ivs := ivs, script := .reply d :: rest, sent := sent0, inSend := i, expired := x }, K)
        = (r, { ivs := ivs, script := rest, sent := sent0 ++ [K.buffer], inSend := i, expired := x }, K') ∧
      K'.inbound = K.inbound ∧ K'.buffer = K.buffer ∧
      ReplyEnds (fun e => (false, e)) (K.events ++ pre first) (slClassify c d) (slAttOf c (.reply d)) r K' := by
  rw [slFunc1_eq, recv_script (slWorld c bd) rfl]
  exact afterReply_seen (slWorld c bd) _ _ (fun _ => Bool.and_true _) d _ { K with events := K.events ++ pre first }
    (sl_seen c name rsp hc _ K.decoded d)

end run

section loop
variable (c : Cmd) (bd : Bytes → Bool) (name : String) (rsp : Opaque) (hc : c.ent < 4294967296) (i : Bool)
include hc

/-- **THE LOOP (session-less)**, for as many runs as the surroundings allow. The same serialised datagram is handed to the transport
    once per attempt, lost replies and anything that is not a final answer to this command are retried, as the contract
    `slExpected` says (`slLoop_spec`: what `Proto.slLoop` computes) -/
theorem sl_runs : ∀ (script : List Outcome) (first : Bool) (ivs sent0 : List Bytes) (K : Conn Decoded),
    let r := runs (V2Sessionless_buildAndSendCommand_func1 (slWorld c bd) (cmdOf c name rsp)) (script.length + (if i then 1 else 0)) first
              ({ ivs := ivs, script := script, sent := sent0, inSend := i, expired := false }, K)
    let m := slExpected (slClassify c) script
    r.2.1.sent = sent0 ++ List.replicate m.1 K.buffer ∧ r.2.2.inbound = K.inbound ∧ r.2.2.buffer = K.buffer ∧
      resOf (errOf r.1) r.2.2 = some m.2 := by
  intro script
  induction script with
  | nil =>
    intro first ivs sent0 K
    cases i
    · simp [runs_zero, slExpected, resOf, errOf]
    · simp [runs_zero, runs_retry _ (sl_run_nil c bd name rsp ..), slExpected, resOf, errOf]
  | cons o rest ih =>
    intro first ivs sent0 K
    rw [List.length_cons, Nat.add_right_comm]
    cases o with
    | lost =>
      rw [runs_retry _ (sl_run_lost c bd name rsp ..)]
      obtain ⟨a1, a2, a3, a4⟩ := ih false ivs (sent0 ++ [K.buffer]) { K with events := K.events ++ pre first }
      exact ⟨by rw [a1]; simp [slExpected, List.replicate_succ], a2, a3, a4⟩
    | reply d =>
      obtain ⟨r, K', hop, hi, hb, h⟩ := sl_run_reply c bd name rsp hc d rest first ivs sent0 i false K
      simp only [slExpected]
      rcases h with ⟨hcl, rfl⟩ | ⟨cc, p, hcl, _, rfl, h1, h2, _⟩ | ⟨e, hcl, rfl, _⟩ <;> rw [hcl]
      · rw [runs_panic _ hop]; exact ⟨by simp, hi, hb, rfl⟩
      · rw [runs_done _ hop]; exact ⟨by simp, hi, hb, by rw [← h1, ← h2]; rfl⟩
      · rw [runs_retry _ hop]
        obtain ⟨a1, a2, a3, a4⟩ := ih false ivs (sent0 ++ [K.buffer]) K'
        rw [hb] at a1 a3
        exact ⟨by rw [a1]; simp [List.replicate_succ], a2.trans hi, a3, a4⟩

/-- **THE LOG (session-less)**: when no reply crashes a decoder, the Prometheus calls add up to what `Proto.Metrics.loop` counts
    on `slAttOf` of the script, for both ways the caller's context can end -/
theorem sl_runs_metrics (m0 : Metrics.M) : ∀ (script : List Outcome), slNoCrash c script →
    ∀ (first : Bool) (ivs sent0 : List Bytes) (K : Conn Decoded),
    let r := runs (V2Sessionless_buildAndSendCommand_func1 (slWorld c bd) (cmdOf c name rsp)) (script.length + (if i then 1 else 0)) first
              ({ ivs := ivs, script := script, sent := sent0, inSend := i, expired := false }, K)
    let l := Metrics.loop false (evsApply m0 K.events) first (script.map (slAttOf c) ++ ending i)
    evsApply m0 r.2.2.events = l.1 ∧ (errOf r.1 = .ok none ↔ l.2 = true) ∧ ∃ x, r.1 = .ok x := by
  intro script
  induction script with
  | nil =>
    intro _ first ivs sent0 K
    cases i
    · simp [runs_zero, errOf, ending, Metrics.loop]
    · simp [runs_zero, runs_retry _ (sl_run_nil c bd name rsp ..), errOf, ending, Metrics.loop, evsApply_append, evsApply_pre]
  | cons o rest ih =>
    intro hn first ivs sent0 K
    have ih' := ih (fun d hd => hn d (List.mem_cons_of_mem _ hd)) false ivs
    rw [List.length_cons, Nat.add_right_comm]
    simp only [List.map_cons, List.cons_append]
    cases o with
    | lost =>
      rw [runs_retry _ (sl_run_lost c bd name rsp ..)]
      have := ih' (sent0 ++ [K.buffer]) { K with events := K.events ++ pre first }
      rw [evsApply_append, evsApply_pre] at this
      exact this
    | reply d =>
      obtain ⟨r, K', hop, -, -, h⟩ := sl_run_reply c bd name rsp hc d rest first ivs sent0 i false K
      rcases h.metrics _ (hn d (List.mem_cons_self ..)) false m0 (rest.map (slAttOf c) ++ ending i) with ⟨rfl, hl⟩ | ⟨e, rfl, hl⟩
      · rw [runs_done _ hop, hl]
        exact ⟨rfl, by simp [errOf], _, rfl⟩
      · rw [runs_retry _ hop, hl]
        exact ih' _ K'

end loop
end Bmc.Lemmas.GenLoops
