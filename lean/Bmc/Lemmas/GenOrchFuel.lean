import Bmc.Basic.GoOrch
/-! "Never out of fuel", compositionally: `NoFuelOut x` = the computation `x` does not end with `RF.outOfFuel` from any
    state. Closed under the constructs the translator emits; the fuelled loops themselves need their own argument (a
    measure that decreases every round). Used for the `F_fuel_any` theorems of `Proofs/GenOrch/*`: the fuel suffices for
    EVERY answer function, over ANY state. -/
namespace Bmc.Lemmas.GenOrch
open Bmc Bmc.GoOrch

def NoFuelOut {σ α : Type} (x : M σ α) : Prop := ∀ s, (x s).1 ≠ .outOfFuel

section
variable {σ α β ρ C Q P : Type}

theorem NoFuelOut.pure (a : α) : NoFuelOut (Pure.pure a : M σ α) := fun s h => by cases h
theorem NoFuelOut.fail : NoFuelOut (GoOrch.fail : M σ α) := fun s h => by cases h
theorem NoFuelOut.panic : NoFuelOut (GoOrch.panic : M σ α) := fun s h => by cases h
theorem NoFuelOut.getCell : NoFuelOut (GoOrch.getCell : M (σ × C) C) := fun s h => by cases h
theorem NoFuelOut.modifyCell (f : C → C) : NoFuelOut (GoOrch.modifyCell f : M (σ × C) Unit) := fun s h => by cases h
theorem NoFuelOut.derefOpt (o : Option α) : NoFuelOut (GoOrch.derefOpt o : M σ α) := fun s h => by
  cases o <;> cases h
theorem NoFuelOut.listIdx (l : List α) (i : Nat) : NoFuelOut (GoOrch.listIdx l i : M σ α) := fun s h => by
  unfold GoOrch.listIdx at h
  cases hl : l[i]? <;> rw [hl] at h <;> cases h
theorem NoFuelOut.send (ans : σ → Q → σ × P × Bool) (req : C → Q) (setRsp : C → P → C) :
    NoFuelOut (GoOrch.send ans req setRsp) := fun s h => by
  rw [send_apply] at h
  cases hb : (ans s.1 (req s.2)).2.2 <;> rw [hb] at h <;> cases h
theorem NoFuelOut.call (ans : σ → σ × Option P) : NoFuelOut (GoOrch.call ans) := fun s h => by
  rw [call_apply] at h
  cases hb : (ans s).2 <;> rw [hb] at h <;> cases h
theorem NoFuelOut.liftRF (r : RF α) (hr : r ≠ .outOfFuel) : NoFuelOut (GoOrch.liftRF r : M σ α) := fun _ h => hr h

theorem NoFuelOut.bind (x : M σ α) (f : α → M σ β) (hx : NoFuelOut x) (hf : ∀ a, NoFuelOut (f a)) : NoFuelOut (x >>= f) := by
  intro s h
  rw [bind_apply] at h
  have := hx s
  cases hr : x s with
  | mk r s' =>
    rw [hr] at h this
    cases r with
    | ok a => exact hf a s' h
    | err => cases h
    | panic => cases h
    | overread => cases h
    | outOfFuel => exact this rfl

theorem NoFuelOut.ite (c : Prop) [Decidable c] (x y : M σ α) (hx : NoFuelOut x) (hy : NoFuelOut y) :
    NoFuelOut (if c then x else y) := by
  split <;> assumption

theorem NoFuelOut.try_ (x : M σ α) (hx : NoFuelOut x) : NoFuelOut (GoOrch.try_ x) := by
  intro s h
  unfold GoOrch.try_ at h
  have := hx s
  cases hr : x s with
  | mk r s' =>
    rw [hr] at h this
    cases r <;> first | exact this rfl | cases h

theorem NoFuelOut.withCell (c : C) (x : M (σ × C) α) (hx : NoFuelOut x) : NoFuelOut (GoOrch.withCell c x) :=
  fun s h => hx (s, c) h

theorem NoFuelOut.liftCell (x : M σ α) (hx : NoFuelOut x) : NoFuelOut (GoOrch.liftCell x : M (σ × C) α) :=
  fun s h => hx s.1 h

theorem NoFuelOut.forEach (l : List α) (step : β → α → M σ (Step β)) (hs : ∀ b x, NoFuelOut (step b x)) :
    ∀ b, NoFuelOut (GoOrch.forEach l step b) := by
  induction l with
  | nil => intro b s h; cases h
  | cons x xs ih =>
    intro b
    rw [forEach_cons_bind]
    exact NoFuelOut.bind _ _ (hs b x) fun | .next b' => ih b' | .brk _ => NoFuelOut.pure _

theorem NoFuelOut.forEachR (l : List α) (step : β → α → M σ (Ctl β ρ)) (hs : ∀ b x, NoFuelOut (step b x)) :
    ∀ b, NoFuelOut (GoOrch.forEachR l step b) := by
  induction l with
  | nil => intro b s h; cases h
  | cons x xs ih =>
    intro b
    rw [forEachR_cons_bind]
    exact NoFuelOut.bind _ _ (hs b x) fun | .next b' => ih b' | .brk _ | .ret _ => NoFuelOut.pure _

theorem NoFuelOut.retry (n : Nat) (op : M σ α) (h : NoFuelOut op) : NoFuelOut (GoOrch.retry n op) := by
  induction n with
  | zero => intro s hh; cases hh
  | succ k ih =>
    intro s hh
    rw [retry_succ] at hh
    have := h s
    cases hr : op s with
    | mk r s' =>
      rw [hr] at hh this
      cases r with
      | err => exact ih s' hh
      | ok a => cases hh
      | panic => cases hh
      | overread => cases hh
      | outOfFuel => exact this rfl

theorem NoFuelOut.congr (x y : M σ α) (h : ∀ s, x s = y s) (hy : NoFuelOut y) : NoFuelOut x := fun s => by rw [h]; exact hy s

end
end Bmc.Lemmas.GenOrch

namespace Bmc
/-- discharge `NoFuelOut` goals structurally; goals about fuelled loops (and other opaque terms) are left -/
syntax "nofuel_step" : tactic
macro_rules
  | `(tactic| nofuel_step) => `(tactic| with_reducible first
      | assumption
      | exact Lemmas.GenOrch.NoFuelOut.pure _
      | exact Lemmas.GenOrch.NoFuelOut.fail
      | exact Lemmas.GenOrch.NoFuelOut.panic
      | exact Lemmas.GenOrch.NoFuelOut.getCell
      | exact Lemmas.GenOrch.NoFuelOut.modifyCell _
      | exact Lemmas.GenOrch.NoFuelOut.derefOpt _
      | exact Lemmas.GenOrch.NoFuelOut.listIdx _ _
      | exact Lemmas.GenOrch.NoFuelOut.send _ _ _
      | exact Lemmas.GenOrch.NoFuelOut.call _
      | refine Lemmas.GenOrch.NoFuelOut.bind _ _ ?_ (fun _ => ?_)
      | refine Lemmas.GenOrch.NoFuelOut.ite _ _ _ ?_ ?_
      | refine Lemmas.GenOrch.NoFuelOut.try_ _ ?_
      | refine Lemmas.GenOrch.NoFuelOut.withCell _ _ ?_
      | refine Lemmas.GenOrch.NoFuelOut.liftCell _ ?_
      | refine Lemmas.GenOrch.NoFuelOut.forEach _ _ (fun _ _ => ?_) _
      | refine Lemmas.GenOrch.NoFuelOut.forEachR _ _ (fun _ _ => ?_) _
      | refine Lemmas.GenOrch.NoFuelOut.retry _ _ ?_)
end Bmc
