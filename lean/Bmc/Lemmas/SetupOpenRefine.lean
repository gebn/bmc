import Bmc.Wire.OpenSessionRsp
/-! Refinement of `OpenSessionRsp.decodeGo` to the pure decoder. -/
namespace Bmc.Wire.Setup
open Bmc Bmc.Wire

theorem algOf_take (typ : UInt8) (b : Bytes) (n : Nat) (h : 5 ≤ n) : algOf typ (b.take n) = algOf typ b := by
  simp [algOf, show 0 < n by omega, show 3 < n by omega, show 4 < n by omega]

theorem deserialiseAlg_eq (typ : UInt8) (s : GoSlice) (h : s.len = 8) :
    deserialiseAlg typ s = R.ofExcept (algOf typ s.vis) := by
  unfold deserialiseAlg algOf
  have hn : 8 ≤ s.len := by omega
  have h8 : ¬ s.len < 8 := by omega
  simp -zeta only [h8, if_false, GoSlice.idx_of_le hn, GoSlice.sliceFrom_of_le hn, Nat.reduceLT, Nat.le_refl, R.bind_ok]
  split
  · rfl
  · split <;> rfl

theorem OpenSessionRsp.decodeGo_refines (prev : OpenSessionRsp) (d : GoSlice) :
    OpenSessionRsp.decodeGo prev d = R.ofExcept (OpenSessionRsp.decode d.vis) := by
  unfold OpenSessionRsp.decodeGo OpenSessionRsp.decode OpenSessionRsp.tailGo
  simp -zeta only [GoSlice.vis_length]
  -- the length is decided before any read is rewritten: every bound then asked for holds
  by_cases h36 : d.len = 36
  · have hn : 36 ≤ d.len := by omega
    simp -zeta only [h36, if_false, ne_eq, not_true_eq_false]
    simp -zeta only [GoSlice.idx_of_le hn, GoSlice.slice_of_le hn, Nat.reduceLT, Nat.reduceLeDiff, R.bind_ok]
    cases hs : (List.getD d.vis 1 0 == 0)
    · -- a status other than 0: the 7-byte error form, whatever follows it
      simp [le32_take]
    · simp -zeta only [if_true]
      rw [deserialiseAlg_eq 0 _ (by simp), deserialiseAlg_eq 1 _ (by simp), deserialiseAlg_eq 2 _ (by simp)]
      simp only [GoSlice.sub_vis, algOf_take, Nat.le_refl, Nat.reduceLeDiff, Nat.reduceSub, le32_take,
        List.drop_zero, bne_self_eq_false, Bool.false_eq_true, if_false]
      -- each algorithm payload is accepted or refused by both sides alike
      cases algOf 0 (List.drop 12 d.vis) <;> cases algOf 1 (List.drop 20 d.vis) <;>
        cases algOf 2 (List.drop 28 d.vis) <;> simp
  · have hne : (d.len != 36) = true := by simp [h36]
    simp -zeta only [hne, h36, if_true, ne_eq, not_false_eq_true]
    -- status 0 calls for 36 bytes and is refused; any other status is kept with what the form holds
    by_cases h1 : d.len = 1
    · have hn : 1 ≤ d.len := by omega
      simp -zeta only [h1, beq_self_eq_true, if_true]
      simp -zeta only [GoSlice.idx_of_le hn, GoSlice.slice_of_le hn, Nat.le_refl, Nat.zero_le, Nat.lt_add_one, R.bind_ok]
      refine R.guard_ofExcept fun _ => ?_
      simp only [GoSlice.sub_vis, Nat.sub_zero, List.drop_zero]
      rfl
    · have h1' : (d.len == 1) = false := by simp [h1]
      simp -zeta only [h1, h1', if_false, Bool.false_eq_true]
      refine R.guard_ofExcept fun h7 => ?_
      have hn : 7 ≤ d.len := Nat.le_of_not_lt h7
      simp -zeta only [GoSlice.idx_of_le hn, GoSlice.slice_of_le hn, Nat.reduceLT, Nat.reduceLeDiff, Nat.le_refl, Nat.zero_le, R.bind_ok]
      refine R.guard_ofExcept fun _ => ?_
      simp only [GoSlice.sub_vis, Nat.sub_zero, List.drop_zero, le32_take, Nat.reduceSub, Nat.le_refl]
      rfl

end Bmc.Wire.Setup
