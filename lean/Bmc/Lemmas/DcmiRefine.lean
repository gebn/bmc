import Bmc.Wire.Dcmi
/-! Refinement theorems for the pkg/dcmi response layers: each faithful model equals the pure decoder on the
    visible bytes — for every receiver state and every Go slice (any capacity, any bytes beyond `len`). -/
namespace Bmc.Wire
open Bmc

theorem DcmiHeader.decodeGo_err (d : GoSlice) (h : d.len < 3) : DcmiHeader.decodeGo d = .err := by
  simp [DcmiHeader.decodeGo, h]

theorem DcmiHeader.decodeGo_ok (d : GoSlice) (h : 3 ≤ d.len) :
    DcmiHeader.decodeGo d = .ok (DcmiHeader.ofBytes d.vis, d.sub 3 d.len h (Nat.le_refl _)) := by
  unfold DcmiHeader.decodeGo
  simp only [Nat.not_lt.mpr h, if_false, GoSlice.idx_of_le h, GoSlice.sliceFrom_of_le h, Nat.reduceLT, Nat.le_refl, R.bind_ok]
  rfl

/-- What follows the capabilities header begins with a guard on the length of the body `data[3:]`. Behind it the body is walked
    as an opaque slice: only its length (`len(data) - len(body)` is the header's) and the bytes it denotes matter. -/
theorem DcmiHeader.bind_refines {α : Type} {k : Nat} {f : DcmiHeader × GoSlice → R α} {y : Except Unit α} {d : GoSlice}
    (h : ∀ body : GoSlice, k ≤ body.len → 3 + k ≤ d.len → d.len - body.len = 3 → body.vis = d.vis.drop 3 →
      f (DcmiHeader.ofBytes d.vis, body) = R.ofExcept y) :
    (DcmiHeader.decodeGo d >>= fun p => if p.2.len < k then R.err else f p) =
      R.ofExcept (if d.len < 3 then .error () else if d.len - 3 < k then .error () else y) := by
  by_cases h3 : d.len < 3
  · rw [DcmiHeader.decodeGo_err d h3, if_pos h3]; rfl
  · have h3 : 3 ≤ d.len := Nat.le_of_not_lt h3
    rw [DcmiHeader.decodeGo_ok d h3, if_neg (Nat.not_lt.2 h3)]
    refine R.guard_ofExcept fun hk => ?_
    have hk : k ≤ d.len - 3 := Nat.le_of_not_lt hk
    exact h _ hk (by omega) (Nat.sub_sub_self h3) (GoSlice.sub_tail_vis _ _ _)

theorem DcmiCap1.decodeGo_refines (prev : DcmiCap1) (d : GoSlice) :
    DcmiCap1.decodeGo prev d = R.ofExcept (DcmiCap1.decode d.vis) := by
  unfold DcmiCap1.decodeGo DcmiCap1.decode
  simp only [GoSlice.vis_length]
  refine DcmiHeader.bind_refines fun body hn hd hl hv => ?_
  go_reads hn [hl, GoSlice.slice_of_le hd, Nat.reduceAdd, Nat.le_refl, GoSlice.take_len_drop_vis, Nat.sub_zero, List.drop_zero]
  simp only [hv, getD_drop, List.drop_drop, Nat.reduceAdd]
  split <;> rfl

theorem DcmiCap2.decodeGo_refines (prev : DcmiCap2) (d : GoSlice) :
    DcmiCap2.decodeGo prev d = R.ofExcept (DcmiCap2.decode d.vis) := by
  unfold DcmiCap2.decodeGo DcmiCap2.decode
  simp only [GoSlice.vis_length]
  refine DcmiHeader.bind_refines fun body hn hd hl hv => ?_
  rw [show d.len - 3 = body.len by omega]
  -- the version 1.0 form (also taken when exactly four bytes follow) reads four body bytes, the other five
  by_cases hv10 : (body.len == 4 || (DcmiHeader.ofBytes d.vis).isV10) = true
  case' neg =>
    have h4 : body.len ≠ 4 := fun h => hv10 (by simp [h])
    replace hn : 5 ≤ body.len := by omega
    replace hd : 3 + 5 ≤ d.len := by omega
  all_goals
    go_reads hn [hv10, Bool.false_eq_true, hl, GoSlice.slice_of_le hd, Nat.reduceAdd, Nat.le_refl, GoSlice.take_len_drop_vis,
      Nat.sub_zero, List.drop_zero]
    simp only [hv, getD_drop, List.drop_drop, Nat.reduceAdd]
    rfl

theorem DcmiCap3.decodeGo_refines (prev : DcmiCap3) (d : GoSlice) :
    DcmiCap3.decodeGo prev d = R.ofExcept (DcmiCap3.decode d.vis) := by
  unfold DcmiCap3.decodeGo DcmiCap3.decode
  simp only [GoSlice.vis_length]
  refine DcmiHeader.bind_refines fun body hn hd hl hv => ?_
  go_reads hn [hl, GoSlice.slice_of_le hd, Nat.reduceAdd, Nat.le_refl, GoSlice.take_len_drop_vis, Nat.sub_zero, List.drop_zero]
  simp only [hv, getD_drop, List.drop_drop, Nat.reduceAdd]
  rfl

theorem DcmiCap4.decodeGo_refines (prev : DcmiCap4) (d : GoSlice) :
    DcmiCap4.decodeGo prev d = R.ofExcept (DcmiCap4.decode d.vis) := by
  unfold DcmiCap4.decodeGo DcmiCap4.decode
  simp only [GoSlice.vis_length]
  refine DcmiHeader.bind_refines fun body hn hd hl hv => ?_
  go_reads hn [hl, GoSlice.slice_of_le hd, Nat.reduceAdd, Nat.le_refl, GoSlice.take_len_drop_vis, Nat.sub_zero, List.drop_zero]
  simp only [hv, getD_drop, List.drop_drop, Nat.reduceAdd]
  rfl

theorem idxs_ok (s : GoSlice) (l : List Nat) (h : ∀ i ∈ l, i < s.len) :
    s.idxs l = .ok (l.map (fun i => s.vis.getD i 0)) := by
  induction l with
  | nil => rfl
  | cons i is ih =>
    simp only [GoSlice.idxs]
    rw [GoSlice.idx_ok s i (h i (by simp)), ih (fun j hj => h j (by simp [hj]))]
    rfl

theorem DcmiCap5.decodeGo_refines (prev : DcmiCap5) (d : GoSlice) :
    DcmiCap5.decodeGo prev d = R.ofExcept (DcmiCap5.decode d.vis) := by
  unfold DcmiCap5.decodeGo DcmiCap5.decode
  simp only [GoSlice.vis_length]
  refine DcmiHeader.bind_refines fun body hn hd hl hv => ?_
  rw [GoSlice.idx_ok body 0 hn, show d.len - 3 = body.len by omega]
  simp only [R.bind_ok, hl, hv, getD_drop, Nat.add_zero]
  generalize (d.vis.getD 3 0).toNat = n
  refine R.guard_ofExcept fun hg => ?_
  rw [idxs_ok _ _ (by simp; omega), GoSlice.slice_ok d 0 (3 + 1 + n) (Nat.zero_le _) (by omega),
    GoSlice.sliceFrom_ok body (1 + n) (by omega)]
  simp only [R.bind_ok, R.pure_eq, GoSlice.sub_vis, GoSlice.take_len_drop_vis, Nat.sub_zero, List.drop_zero]
  rw [hv, range_getD _ _ _ (by simp; omega)]
  simp only [List.drop_drop, Nat.reduceAdd, ← Nat.add_assoc]
  rfl

theorem PowerReading.decodeGo_refines (prev : PowerReading) (d : GoSlice) :
    PowerReading.decodeGo prev d = R.ofExcept (PowerReading.decode d.vis) := by
  unfold PowerReading.decodeGo PowerReading.decode
  simp only [GoSlice.vis_length]
  refine R.guard_ofExcept fun h => ?_
  have hn : 17 ≤ d.len := Nat.le_of_not_lt h
  go_reads hn [le16_take, le32_take, Nat.reduceSub, Nat.le_refl, List.drop_zero]
  rfl

theorem U16Slice.append_vis (s : U16Slice) (x : Nat) (h : s.Inv) :
    (s.append x).vis = s.vis ++ [x] ∧ (s.append x).Inv := by
  unfold U16Slice.Inv at h
  unfold U16Slice.append
  by_cases hc : s.len < s.buf.length
  · rw [if_pos hc]
    refine ⟨?_, by simp only [U16Slice.Inv, List.length_set]; omega⟩
    simp only [U16Slice.vis]
    rw [List.take_add_one, List.take_set_of_le (Nat.le_refl _), List.getElem?_set_self (by simpa using hc)]
    rfl
  · rw [if_neg hc]
    have e : s.buf.take s.len = s.buf := List.take_of_length_le (by omega)
    simp only [U16Slice.vis, U16Slice.Inv, e, List.length_append, List.length_cons, List.length_nil]
    exact ⟨List.take_of_length_le (by simp; omega), by omega⟩

theorem U16Slice.reset_vis (s : U16Slice) : s.reset.vis = [] ∧ s.reset.Inv := by
  simp [U16Slice.reset, U16Slice.vis, U16Slice.Inv]

theorem SensorInfo.readIDs_ok (d : GoSlice) (l : List Nat) (acc : U16Slice) (hacc : acc.Inv)
    (h : ∀ i ∈ l, 2 + i * 2 + 2 ≤ d.len) :
    ∃ r, SensorInfo.readIDs d l acc = .ok r ∧ r.Inv ∧
      r.vis = acc.vis ++ l.map (fun i => le16 (d.vis.drop (2 + i * 2))) := by
  induction l generalizing acc with
  | nil => exact ⟨acc, rfl, hacc, by simp⟩
  | cons i is ih =>
    have hi := h i (by simp)
    simp only [SensorInfo.readIDs]
    rw [GoSlice.sliceFrom_ok d _ (by omega)]
    simp only [R.bind_ok, GoSlice.sub_len, GoSlice.sub_tail_vis]
    have : ¬ d.len - (2 + i * 2) < 2 := by omega
    simp only [this, if_false]
    obtain ⟨hv, hI⟩ := U16Slice.append_vis acc (le16 (d.vis.drop (2 + i * 2))) hacc
    obtain ⟨r, hr, hrI, hrv⟩ := ih _ hI (fun j hj => h j (by simp [hj]))
    exact ⟨r, hr, hrI, by rw [hrv, hv]; simp⟩

theorem SensorInfo.decodeGo_refines (prev : SensorInfo) (d : GoSlice) :
    (SensorInfo.decodeGo prev d).map SensorInfo.view = R.ofExcept (SensorInfoView.decode d.vis) := by
  unfold SensorInfo.decodeGo SensorInfoView.decode
  simp only [GoSlice.vis_length]
  by_cases h2 : d.len < 2
  · simp only [h2, if_true]; rfl
  have hn : 2 ≤ d.len := Nat.le_of_not_lt h2
  simp only [h2, if_false, GoSlice.idx_of_le hn, Nat.reduceLT, R.bind_ok]
  generalize (d.vis.getD 1 0).toNat = n
  by_cases hg : d.len < 2 + n * 2
  · simp only [hg, if_true]; rfl
  obtain ⟨r, hr, _, hrv⟩ := SensorInfo.readIDs_ok d (List.range n) prev.recordIDs.reset
    (U16Slice.reset_vis _).2 (by intro i hi; have := List.mem_range.mp hi; omega)
  rw [if_neg hg, if_neg hg, GoSlice.slice_ok d 0 _ (Nat.zero_le _) (by omega), GoSlice.sliceFrom_ok d _ (by omega), hr]
  simp only [R.bind_ok, R.pure_eq, R.map, SensorInfo.view, hrv, (U16Slice.reset_vis _).1, GoSlice.sub_vis,
    GoSlice.take_len_drop_vis, Nat.sub_zero, List.drop_zero, List.nil_append]
  rfl

end Bmc.Wire
