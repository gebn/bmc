import Bmc.Prim.Strings
namespace Bmc.Prim
open Bmc

theorem nibble_lo (b : UInt8) : (b &&& 0xf).toNat = b.toNat % 16 := by
  rw [UInt8.toNat_and]; exact Nat.and_two_pow_sub_one_eq_mod b.toNat 4
theorem nibble_hi (b : UInt8) : ((b >>> 4) &&& 0xf).toNat = b.toNat / 16 := by
  rw [nibble_lo, UInt8.toNat_shiftRight, show (4 : UInt8).toNat % 8 = 4 from rfl, Nat.shiftRight_eq_div_pow]
  exact Nat.mod_eq_of_lt (Nat.div_lt_of_lt_mul (n := 16) (k := 16) b.toNat_lt)

theorem bcdChar_spec (d : GoSlice) (i : Nat) (h : i / 2 < d.len) :
    bcdChar d i = R.ok (Spec.bcdPlusTable.getD
      (if i % 2 = 0 then (d.vis.getD (i / 2) 0).toNat / 16 else (d.vis.getD (i / 2) 0).toNat % 16) 0) := by
  unfold bcdChar
  rw [GoSlice.idx_ok _ _ h]
  simp only [R.bind_ok, R.pure_eq]
  split
  · rw [nibble_hi]
  · rw [nibble_lo]

theorem loopBcd_eq (d : GoSlice) (n : Nat) : ∀ k, loopBcd d k n = fillM (bcdChar d) k n := by
  induction n with
  | zero => intro k; rfl
  | succ n ih => intro k; simp only [loopBcd, fillM, ih]

theorem loopBcd_spec (d : GoSlice) (c : Nat) (hc : (c + 1) / 2 ≤ d.len) (i n : Nat) (hin : i + n ≤ c) :
    loopBcd d i n = R.ok ((List.range' i n).map (fun i =>
      Spec.bcdPlusTable.getD
        (if i % 2 = 0 then (d.vis.getD (i / 2) 0).toNat / 16 else (d.vis.getD (i / 2) 0).toNat % 16) 0)) := by
  rw [loopBcd_eq]
  exact fillM_ok n i fun j _ _ => bcdChar_spec d j (by omega)

theorem bcdPlusGo_spec (d : GoSlice) (c : Nat) : bcdPlusGo d c = R.ofOption (Spec.bcdPlus d.vis c) := by
  unfold bcdPlusGo Spec.bcdPlus
  simp only [GoSlice.vis_length]
  split
  · rfl
  · rw [loopBcd_spec d c (by omega) 0 c (by omega)]
    simp [List.range_eq_range']

theorem latin1Go_spec (d : GoSlice) (c : Nat) : latin1Go d c = R.ofOption (Spec.latin1 d.vis c) := by
  unfold latin1Go Spec.latin1
  simp only [GoSlice.vis_length]
  split
  · rfl
  · split
    · rfl
    · split
      · rfl
      · rw [GoSlice.slice_ok _ _ _ (by omega) (by omega)]
        simp

theorem or40 : ∀ x : Nat, x < 64 → x % 256 ||| 0x40 = x + 0x40 ∧ x % 256 ||| 0x80 = x + 0x80 ∧ x % 256 ||| 0xc0 = x + 0xc0 := by
  decide +kernel

theorem rollingByteGo_spec (s : Nat) : rollingByteGo s = Spec.rollingByte s := by
  unfold rollingByteGo Spec.rollingByte
  split
  · omega
  · split
    · exact (or40 (s / 60) (by omega)).1
    · split
      · exact (or40 (s / 3600) (by omega)).2.1
      · exact (or40 (min (s / 86400) 63) (by omega)).2.2

/-- the byte `64 u + secs / s`, with `s` the seconds of unit `u` and `secs / s < 64`, stands for the whole units in `secs`: not
    above `secs` and less than one unit below it -/
theorem rolling_floor_unit (secs u s : Nat) (hs : Spec.unitSeconds u = s) (h0 : 0 < s) (hv : secs / s < 64) :
    Spec.rollingDurationNs (secs / s + 64 * u) ≤ 1000000000 * secs ∧
    1000000000 * secs < Spec.rollingDurationNs (secs / s + 64 * u)
      + 1000000000 * Spec.unitSeconds ((secs / s + 64 * u) / 64) := by
  have h1 := Nat.div_mul_le_self secs s
  have h2 := Nat.lt_div_mul_add (a := secs) h0
  generalize secs / s = v at *
  unfold Spec.rollingDurationNs
  rw [show (v + 64 * u) % 64 = v by omega, show (v + 64 * u) / 64 = u by omega, hs, ← Nat.mul_add]
  exact ⟨Nat.mul_le_mul_left _ h1, Nat.mul_lt_mul_of_pos_left h2 (by decide)⟩

end Bmc.Prim
