import Bmc.Gen.Dec
import Bmc.Lemmas.GenDecBits
import Bmc.Wire.Simple
import Bmc.Wire.Sdr
import Bmc.Wire.Selector
import Bmc.Wire.Sess
import Bmc.Wire.Dcmi
import Bmc.Wire.Chassis
import Bmc.Wire.DeviceID
import Bmc.Wire.Rakp1
import Bmc.Wire.Rakp2
import Bmc.Wire.Rakp4
import Bmc.Wire.V1Session
import Bmc.Wire.OpenSessionRsp
import Bmc.Wire.Message
import Bmc.Lemmas.DcmiRefine
/-! `toModel`: the structure the translator emits for a Go layer (`Bmc.Gen.Dec.T`, one field per Go field) read as the
    hand-written model's structure (`Bmc.Wire.X`). Where the hand model keeps a FLAGS BYTE for several Go booleans,
    `toModel` packs the generated booleans into that byte, flag `F` at the bit position the driver's `kvBit "F" _ n`
    prints it from (direction: generated → model). Wider integers: `UInt16`/`UInt32` ↦ `toNat`; `time.Time` /
    `time.Duration` (`Int`: seconds / nanoseconds) ↦ `toNat`.
    Beside a layer's `toModel` stand the facts its obligation (`Proofs/GenDec/<T>.lean`) uses: a generated helper in the
    model's terms (`*_eq`), a prefix the two sides share (`dcmi_header`, `*_deserialise`), a loop (`cap5_loop`). -/
namespace Bmc.Gen.Dec
open Bmc Bmc.Lemmas.GenDec

/-- a flag as the bit(s) `m` of a flags byte -/
def bit (b : Bool) (m : UInt8) : UInt8 := if b then m else 0

/-- a flag tested with a one-bit mask and put back at that bit is the byte under the mask; such bytes together are the byte
    under all the masks (`and_or_left`): the flags bytes that `toModel` packs (`pack_*` below, the masks a simp side goal each) -/
theorem bit_and : ∀ m ∈ [(1 : UInt8), 2, 4, 8, 16, 32, 64, 128], ∀ x : UInt8, bit (x &&& m != 0) m = x &&& m := by
  intro m hm x
  -- `m` is the single bit `k`, so `x &&& m` is `m` or 0, as `x` has that bit or not
  obtain ⟨k, -, h0, rfl⟩ : ∃ k < 8, m ≠ 0 ∧ m = ⟨BitVec.twoPow 8 k⟩ := by revert m; decide
  have h : x &&& ⟨BitVec.twoPow 8 k⟩ = if x.toBitVec.getLsbD k then ⟨BitVec.twoPow 8 k⟩ else 0 :=
    UInt8.toBitVec_inj.1 ((BitVec.and_twoPow ..).trans (by split <;> rfl))
  rw [h]
  split
  · rw [bne_iff_ne.2 h0]; rfl
  · rfl

def ReserveSDRRepositoryRsp.toModel (g : ReserveSDRRepositoryRsp) : Wire.ReserveRsp :=
  { reservationID := g.reservationID.toNat, contents := g.contents }

def GetSystemGUIDRsp.toModel (g : GetSystemGUIDRsp) : Wire.GUIDRsp := { guid := g.guid, contents := g.contents }

def SetSessionPrivilegeLevelRsp.toModel (g : SetSessionPrivilegeLevelRsp) : Wire.SetPrivRsp := { level := g.privilegeLevel }

def GetSDRRsp.toModel (g : GetSDRRsp) : Wire.GetSDRRsp := { next := g.next.toNat, contents := g.contents, payload := g.payload }

theorem bcd_eq (b : UInt8) : bcd_Decode b = Wire.bcd b := rfl

def SDR.toModel (g : SDR) : Wire.SDRHeader :=
  { id := g.id.toNat, version := g.version, typ := g.type_, length := g.length, contents := g.contents, payload := g.payload }

def GetSensorReadingRsp.toModel (g : GetSensorReadingRsp) : Wire.SensorReadingRsp :=
  { reading := g.reading, eventMessagesEnabled := g.eventMessagesEnabled, scanningEnabled := g.scanningEnabled,
    readingUnavailable := g.readingUnavailable, contents := g.contents, payload := g.payload }

def GetChannelCipherSuitesRsp.toModel (g : GetChannelCipherSuitesRsp) : Wire.CipherSuitesRsp :=
  { channel := g.channel, chunk := g.cipherSuiteRecordsChunk, contents := g.contents, payload := g.payload }

def SessionSelector.toModel (g : SessionSelector) : Wire.Setup.Selector := { isRMCPPlus := g.isRMCPPlus, payload := g.payload }


def GetChannelAuthenticationCapabilitiesRsp.toModel (g : GetChannelAuthenticationCapabilitiesRsp) : Wire.AuthCapsRsp :=
  { channel := g.channel
    authTypes := bit g.extendedCapabilities 0x80 ||| bit g.authenticationTypeOEM 0x20 ||| bit g.authenticationTypePassword 0x10 |||
      bit g.authenticationTypeMD5 4 ||| bit g.authenticationTypeMD2 2 ||| bit g.authenticationTypeNone 1
    status := bit g.twoKeyLogin 0x20 ||| bit g.perMessageAuthentication 0x10 ||| bit g.userLevelAuthentication 8 |||
      bit g.nonNullUsernamesEnabled 4 ||| bit g.nullUsernamesEnabled 2 ||| bit g.anonymousLoginEnabled 1
    versions := bit g.supportsV2 2 ||| bit g.supportsV1 1
    oem := g.oem.toNat, oemData := g.oemData, contents := g.contents, payload := g.payload }

theorem pack_b7 : ∀ x : UInt8, bit (x &&& 128 != 0) 0x80 ||| bit (x &&& 32 != 0) 0x20 ||| bit (x &&& 16 != 0) 0x10 |||
    bit (x &&& 4 != 0) 4 ||| bit (x &&& 2 != 0) 2 ||| bit (x &&& 1 != 0) 1 = x &&& 0xb7 := fun x => by
  simp +decide only [bit_and, and_or_left]; rfl
theorem pack_3f : ∀ x : UInt8, bit (x &&& 32 != 0) 0x20 ||| bit (x &&& 16 != 0) 0x10 ||| bit (x &&& 8 != 0) 8 |||
    bit (x &&& 4 != 0) 4 ||| bit (x &&& 2 != 0) 2 ||| bit (x &&& 1 != 0) 1 = x &&& 0x3f := fun x => by
  simp +decide only [bit_and, and_or_left]; rfl
theorem pack_03 : ∀ x : UInt8, bit (x &&& 2 != 0) 2 ||| bit (x &&& 1 != 0) 1 = x &&& 3 := fun x => by
  simp +decide only [bit_and, and_or_left]; rfl

def GetSDRRepositoryInfoRsp.toModel (g : GetSDRRepositoryInfoRsp) : Wire.SDRRepoInfoRsp :=
  { version := g.version, records := g.records.toNat, freeSpace := g.freeSpace.toNat
    lastAddition := g.lastAddition.toNat, lastErase := g.lastErase.toNat
    flags := bit g.overflow 0x80 ||| bit g.supportsModalUpdate 0x40 ||| bit g.supportsNonModalUpdate 0x20 |||
      bit g.supportsDelete 8 ||| bit g.supportsPartialAdd 4 ||| bit g.supportsReserve 2 ||| bit g.supportsGetAllocationInformation 1
    contents := g.contents, payload := g.payload }

theorem pack_ef : ∀ x : UInt8, bit (x &&& 128 != 0) 0x80 ||| bit (x &&& 64 != 0) 0x40 ||| bit (x &&& 32 != 0) 0x20 |||
    bit (x &&& 8 != 0) 8 ||| bit (x &&& 4 != 0) 4 ||| bit (x &&& 2 != 0) 2 ||| bit (x &&& 1 != 0) 1 = x &&& 0xef := fun x => by
  simp +decide only [bit_and, and_or_left]; rfl

def GetPowerReadingRsp.toModel (g : GetPowerReadingRsp) : Wire.PowerReading :=
  { instantaneous := g.instantaneous.toNat, min := g.min.toNat, max := g.max.toNat, avg := g.avg.toNat
    timestamp := g.timestamp.toNat, period := g.period.toNat, active := g.active }

def GetChassisStatusRsp.toModel (g : GetChassisStatusRsp) : Wire.GetChassisStatusRsp :=
  { powerRestorePolicy := g.powerRestorePolicy
    flags0 := bit g.powerControlFault 0x10 ||| bit g.powerFault 8 ||| bit g.interlock 4 ||| bit g.powerOverload 2 ||| bit g.poweredOn 1
    flags1 := bit g.poweredOnByIPMI 0x10 ||| bit g.lastPowerDownFault 8 ||| bit g.lastPowerDownInterlock 4 |||
      bit g.lastPowerDownOverload 2 ||| bit g.lastPowerDownSupplyFailure 1
    identifyState := g.chassisIdentifyState
    flags2 := bit g.coolingFault 8 ||| bit g.driveFault 4 ||| bit g.lockout 2 ||| bit g.intrusion 1
    frontPanel := bit g.standbyButtonDisableAllowed 0x80 ||| bit g.diagnosticInterruptButtonDisableAllowed 0x40 |||
      bit g.resetButtonDisableAllowed 0x20 ||| bit g.powerOffButtonDisableAllowed 0x10 ||| bit g.standbyButtonDisabled 8 |||
      bit g.diagnosticInterruptButtonDisabled 4 ||| bit g.resetButtonDisabled 2 ||| bit g.powerOffButtonDisabled 1
    contents := g.contents, payload := g.payload }

theorem pack_1f : ∀ x : UInt8, bit (x &&& 16 != 0) 0x10 ||| bit (x &&& 8 != 0) 8 ||| bit (x &&& 4 != 0) 4 ||| bit (x &&& 2 != 0) 2 |||
    bit (x &&& 1 != 0) 1 = x &&& 0x1f := fun x => by
  simp +decide only [bit_and, and_or_left]; rfl
theorem pack_0f : ∀ x : UInt8, bit (x &&& 8 != 0) 8 ||| bit (x &&& 4 != 0) 4 ||| bit (x &&& 2 != 0) 2 ||| bit (x &&& 1 != 0) 1 = x &&& 0x0f :=
  fun x => by simp +decide only [bit_and, and_or_left]; rfl
theorem pack_ff : ∀ x : UInt8, bit (x &&& 128 != 0) 0x80 ||| bit (x &&& 64 != 0) 0x40 ||| bit (x &&& 32 != 0) 0x20 |||
    bit (x &&& 16 != 0) 0x10 ||| bit (x &&& 8 != 0) 8 ||| bit (x &&& 4 != 0) 4 ||| bit (x &&& 2 != 0) 2 ||| bit (x &&& 1 != 0) 1 = x :=
  fun x => by simp +decide only [bit_and, and_or_left]; exact UInt8.and_neg_one
theorem pack_00 : bit false 0x80 ||| bit false 0x40 ||| bit false 0x20 ||| bit false 0x10 ||| bit false 8 ||| bit false 4 |||
    bit false 2 ||| bit false 1 = 0 := by decide

theorem bcd_eq' (b : UInt8) : bcd_Decode b = Wire.bcdDecode b := bcd_eq b

def GetDeviceIDRsp.toModel (g : GetDeviceIDRsp) : Wire.GetDeviceIDRsp :=
  { id := g.id, providesSDRs := g.providesSDRs, revision := g.revision, available := g.available
    majorFirmwareRevision := g.majorFirmwareRevision, minorFirmwareRevision := g.minorFirmwareRevision
    majorIPMIVersion := g.majorIPMIVersion, minorIPMIVersion := g.minorIPMIVersion
    support := bit g.supportsChassisDevice 0x80 ||| bit g.supportsBridgeDevice 0x40 ||| bit g.supportsIPMBEventGeneratorDevice 0x20 |||
      bit g.supportsIPMBEventReceiverDevice 0x10 ||| bit g.supportsFRUInventoryDevice 8 ||| bit g.supportsSELDevice 4 |||
      bit g.supportsSDRRepositoryDevice 2 ||| bit g.supportsSensorDevice 1
    manufacturer := g.manufacturer.toNat, product := g.product.toNat, aux := g.auxiliaryFirmwareRevision, contents := g.contents }

theorem copy4_eq (dst src : Bytes) : GoDec.copyArr 4 dst src = Wire.copy4 dst src := rfl

def RAKPMessage4.toModel (g : RAKPMessage4) : Wire.Setup.RAKP4 :=
  { tag := g.tag, status := g.status, consoleSID := g.remoteConsoleSessionID.toNat, icv := g.icv, contents := g.contents }

def RAKPMessage2.toModel (g : RAKPMessage2) : Wire.RAKP2 :=
  { tag := g.tag, status := g.status, consoleSessionID := g.remoteConsoleSessionID.toNat, bmcRandom := g.managedSystemRandom
    bmcGUID := g.managedSystemGUID, authCode := g.authCode, contents := g.contents }

def RAKPMessage1.toModel (g : RAKPMessage1) : Wire.Setup.RAKP1 :=
  { tag := g.tag, bmcSID := g.managedSystemSessionID.toNat, consoleRandom := g.remoteConsoleRandom
    lookup := g.privilegeLevelLookup, maxPriv := g.maxPrivilegeLevel, username := g.username, contents := g.contents }

def V1Session.toModel (g : V1Session) : Wire.V1Session :=
  { authType := g.authType, sequence := g.sequence.toNat, id := g.id.toNat, authCode := g.authCode, length := g.length
    contents := g.contents, payload := g.payload }

def GetSessionInfoRsp.toModel (g : GetSessionInfoRsp) : Wire.SessionInfoRsp :=
  { handle := g.handle, max := g.max, active := g.active, userID := g.userID, privilegeLevel := g.privilegeLevel
    isIPMIv2 := g.isIPMIv2, channel := g.channel, ip := g.ip, mac := g.mac, port := g.port.toNat
    contents := g.contents, payload := g.payload }

/-- `copy(arr[:], data[lo:lo+k])` into a `[k]byte`, below the length guard: the array becomes the window -/
theorem copyArr_window {s : GoSlice} {n : Nat} (hn : n ≤ s.len) (dst : Bytes) (lo k : Nat) (h : lo + k ≤ n) :
    GoDec.copyArr k dst ((s.vis.drop lo).take k) = (s.vis.drop lo).take k := by
  rw [GoDec.copyArr_full _ _ _ (Nat.le_of_eq (GoSlice.window_length hn lo k h).symm), List.take_take, Nat.min_self]

theorem copyAt_v4 (src : Bytes) (h : src.length = 4) :
    GoDec.copyAt 16 12 [0, 0, 0, 0, 0, 0, 0, 0, 0, 0, 255, 255, 0, 0, 0, 0] src = Wire.v4Prefix ++ src := by
  have : 4 ≤ src.length := by omega
  simp [GoDec.copyAt, GoDec.copyArr_full, this, Wire.v4Prefix, List.take_of_length_le (Nat.le_of_eq h)]

def AuthenticationPayload.toModel (a : AuthenticationPayload) : Wire.Setup.AlgPayload := { wildcard := a.wildcard, algorithm := a.algorithm }
def IntegrityPayload.toModel (a : IntegrityPayload) : Wire.Setup.AlgPayload := { wildcard := a.wildcard, algorithm := a.algorithm }
def ConfidentialityPayload.toModel (a : ConfidentialityPayload) : Wire.Setup.AlgPayload := { wildcard := a.wildcard, algorithm := a.algorithm }

def OpenSessionRsp.toModel (g : OpenSessionRsp) : Wire.Setup.OpenSessionRsp :=
  { tag := g.tag, status := g.status, maxPriv := g.maxPrivilegeLevel, consoleSID := g.remoteConsoleSessionID.toNat
    bmcSID := g.managedSystemSessionID.toNat, auth := g.authenticationPayload.toModel, integ := g.integrityPayload.toModel
    conf := g.confidentialityPayload.toModel, contents := g.contents }

theorem auth_deserialise (a : AuthenticationPayload) (s : GoSlice) :
    (AuthenticationPayload.Deserialise a s).map (fun p => p.1.toModel) = Wire.Setup.deserialiseAlg 0 s := by
  unfold AuthenticationPayload.Deserialise Wire.Setup.deserialiseAlg
  refine R.map_guard fun h => ?_
  have hn : 8 ≤ s.len := Nat.le_of_not_lt h
  go_reads hn []
  exact R.map_guard fun _ => R.map_guard fun _ => rfl

theorem integ_deserialise (a : IntegrityPayload) (s : GoSlice) :
    (IntegrityPayload.Deserialise a s).map (fun p => p.1.toModel) = Wire.Setup.deserialiseAlg 1 s := by
  unfold IntegrityPayload.Deserialise Wire.Setup.deserialiseAlg
  refine R.map_guard fun h => ?_
  have hn : 8 ≤ s.len := Nat.le_of_not_lt h
  go_reads hn []
  exact R.map_guard fun _ => R.map_guard fun _ => rfl

theorem conf_deserialise (a : ConfidentialityPayload) (s : GoSlice) :
    (ConfidentialityPayload.Deserialise a s).map (fun p => p.1.toModel) = Wire.Setup.deserialiseAlg 2 s := by
  unfold ConfidentialityPayload.Deserialise Wire.Setup.deserialiseAlg
  refine R.map_guard fun h => ?_
  have hn : 8 ≤ s.len := Nat.le_of_not_lt h
  go_reads hn []
  exact R.map_guard fun _ => R.map_guard fun _ => rfl

theorem bind_via_map {α β γ : Type} (x : R α) (f : α → β) (k : α → R γ) (k' : β → R γ) (h : ∀ a, k a = k' (f a)) :
    (x >>= k) = (x.map f >>= k') := by
  rw [R.bind_map]; exact bind_congr h

def getDCMICapabilitiesInfoRspHeader.toModel (h : getDCMICapabilitiesInfoRspHeader) : Wire.DcmiHeader :=
  { major := h.majorVersion, minor := h.minorVersion, revision := h.revision }

def GetDCMICapabilitiesInfoManageabilityAccessAttrsRsp.toModel (g : GetDCMICapabilitiesInfoManageabilityAccessAttrsRsp) : Wire.DcmiCap4 :=
  { hdr := g.getDCMICapabilitiesInfoRspHeader.toModel, primaryLAN := g.primaryLANOOBChannel, secondaryLAN := g.secondaryLANOOBChannel
    serial := g.serialOOBChannel, contents := g.contents, payload := g.payload }

def GetDCMICapabilitiesInfoOptionalPlatformAttrsRsp.toModel (g : GetDCMICapabilitiesInfoOptionalPlatformAttrsRsp) : Wire.DcmiCap3 :=
  { hdr := g.getDCMICapabilitiesInfoRspHeader.toModel, slaveAddress := g.powerManagementSlaveAddress, channel := g.powerManagementChannel
    revision := g.powerManagementRevision, contents := g.contents, payload := g.payload }

def GetDCMICapabilitiesInfoSupportedCapabilitiesRsp.toModel (g : GetDCMICapabilitiesInfoSupportedCapabilitiesRsp) : Wire.DcmiCap1 :=
  { hdr := g.getDCMICapabilitiesInfoRspHeader.toModel, temperatureMonitor := g.temperatureMonitor, chassisPower := g.chassisPower
    selLogging := g.selLogging, identification := g.identification, powerManagement := g.powerManagement, vlanCapable := g.vlanCapable
    solSupported := g.solSupported, oobPrimary := g.oobPrimaryLANChannelAvailable, oobSecondary := g.oobSecondaryLANChannelAvailable
    serialTMODE := g.serialTMODEAvailable, ibKCS := g.ibkcsChannelAvailable, ibSystemInterface := g.ibSystemInterfaceChannelAvailable
    contents := g.contents, payload := g.payload }

def GetDCMICapabilitiesInfoMandatoryPlatformAttrsRsp.toModel (g : GetDCMICapabilitiesInfoMandatoryPlatformAttrsRsp) : Wire.DcmiCap2 :=
  { hdr := g.getDCMICapabilitiesInfoRspHeader.toModel, selAutoRollover := g.selAutoRollover, selFlushOnRollover := g.selFlushOnRollover
    selRecordLevelFlushOnRollover := g.selRecordLevelFlushOnRollover, selMaxEntries := g.selMaxEntries.toNat
    assetTagSupport := g.assetTagSupport, dhcpHostNameSupport := g.dhcpHostNameSupport, guidSupport := g.guidSupport
    baseboardTemperature := g.baseboardTemperature, processorsTemperature := g.processorsTemperature
    inletTemperature := g.inletTemperature, temperatureSamplingFrequency := g.temperatureSamplingFrequency.toNat
    contents := g.contents, payload := g.payload }

theorem le16_pair (a b : UInt8) : Wire.le16 [a, b] = a.toNat + 256 * b.toNat := rfl

theorem hdr_decode_err (h0 : getDCMICapabilitiesInfoRspHeader) (d : GoSlice) (hl : d.len < 3) :
    getDCMICapabilitiesInfoRspHeader.Decode h0 d = .err := by
  unfold getDCMICapabilitiesInfoRspHeader.Decode; rw [if_pos hl]

theorem hdr_decode_ok (h0 : getDCMICapabilitiesInfoRspHeader) (d : GoSlice) (hl : 3 ≤ d.len) :
    getDCMICapabilitiesInfoRspHeader.Decode h0 d =
      .ok ({ majorVersion := d.vis.getD 0 0, minorVersion := d.vis.getD 1 0, revision := d.vis.getD 2 0 },
           d.sub 3 d.len hl (Nat.le_refl _)) := by
  unfold getDCMICapabilitiesInfoRspHeader.Decode
  rw [if_neg (Nat.not_lt.mpr hl)]
  go_reads hl []

/-- the DCMI capabilities header on both sides: the parameter decoders are compared on the body `data[3:]` -/
theorem dcmi_header {γ δ : Type} (h0 : getDCMICapabilitiesInfoRspHeader) (d : GoSlice)
    {k : getDCMICapabilitiesInfoRspHeader × GoSlice → R γ} {k' : Wire.DcmiHeader × GoSlice → R δ} {g : γ → δ}
    (hk : ∀ h3 : 3 ≤ d.len,
      (k ({ majorVersion := d.vis.getD 0 0, minorVersion := d.vis.getD 1 0, revision := d.vis.getD 2 0 },
          d.sub 3 d.len h3 (Nat.le_refl _))).map g = k' (Wire.DcmiHeader.ofBytes d.vis, d.sub 3 d.len h3 (Nat.le_refl _))) :
    (getDCMICapabilitiesInfoRspHeader.Decode h0 d >>= k).map g = (Wire.DcmiHeader.decodeGo d >>= k') := by
  by_cases h : d.len < 3
  · rw [hdr_decode_err _ _ h, Wire.DcmiHeader.decodeGo_err _ h]; rfl
  · rw [hdr_decode_ok _ _ (Nat.le_of_not_lt h), Wire.DcmiHeader.decodeGo_ok _ (Nat.le_of_not_lt h)]
    exact hk _

/-- `len(data) - len(body) + c`, the end of the contents, as a slice bound -/
theorem nat_len_sub (a k c : Nat) :
    GoDec.nat (((a : Nat) : Int) - ((a - k : Nat) : Int) + ((c : Nat) : Int)) = .ok (a - (a - k) + c) :=
  GoDec.nat_sub_add _ _ _ (Nat.sub_le _ _)

theorem checksum_eq (b : Bytes) : ipmi_checksum b = Prim.checksum b := rfl
theorem isRequest_eq (n : UInt8) : NetworkFunction_IsRequest n = Wire.isRequest n := rfl

def Message.toModel (g : Message) : Wire.Message :=
  { function := g.operation.function, body := g.operation.body, enterprise := g.operation.enterprise.toNat
    command := g.operation.command, remoteAddress := g.remoteAddress, remoteLUN := g.remoteLUN, checksum1 := g.checksum1
    localAddress := g.localAddress, localLUN := g.localLUN, sequence := g.sequence, completionCode := g.completionCode
    checksum2 := g.checksum2, contents := g.contents, payload := g.payload }

theorem Message.decodeSpecialNetFns_eq (r : Message) (s : GoSlice) :
    (Message.decodeSpecialNetFns r s).map (fun p => (p.1.toModel, p.2)) =
      (Wire.Message.specialGo r.operation.function s).map
        (fun t => ({ r.toModel with body := t.1, enterprise := t.2.1 }, (t.2.2 : Int))) := by
  unfold Message.decodeSpecialNetFns Wire.Message.specialGo Wire.isGroup Wire.isOEM
  simp only []
  split
  · split
    · rfl
    · rw [GoSlice.idx_ok _ _ (by omega)]; rfl
  · split
    · split
      · rfl
      · rw [GoSlice.idx_ok _ 0 (by omega), GoSlice.idx_ok _ 1 (by omega), GoSlice.idx_ok _ 2 (by omega)]
        simp only [R.bind_ok, R.pure_eq, R.map, Message.toModel, or_shl24]
    · rfl

/-- `decodeDataHeader` from any offset `start` (6 on requests, 7 on responses): the slices are the model's, so none of
    them is evaluated -/
theorem Message.decodeDataHeader_eq (r : Message) (d : GoSlice) (start : Nat) (h1 : 1 ≤ d.len) :
    (Message.decodeDataHeader r d start).map Message.toModel = (do
      let inner ← d.slice start (d.len - 1)
      let (body, ent, consumed) ← Wire.Message.specialGo r.operation.function inner
      let c ← d.slice 0 (start + consumed)
      let p ← d.slice (start + consumed) (d.len - 1)
      pure { r.toModel with body := body, enterprise := ent, contents := c.vis, payload := p.vis }) := by
  unfold Message.decodeDataHeader
  simp only [GoDec.nat_cast, GoDec.nat_sub _ _ h1, R.bind_ok]
  rw [R.map_bind]
  refine bind_congr fun inner => R.bind_sim (Message.decodeSpecialNetFns_eq r inner) fun p t hpt => ?_
  obtain ⟨hm, hc⟩ := Prod.mk.inj hpt
  simp only [hc, GoDec.nat_add, R.bind_ok, R.map_bind]
  refine bind_congr fun c => bind_congr fun p' => ?_
  exact congrArg R.ok (congrArg (fun m : Wire.Message => { m with contents := c.vis, payload := p'.vis }) hm)

theorem rolling_eq : ∀ b : UInt8, (dcmi_rollingAvgPeriodDuration b).toNat = Wire.rollingNs b := forall_uint8 (by decide +kernel)

abbrev Cap5 := GetDCMICapabilitiesInfoEnhancedSystemPowerStatisticsAttrsRsp

theorem cap5_loop (body : GoSlice) (n : Nat) (hb : 1 + n ≤ body.len) (m : Nat) (hm : m ≤ n) (r : Cap5)
    (hl : r.powerRollingAvgTimePeriods.length = n) :
    List.foldlM (fun (r : Cap5) i => (do
      let t4 ← body.idx (1 + i)
      let t5 ← GoDec.setAt r.powerRollingAvgTimePeriods i (dcmi_rollingAvgPeriodDuration t4)
      R.ok { r with powerRollingAvgTimePeriods := t5 })) r (List.range m)
    = R.ok { r with powerRollingAvgTimePeriods :=
        (List.range m).map (fun i => dcmi_rollingAvgPeriodDuration (body.vis.getD (1 + i) 0)) ++ r.powerRollingAvgTimePeriods.drop m } := by
  induction m with
  | zero => simp
  | succ m ih =>
    rw [List.range_succ, List.foldlM_append, ih (by omega)]
    simp only [R.bind_ok, List.foldlM_cons, List.foldlM_nil, R.pure_eq]
    rw [GoSlice.idx_ok _ _ (by omega)]
    simp only [R.bind_ok, GoDec.setAt]
    have hlen : m < ((List.range m).map (fun i => dcmi_rollingAvgPeriodDuration (body.vis.getD (1 + i) 0)) ++
        r.powerRollingAvgTimePeriods.drop m).length := by simp; omega
    rw [if_pos hlen]
    simp only [R.bind_ok]
    rw [set_append_drop _ _ _ _ (by simp) (by omega)]
    simp [List.map_append]

def GetDCMICapabilitiesInfoEnhancedSystemPowerStatisticsAttrsRsp.toModel (g : Cap5) : Wire.DcmiCap5 :=
  { hdr := g.getDCMICapabilitiesInfoRspHeader.toModel, periods := g.powerRollingAvgTimePeriods.map Int.toNat
    contents := g.contents, payload := g.payload }

theorem sensorInfo_loop (d : GoSlice) (n : Nat) (hd : 2 + n * 2 ≤ d.len) (m : Nat) (hm : m ≤ n) (r : GetDCMISensorInfoRsp) :
    List.foldlM (fun (r : GetDCMISensorInfoRsp) i => (do
      let t6 ← d.sliceFrom (2 + i * 2)
      let t7 ← GoDec.le16Go t6
      R.ok { r with recordIDs := r.recordIDs ++ [t7] })) r (List.range m)
    = R.ok { r with recordIDs := r.recordIDs ++ (List.range m).map (fun i => GoDec.le16 (d.vis.drop (2 + i * 2))) } := by
  induction m with
  | zero => simp
  | succ m ih =>
    rw [List.range_succ, List.foldlM_append, ih (by omega)]
    simp only [R.bind_ok, List.foldlM_cons, List.foldlM_nil, R.pure_eq]
    rw [GoSlice.sliceFrom_ok _ _ (by omega)]
    simp only [R.bind_ok, GoDec.le16Go, GoSlice.sub_len]
    have : ¬ d.len - (2 + m * 2) < 2 := by omega
    simp only [this, if_false, R.bind_ok, GoSlice.sub_tail_vis, List.map_append, List.map_cons, List.map_nil, List.append_assoc]

def GetDCMISensorInfoRsp.toView (g : GetDCMISensorInfoRsp) : Wire.SensorInfoView :=
  { instances := g.instances, recordIDs := g.recordIDs.map UInt16.toNat, contents := g.contents, payload := g.payload }

end Bmc.Gen.Dec
