import Bmc.Proto.Sessionless
import Bmc.Lemmas.SessionSpec
import Bmc.Lemmas.AesRefine
import Bmc.Lemmas.MessageRefine
import Bmc.Lemmas.MessageRoundTrip
import Bmc.Lemmas.V2RoundTrip
import Bmc.Lemmas.AesRoundTrip
/-! COMPLETENESS of the in-session receive path: the datagram a conforming BMC builds in answer to a command — the
    response message (addresses swapped, NetFn + 1, same command / sequence / group or OEM prefix, completion code,
    body), AES-CBC under K2, wrapped for the CONSOLE's session ID, authenticated under K1 — decodes through the whole
    chain and is classified as the command's final response (or, for the two temporary codes, as a retry). -/
namespace Bmc.Proto
open Bmc Bmc.Wire Bmc.Crypto

/-- the response message to `c` (IPMI 13.8: rqAddr / NetFn+1 / rsAddr / rqSeq echoed / command / completion code) -/
def responseMsg (c : Cmd) (cc : UInt8) : Message :=
  { function := c.fn + 1, body := c.body, enterprise := c.ent, command := c.cmd
    remoteAddress := 0x81, remoteLUN := 0, localAddress := 0x20, localLUN := c.lun, sequence := 1
    completionCode := cc }

def responseBytes (c : Cmd) (cc : UInt8) (data : Bytes) : Bytes := (Message.encode (responseMsg c cc) data).2

def responseAes (C : Ops) (k : Keys) (c : Cmd) (cc : UInt8) (data iv : Bytes) : Bytes :=
  AESLayer.encode C k.k2 iv (responseBytes c cc data)

/-- the wrapper of a response: addressed to the console's session ID, both flags set, payload type IPMI -/
def responseWrapper (k : Keys) (seq : Nat) : V2Session :=
  { encrypted := true, authenticated := true, id := k.localID, payloadType := 0, sequence := seq }

/-- the whole datagram: RMCP header (version 6, no ACK, class IPMI) + authenticated, encrypted session wrapper -/
def responseDatagram (C : Ops) (k : Keys) (c : Cmd) (cc : UInt8) (data : Bytes) (seq : Nat) (iv : Bytes) : Bytes :=
  [6, 0, 0xFF, 7] ++ (V2Session.encode (integMac C k.integ k.k1) (responseWrapper k seq) (responseAes C k c cc data iv)).2

theorem onReply_reaches (C : Ops) (hC : C.Lawful) (s : Sess) (b0 b1 b2 b3 : UInt8) (rest : Bytes) (v : V2Session) (a : AESLayer)
    (m : Message) (hcls : b3 &&& 0xF = 7) (hv : V2Session.decode (integMac C s.integ s.k1) rest = .ok v)
    (hpt : v.payloadType = 0) (he : v.encrypted = true) (ha : AESLayer.decode C s.k2 v.payload = .ok a)
    (hm : Message.decode 8 a.payload = .ok m) :
    view (onReply C s (GoSlice.ofBytes (b0 :: b1 :: b2 :: b3 :: rest))) = (.message, some (v, m)) := by
  obtain ⟨h12, h6⟩ := V2Session.decode_head hv
  have h17 := AESLayer.decode_length ha
  have h7 := (Message.decode_ok hm).1
  have e1 : (rest.length == 0) = false := beq_eq_false_iff_ne.mpr (by omega)
  have e2 : v.payload.isEmpty = false := by cases hp : v.payload <;> simp_all
  have e3 : (a.payload.length == 0) = false := beq_eq_false_iff_ne.mpr (by omega)
  rw [onReply_view_eq, rmcp_decode_any]
  simp only [GoSlice.len_ofBytes, GoSlice.vis_ofBytes, hv, hcls, h6, e1, bne_self_eq_false, Bool.or_self, Bool.false_eq_true, if_false]
  unfold onWrapper
  simp only [hpt, he, e2, AESLayer.decodeGo_refines C hC, GoSlice.vis_ofBytes, ha, R.ofExcept_ok, bne_self_eq_false,
    Bool.false_eq_true, if_false, if_true]
  unfold onMessage
  simp only [Message.decodeGo_refines, GoSlice.len_ofBytes, GoSlice.vis_ofBytes, hm, e3, R.ofExcept_ok, Bool.false_eq_true, if_false]
  rfl

/-- two commands are the same operation when NetFn, command number, group body code and OEM enterprise agree -/
def sameOperation (c c' : Cmd) : Bool := c'.fn == c.fn && c'.cmd == c.cmd && c'.body == c.body && c'.ent == c.ent

theorem slAcceptable_response (c c' : Cmd) (cc : UInt8) : slAcceptable c (responseMsg c' cc) = sameOperation c c' := by
  have h : (c'.fn + 1 == c.fn + 1) = (c'.fn == c.fn) := by
    rw [Bool.eq_iff_iff]; simp
  rw [slAcceptable, sameOperation, ← h]; rfl

theorem accept_response (k : Keys) (c c' : Cmd) (seq : Nat) (cc : UInt8) :
    accept k c (responseWrapper k seq) (responseMsg c' cc) = sameOperation c c' := by
  -- the two tests on the wrapper (authenticated, addressed to this session) hold of `responseWrapper`; the rest is `slAcceptable`
  have h : accept k c (responseWrapper k seq) (responseMsg c' cc) = slAcceptable c (responseMsg c' cc) := by
    simp [accept, slAcceptable, responseWrapper, Bool.and_assoc]
  rw [h, slAcceptable_response]

theorem classify_answer (C : Ops) (hC : C.Lawful) (k : Keys) (c c' : Cmd) (cc : UInt8) (data : Bytes) (seq : Nat) (iv : Bytes)
    (hiv : iv.length = 16) (hm : (responseMsg c' cc).WF) (hid : k.localID < 4294967296) (hseq : seq < 4294967296)
    (hlen : (responseAes C k c' cc data iv).length < 65536) :
    classify C k c (responseDatagram C k c' cc data seq iv) =
      if sameOperation c c' && !isTemp cc then .final cc data else .retry := by
  have hwf : (responseWrapper k seq).WF (responseAes C k c' cc data iv) :=
    ⟨(by decide : (0 : UInt8).toNat < 64), hid, hseq, hlen, (by decide : 0 < 4294967296), (by decide : 0 < 65536),
     fun _ => ⟨rfl, rfl⟩, fun h => nomatch h⟩
  -- one round trip per layer (C08)
  have hview := onReply_reaches C hC k.sess 6 0 0xFF 7 _ _ _ _ rfl
    (V2Session.decode_encode (integMac C k.integ k.k1) (responseWrapper k seq) _ hwf) rfl rfl
    (AESLayer.decode_encode C hC k.k2 iv (responseBytes c' cc data) hiv) (Message.decode_encode (responseMsg c' cc) data hm)
  refine (classify_of_view (d := responseDatagram C k c' cc data seq iv) hview).trans ?_
  -- of the decoded wrapper and message the test reads the fields the serialisers leave as they are
  show (if (accept k c (responseWrapper k seq) (responseMsg c' cc) && !isTemp cc) = true then Class.final cc data else .retry) = _
  rw [accept_response]

theorem classify_response (C : Ops) (hC : C.Lawful) (k : Keys) (c : Cmd) (cc : UInt8) (data : Bytes) (seq : Nat) (iv : Bytes)
    (hiv : iv.length = 16) (hm : (responseMsg c cc).WF) (hid : k.localID < 4294967296) (hseq : seq < 4294967296)
    (hlen : (responseAes C k c cc data iv).length < 65536) :
    classify C k c (responseDatagram C k c cc data seq iv) = if isTemp cc then .retry else .final cc data := by
  rw [classify_answer C hC k c c cc data seq iv hiv hm hid hseq hlen, show sameOperation c c = true by simp [sameOperation]]
  cases isTemp cc <;> rfl

theorem classify_stray (C : Ops) (hC : C.Lawful) (k : Keys) (c c' : Cmd) (hne : sameOperation c c' = false) (cc : UInt8) (data : Bytes)
    (seq : Nat) (iv : Bytes) (hiv : iv.length = 16) (hm : (responseMsg c' cc).WF) (hid : k.localID < 4294967296)
    (hseq : seq < 4294967296) (hlen : (responseAes C k c' cc data iv).length < 65536) :
    classify C k c (responseDatagram C k c' cc data seq iv) = .retry := by
  rw [classify_answer C hC k c c' cc data seq iv hiv hm hid hseq hlen, hne]; rfl

end Bmc.Proto
