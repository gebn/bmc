import Bmc.Proto.Enum
import Bmc.Spec.Enum
import Bmc.Lemmas.LittleEndian
/-! Helper lemmas for C16, the cipher suite record parser (`Proto.Enum.parseLoop`): what `scan`, `parseAlgs`, `parseOne` and the
    outer loop make of the specification's encoding of well-formed records (`Spec.Enum.Record.encode`). -/
namespace Bmc.Lemmas.Enum
open Bmc Bmc.Proto.Enum Bmc.Spec.Enum

theorem auth_tag : ∀ a, a < 64 → (authByte a >>> 6 != 0) = false ∧ (authByte a).toNat = a := by decide +kernel
theorem integ_tag : ∀ a, a < 64 → (integByte a >>> 6 == 1) = true ∧ (integByte a >>> 6 == 2) = false ∧
    (integByte a &&& 0x3f).toNat = a := by decide +kernel
theorem conf_tag : ∀ a, a < 64 → (confByte a >>> 6 == 2) = true ∧ (confByte a >>> 6 == 1) = false ∧
    (confByte a &&& 0x3f).toNat = a := by decide +kernel
/-- a byte that begins a record carries tag 11b: neither scan continues over it -/
theorem start_tag : ∀ b : UInt8, (b >>> 1 != 0x60) = false → (b >>> 6 == 1) = false ∧ (b >>> 6 == 2) = false := by
  apply forall_uint8; decide +kernel
theorem tag1_not_start : ∀ b : UInt8, (b >>> 6 == 1) = true → (b >>> 1 != 0x60) = true := by
  apply forall_uint8; decide +kernel
theorem tag0_not_start : ∀ b : UInt8, (b >>> 6 != 0) = false → (b >>> 1 != 0x60) = true := by
  apply forall_uint8; decide +kernel

theorem iana_read (n : Nat) (h : n < 16777216) :
    (UInt8.ofNat (n % 256)).toNat + (UInt8.ofNat (n / 256 % 256)).toNat * 256
      + (UInt8.ofNat (n / 65536 % 256)).toNat * 65536 = n := by
  simpa [Nat.mul_comm] using Wire.le24_split n h

theorem start_std : ∀ b : UInt8, (b >>> 1 != 0x60) = false → (b &&& 1 == 0) = true → b = 0xC0 := by
  apply forall_uint8; decide +kernel
theorem start_oem : ∀ b : UInt8, (b >>> 1 != 0x60) = false → (b &&& 1 == 0) = false → b = 0xC1 := by
  apply forall_uint8; decide +kernel

theorem iana_bytes (b2 b3 b4 : UInt8) :
    b2.toNat + b3.toNat * 256 + b4.toNat * 65536 < 16777216 ∧
    UInt8.ofNat ((b2.toNat + b3.toNat * 256 + b4.toNat * 65536) % 256) = b2 ∧
    UInt8.ofNat ((b2.toNat + b3.toNat * 256 + b4.toNat * 65536) / 256 % 256) = b3 ∧
    UInt8.ofNat ((b2.toNat + b3.toNat * 256 + b4.toNat * 65536) / 65536 % 256) = b4 := by
  have h2 := b2.toNat_lt; have h3 := b3.toNat_lt; have h4 := b4.toNat_lt
  refine ⟨by omega, ?_, ?_, ?_⟩ <;> (apply UInt8.toNat_inj.mp; simp; omega)

theorem bidx_eq (j : Bytes) (i : Nat) : bidx j i = if i < j.length then .ok (j.getD i 0) else .panic := by
  simp [bidx, GoSlice.idx, GoSlice.ofBytes]

@[simp] theorem bidx_zero (a : UInt8) (t : Bytes) : bidx (a :: t) 0 = .ok a := by simp [bidx_eq]
@[simp] theorem bidx_succ (a : UInt8) (t : Bytes) (i : Nat) : bidx (a :: t) (i + 1) = bidx t i := by
  simp [bidx_eq]
theorem bidx_append (pre : Bytes) (b : UInt8) (rest : Bytes) : bidx (pre ++ b :: rest) pre.length = .ok b := by
  simp [bidx_eq]

theorem scan_run (tag : UInt8) (mk : Nat → UInt8)
    (hmk : ∀ a, a < 64 → (mk a >>> 6 == tag) = true ∧ (mk a &&& 0x3f).toNat = a) :
    ∀ (run : List Nat), (∀ a ∈ run, a < 64) → ∀ (pre rest : Bytes), (∀ b t, rest = b :: t → (b >>> 6 == tag) = false) →
    ∀ (f : Nat), run.length ≤ f → ∀ (acc : List Nat),
    scan (pre ++ (run.map mk ++ rest)) tag f pre.length acc = .ok (pre.length + run.length, acc ++ run) := by
  intro run
  induction run with
  | nil =>
    intro _ pre rest hrest f _ acc
    cases f with
    | zero => simp [scan]
    | succ f =>
      unfold scan
      cases rest with
      | nil => simp
      | cons b t =>
        have hne : ¬ (b >>> 6 = tag) := by simpa using hrest b t rfl
        simp [bidx_append, hne]
  | cons a run ih =>
    intro hrun pre rest hrest f hf acc
    cases f with
    | zero => simp at hf
    | succ f =>
      have ha := hmk a (hrun a (by simp))
      unfold scan
      have hlen : (pre ++ (List.map mk (a :: run) ++ rest)).length > pre.length := by simp
      simp only [hlen, if_true]
      have hb : bidx (pre ++ (List.map mk (a :: run) ++ rest)) pre.length = .ok (mk a) := by
        simpa using bidx_append pre (mk a) (run.map mk ++ rest)
      simp only [hb, R.bind_ok, ha.1, ha.2, if_true]
      have e : pre ++ (List.map mk (a :: run) ++ rest) = (pre ++ [mk a]) ++ (run.map mk ++ rest) := by simp
      have := ih (fun x hx => hrun x (by simp [hx])) (pre ++ [mk a]) rest hrest f (by simpa using hf) (acc ++ [a])
      rw [e]
      simp only [List.length_append, List.length_cons, List.length_nil, Nat.zero_add] at this
      rw [this]
      simp
      omega

theorem orNone_eq (l : List Nat) : Proto.Enum.orNone l = Spec.Enum.orNone l := by
  cases l <;> simp [Proto.Enum.orNone, Spec.Enum.orNone]

/-- the model's record type seen from the specification's -/
def view (e : CipherSuiteEntry) : Entry := { id := e.id, iana := e.iana, auth := e.auth, integ := e.integ, conf := e.conf }

theorem cross_expand (r : Record) :
    cross r.id (r.iana.getD 0) r.auth (Proto.Enum.orNone r.integ) (Proto.Enum.orNone r.conf) = (expand r).map view := by
  simp [cross, expand, orNone_eq, List.map_flatMap, view, Function.comp_def]

/-- what may follow a record for it to be read back in full: the next byte (if any) does not carry the confidentiality
    tag, nor the integrity tag when the record lists no confidentiality algorithm -/
def okAfter (r : Record) (rest : Bytes) : Prop :=
  ∀ b t, rest = b :: t → (b >>> 6 == 2) = false ∧ (r.conf = [] → (b >>> 6 == 1) = false)

theorem parseAlgs_encode (r : Record) (hw : r.wf) (pre rest : Bytes) (hrest : okAfter r rest) (id iana : Nat) :
    parseAlgs (pre ++ authByte r.auth :: (r.integ.map integByte ++ r.conf.map confByte) ++ rest) id iana pre.length =
      .ok (cross id iana r.auth (Proto.Enum.orNone r.integ) (Proto.Enum.orNone r.conf), rest) := by
  obtain ⟨_, _, hauth, hinteg, hconf⟩ := hw
  have hA := auth_tag r.auth hauth
  -- what follows the integrity run is the confidentiality run if there is one, else `rest`
  have hstop : ∀ b t, r.conf.map confByte ++ rest = b :: t → (b >>> 6 == 1) = false := by
    intro b t hbt
    cases hc : r.conf with
    | nil => rw [hc] at hbt; exact (hrest b t hbt).2 hc
    | cons c cs =>
      rw [hc] at hbt
      obtain ⟨rfl, _⟩ := List.cons.inj hbt
      exact (conf_tag c (hconf c (by simp [hc]))).2.1
  have s1 := scan_run 1 integByte (fun a h => ⟨(integ_tag a h).1, (integ_tag a h).2.2⟩) r.integ hinteg
    (pre ++ [authByte r.auth]) (r.conf.map confByte ++ rest) hstop
  have s2 := scan_run 2 confByte (fun a h => ⟨(conf_tag a h).1, (conf_tag a h).2.2⟩) r.conf hconf
    (pre ++ authByte r.auth :: r.integ.map integByte) rest (fun b t hbt => (hrest b t hbt).1)
  -- all three seen over the same `joined`
  simp only [List.append_assoc, List.cons_append, List.nil_append, List.length_append, List.length_cons, List.length_nil,
    List.length_map, Nat.zero_add] at s1 s2 ⊢
  generalize hj : pre ++ authByte r.auth :: (r.integ.map integByte ++ (r.conf.map confByte ++ rest)) = j at s1 s2 ⊢
  have hlen : j.length = pre.length + 1 + r.integ.length + r.conf.length + rest.length := by rw [← hj]; simp; omega
  have hd : j.drop (pre.length + 1 + r.integ.length + r.conf.length) = rest := by
    rw [← hj, show pre.length + 1 + r.integ.length + r.conf.length
      = (pre ++ authByte r.auth :: (r.integ.map integByte ++ r.conf.map confByte)).length by simp; omega]
    simp only [← List.append_assoc, ← List.cons_append]
    rw [List.drop_left]
  unfold parseAlgs
  rw [show bidx j pre.length = .ok (authByte r.auth) by rw [← hj]; exact bidx_append _ _ _]
  simp only [R.bind_ok, hA.1, hA.2, if_false, Bool.false_eq_true, s1 j.length (by omega) [], List.nil_append,
    show pre.length + 1 + r.integ.length = pre.length + (r.integ.length + 1) by omega, s2 j.length (by omega) []]
  rw [if_neg (by omega), show pre.length + (r.integ.length + 1) + r.conf.length = pre.length + 1 + r.integ.length + r.conf.length by omega, hd]
  rfl

theorem parseOne_bad_start (b : UInt8) (rest : Bytes) (hb : (b >>> 1 != 0x60) = true) : parseOne (b :: rest) = .err := by
  simp only [parseOne, bidx_zero, R.bind_ok, hb, if_true]

theorem parseOne_std (t : Bytes) :
    parseOne (0xC0 :: t) = if t.length < 2 then .err else parseAlgs (0xC0 :: t) (t.getD 0 0).toNat 0 2 := by
  have c1 : ((0xC0 : UInt8) >>> 1 != 0x60) = false := by decide
  have c2 : ((0xC0 : UInt8) &&& 1 == 0) = true := by decide
  simp only [parseOne, bidx_zero, bidx_succ, R.bind_ok, c1, c2, List.length_cons, if_true, if_false, Bool.false_eq_true,
    Nat.add_lt_add_iff_right (k := 1) (m := 2)]
  split
  · rfl
  · rw [bidx_eq, if_pos (by omega)]; rfl

theorem parseOne_oem (t : Bytes) :
    parseOne (0xC1 :: t) = if t.length < 5 then .err else
      parseAlgs (0xC1 :: t) (t.getD 0 0).toNat ((t.getD 1 0).toNat + (t.getD 2 0).toNat * 256 + (t.getD 3 0).toNat * 65536) 5 := by
  have c1 : ((0xC1 : UInt8) >>> 1 != 0x60) = false := by decide
  have c2 : ((0xC1 : UInt8) &&& 1 == 0) = false := by decide
  simp only [parseOne, bidx_zero, bidx_succ, R.bind_ok, c1, c2, List.length_cons, if_false, Bool.false_eq_true,
    Nat.add_lt_add_iff_right (k := 1) (m := 5)]
  split
  · rfl
  · simp only [bidx_eq, if_pos (show 0 < t.length by omega), if_pos (show 1 < t.length by omega),
      if_pos (show 2 < t.length by omega), if_pos (show 3 < t.length by omega), R.bind_ok]

theorem parseOne_header (r : Record) (hid : r.id < 256) (hn : ∀ n, r.iana = some n → n < 16777216) (t : Bytes)
    (ht : 1 ≤ t.length) :
    parseOne (r.header ++ t) = parseAlgs (r.header ++ t) r.id (r.iana.getD 0) r.header.length := by
  unfold Record.header
  cases hi : r.iana with
  | none =>
    show parseOne (0xC0 :: UInt8.ofNat r.id :: t) = _
    rw [parseOne_std, if_neg (by simp; omega), List.getD_cons_zero, UInt8.toNat_ofNat_of_lt' hid]
    rfl
  | some n =>
    show parseOne (0xC1 :: UInt8.ofNat r.id :: UInt8.ofNat (n % 256) :: UInt8.ofNat (n / 256 % 256) :: UInt8.ofNat (n / 65536 % 256) :: t) = _
    rw [parseOne_oem, if_neg (by simp; omega)]
    simp only [List.getD_cons_zero, List.getD_cons_succ, iana_read n (hn n hi), UInt8.toNat_ofNat_of_lt' hid]
    rfl

theorem parseOne_encode (r : Record) (hw : r.wf) (rest : Bytes) (hrest : okAfter r rest) :
    parseOne (r.encode ++ rest) = .ok ((expand r).map view, rest) := by
  rw [← cross_expand, Record.encode, List.append_assoc, parseOne_header r hw.1 hw.2.1 _ (by simp)]
  simpa using parseAlgs_encode r hw r.header rest hrest r.id (r.iana.getD 0)

theorem parseOne_cases (j : Bytes) (hj : 0 < j.length) :
    parseOne j = .err ∨ ∃ (r : Record) (t : Bytes), r.id < 256 ∧ (∀ n, r.iana = some n → n < 16777216) ∧
      j = r.header ++ t ∧ 1 ≤ t.length := by
  match j, hj with
  | a :: t, _ =>
    by_cases hs : (a >>> 1 != 0x60) = true
    · exact Or.inl (parseOne_bad_start a t hs)
    · by_cases hk : (a &&& 1 == 0) = true
      · obtain rfl := start_std a (by simpa using hs) hk
        match t with
        | id :: x :: t' => exact Or.inr ⟨⟨id.toNat, none, 0, [], []⟩, x :: t', id.toNat_lt, nofun, by simp [Record.header], by simp⟩
        | [] | [_] => exact Or.inl (by rw [parseOne_std]; rfl)
      · obtain rfl := start_oem a (by simpa using hs) (by simpa using hk)
        match t with
        | id :: b2 :: b3 :: b4 :: x :: t' =>
          obtain ⟨n1, n2, n3, n4⟩ := iana_bytes b2 b3 b4
          exact Or.inr ⟨⟨id.toNat, some (b2.toNat + b3.toNat * 256 + b4.toNat * 65536), 0, [], []⟩, x :: t', id.toNat_lt,
            (by intro n h; cases h; exact n1), by simp [Record.header, n2, n3, n4], by simp⟩
        | [] | [_] | [_, _] | [_, _, _] | [_, _, _, _] => exact Or.inl (by rw [parseOne_oem]; rfl)

theorem parseLoop_err (f : Nat) (j : Bytes) (acc : List Entry) (hj : 0 < j.length) (h : parseOne j = .err) :
    parseLoop (f + 1) j acc = .err := by
  simp only [parseLoop, gt_iff_lt, hj, if_true, h, R.bind_err]

theorem parseLoop_step (f : Nat) (j : Bytes) (acc es : List Entry) (j' : Bytes) (hj : 0 < j.length)
    (h : parseOne j = .ok (es, j')) : parseLoop (f + 1) j acc = parseLoop f j' (acc ++ es) := by
  simp only [parseLoop, gt_iff_lt, hj, if_true, h, R.bind_ok]

theorem encode_length (r : Record) : 3 ≤ r.encode.length := by
  unfold Record.encode Record.header
  cases r.iana <;> simp <;> omega

theorem encode_head (r : Record) : ∃ b t, r.encode = b :: t ∧ (b >>> 1 != 0x60) = false := by
  unfold Record.encode Record.header
  cases r.iana
  · exact ⟨0xC0, _, rfl, by decide⟩
  · exact ⟨0xC1, _, rfl, by decide⟩

theorem encodeRecords_cons (r : Record) (rs : List Record) : encodeRecords (r :: rs) = r.encode ++ encodeRecords rs := by
  simp [encodeRecords]

theorem okAfter_nil (r : Record) : okAfter r [] := nofun

theorem okAfter_cons (r : Record) (b : UInt8) (t : Bytes) (h : (b >>> 6 == 1) = false ∧ (b >>> 6 == 2) = false) :
    okAfter r (b :: t) := by
  rintro _ _ ⟨rfl, rfl⟩; exact ⟨h.2, fun _ => h.1⟩

theorem okAfter_encode (r r' : Record) (rest : Bytes) : okAfter r (r'.encode ++ rest) := by
  obtain ⟨b, t, e, hs⟩ := encode_head r'
  rw [e]; exact okAfter_cons r b _ (start_tag b hs)

theorem parseLoop_prefix : ∀ (rs : List Record), (∀ r ∈ rs, r.wf) → ∀ (tl : Bytes), (∀ r, rs.getLast? = some r → okAfter r tl) →
    ∀ (f : Nat) (acc : List Entry),
    parseLoop (f + rs.length) (encodeRecords rs ++ tl) acc = parseLoop f tl (acc ++ (rs.flatMap expand).map view) := by
  intro rs
  induction rs with
  | nil => intro _ tl _ f acc; simp [encodeRecords]
  | cons r rs ih =>
    intro hw tl htl f acc
    have hlen := encode_length r
    have hnext : okAfter r (encodeRecords rs ++ tl) ∧ ∀ r', rs.getLast? = some r' → okAfter r' tl := by
      cases rs with
      | nil => exact ⟨htl r rfl, nofun⟩
      | cons r' rs' => exact ⟨by rw [encodeRecords_cons, List.append_assoc]; exact okAfter_encode r r' _, htl⟩
    rw [encodeRecords_cons, List.length_cons, ← Nat.add_assoc, List.append_assoc,
      parseLoop_step _ _ acc _ _ (by simp; omega) (parseOne_encode r (hw r (by simp)) _ hnext.1),
      ih (fun x hx => hw x (by simp [hx])) tl hnext.2 f]
    simp [List.append_assoc]

end Bmc.Lemmas.Enum
