import Bmc.Wire.Rakp2
namespace Bmc.Wire
open Bmc

theorem RAKP2.decodeGo_refines (prev : RAKP2) (d : GoSlice) :
    RAKP2.decodeGo true prev d = R.ofExcept (RAKP2.decode d.vis) := by
  unfold RAKP2.decodeGo RAKP2.decode
  simp only [GoSlice.vis_length]
  refine R.guard_ofExcept fun h8 => ?_
  have hn : 8 ≤ d.len := Nat.le_of_not_lt h8
  go_reads hn [Nat.le_refl, le32_take, Bool.true_and, decide_eq_true_eq]
  cases hst : (List.getD d.vis 1 0 == 0)
  · simp only [Bool.false_eq_true, if_false]; rfl
  simp only [if_true]
  refine R.guard_ofExcept fun h40 => ?_
  replace hn : 40 ≤ d.len := Nat.le_of_not_lt h40
  go_reads hn [Nat.le_refl, GoSlice.take_len_drop_vis, Nat.reduceSub]
  split
  · rfl
  · -- exactly 40 bytes: no authentication code
    rw [GoSlice.drop_vis_of_le (by omega : d.len ≤ 40)]; rfl
#print axioms RAKP2.decodeGo_refines
