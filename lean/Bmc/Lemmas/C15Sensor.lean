import Bmc.Proto.Sensor
import Bmc.Spec.Sensor
/-! Helper lemmas for `Proofs/C15.lean`: exact decimals and the rationals they denote, canonical decimals, the
    finite tables and flag bits over their whole domains. -/
namespace Bmc.Lemmas.Sensor
open Bmc Bmc.Wire Bmc.Proto.Sensor

theorem ten_ne : (10 : Rat) ≠ 0 := by decide

theorem pow_toNat (k : Int) (h : 0 ≤ k) : (10 : Rat) ^ k = (((10 : Int) ^ k.toNat : Int) : Rat) := by
  have : k = (k.toNat : Int) := by omega
  rw [Rat.intCast_pow]
  conv => lhs; rw [this]
  rw [Rat.zpow_natCast]
  rfl

theorem dec_neg (m e : Int) (h : m < 0) : decToRat (m, e) < 0 := by
  unfold decToRat
  exact (Rat.mul_neg_iff_of_pos_right (Rat.zpow_pos (by decide))).mpr (Rat.intCast_neg_iff.mpr h)

theorem dec_shift (m e : Int) (h : m % 10 = 0) : decToRat (m / 10, e + 1) = decToRat (m, e) := by
  have hm : (m : Rat) = ((m / 10 : Int) : Rat) * 10 := by exact_mod_cast (by omega : m = m / 10 * 10)
  simp only [decToRat, hm, Rat.zpow_add_one ten_ne]
  grind

theorem stripZeros_value (fuel : Nat) (m e : Int) : decToRat (stripZeros fuel m e) = decToRat (m, e) := by
  fun_induction stripZeros fuel m e with
  | case1 | case3 => rfl
  | case2 fuel m e h ih => rw [ih, dec_shift m e h.2]

def Canonical (d : Int × Int) : Prop := d = (0, 0) ∨ (d.1 ≠ 0 ∧ d.1 % 10 ≠ 0)

theorem stripZeros_canonical (fuel : Nat) (m e : Int) (hm : m ≠ 0) (hf : m.natAbs ≤ fuel) :
    (stripZeros fuel m e).1 ≠ 0 ∧ (stripZeros fuel m e).1 % 10 ≠ 0 := by
  fun_induction stripZeros fuel m e with
  | case1 => omega
  | case2 fuel m e h ih => exact ih (by omega) (by omega)
  | case3 fuel m e h => exact ⟨hm, by simp only []; omega⟩

theorem normalize_canonical (d : Int × Int) : Canonical (normalize d) := by
  unfold normalize Canonical
  split
  · left; rfl
  · right; exact stripZeros_canonical _ _ _ (by assumption) (Nat.le_refl _)

theorem dec_scale (m1 e1 m2 e2 : Int) (h : decToRat (m1, e1) = decToRat (m2, e2)) (hle : e1 ≤ e2) :
    m1 = m2 * 10 ^ (e2 - e1).toNat := by
  have e3 : (10 : Rat) ^ e2 = (10 : Rat) ^ (e2 - e1) * (10 : Rat) ^ e1 := by
    rw [← Rat.zpow_add ten_ne]; congr 1; omega
  simp only [decToRat, e3, pow_toNat _ (by omega : 0 ≤ e2 - e1)] at h
  have hne : (10 : Rat) ^ e1 ≠ 0 := Rat.ne_of_gt (Rat.zpow_pos (by decide))
  have h2 : (m1 : Rat) = (m2 : Rat) * (((10 : Int) ^ (e2 - e1).toNat : Int) : Rat) := by grind
  exact_mod_cast h2

theorem canonical_zero {m e : Int} (c : Canonical (m, e)) (h : m % 10 = 0) : (m, e) = (0, 0) :=
  c.elim id (fun c' => absurd h c'.2)

theorem canonical_unique_le (m1 e1 m2 e2 : Int) (c1 : Canonical (m1, e1)) (c2 : Canonical (m2, e2))
    (h : decToRat (m1, e1) = decToRat (m2, e2)) (hle : e1 ≤ e2) : (m1, e1) = (m2, e2) := by
  have hs := dec_scale m1 e1 m2 e2 h hle
  by_cases he : e1 = e2
  · subst he; simp at hs; rw [hs]
  · -- e1 < e2: ten divides m1, so the first decimal is 0e0; then m2 = 0 and the second is 0e0 too
    have : (e2 - e1).toNat = ((e2 - e1).toNat - 1) + 1 := by omega
    rw [this, Int.pow_succ, ← Int.mul_assoc] at hs
    have z1 := canonical_zero c1 (by rw [hs]; exact Int.mul_emod_left _ _)
    have hm2 : m2 = 0 := by
      rw [(Prod.mk.inj z1).1] at hs
      have h10 : (10 : Int) ^ ((e2 - e1).toNat - 1) ≠ 0 := Int.pow_ne_zero (by decide)
      simpa [Int.mul_eq_zero, h10] using hs.symm
    rw [z1, canonical_zero c2 (by rw [hm2]; rfl)]

theorem canonical_unique (d1 d2 : Int × Int) (c1 : Canonical d1) (c2 : Canonical d2)
    (h : decToRat d1 = decToRat d2) : d1 = d2 := by
  obtain ⟨m1, e1⟩ := d1
  obtain ⟨m2, e2⟩ := d2
  by_cases hle : e1 ≤ e2
  · exact canonical_unique_le m1 e1 m2 e2 c1 c2 h hle
  · exact (canonical_unique_le m2 e2 m1 e1 c2 c1 h.symm (by omega)).symm

/-- the function of the specification each entry of `linearisationLinearisers` computes, read off the Go
    expression (math.Log = ln, math.Pow(10, f) = 10^f, math.Pow(f, -1) = 1/f, math.Cbrt = ∛, …). That the
    Go functions compute these to within rounding is what the harness measures; it is not provable here. -/
def denotes : Lineariser → Spec.Sensor.LinFn
  | .mathLog => .ln | .mathLog10 => .log10 | .mathLog2 => .log2 | .mathExp => .exp | .powTenF => .exp10
  | .mathExp2 => .exp2 | .powFNeg1 => .inv | .powF2 => .sqr | .powF3 => .cube | .mathSqrt => .sqrt
  | .powFThird => .cubeRt

theorem parser_lookup : ∀ f : UInt8,
    parserOf f = (match f.toNat with | 0 => some .unsigned | 1 => some .ones | 2 => some .twos | _ => none) ∧
    (parserOf f = none ↔ 3 ≤ f.toNat) := forall_uint8 (by decide +kernel)

/-- the three-way switch of `NewSensorReader` against the specification's classification, every code 0…255 -/
theorem kind_lookup : ∀ l : UInt8,
    (Gen.linIsLinear l.toBitVec = decide (Spec.Sensor.kindOf l.toNat = .linear)) ∧
    (Gen.linIsLinearised l.toBitVec = (Spec.Sensor.linFnOfCode l.toNat).isSome) ∧
    (Spec.Sensor.kindOf l.toNat = .nonLinear ↔ 12 ≤ l.toNat) := forall_uint8 (by decide +kernel)

theorem flag_bits : ∀ fl : UInt8,
    ((fl &&& 0x20) != 0) = Spec.Sensor.unavailableBit fl.toNat ∧
    ((fl &&& 0x40) != 0) = Spec.Sensor.scanningBit fl.toNat := forall_uint8 (by decide +kernel)

/-- the fields `Read` looks at, for a response of three or more bytes decoded from any window -/
theorem reading_fields (prev : SensorReadingRsp) (raw fl c : UInt8) (rest tail : Bytes) :
    ∃ p, SensorReadingRsp.decodeGo prev (GoSlice.window (raw :: fl :: c :: rest) tail) = .ok p ∧
      p.reading = raw ∧ p.readingUnavailable = ((fl &&& 0x20) != 0) ∧ p.scanningEnabled = ((fl &&& 0x40) != 0) := by
  rw [(SensorReadingRsp.decodeGo_canon prev _).1, GoSlice.vis_window]
  -- the decoder evaluates on a list whose first three cells are known; whether there is a fourth only decides where `Contents` ends
  cases rest <;> exact ⟨_, rfl, rfl, rfl, rfl⟩

theorem reading_short (prev : SensorReadingRsp) (d : GoSlice) (h : d.len < 3) :
    SensorReadingRsp.decodeGo prev d = .err := by
  simp [SensorReadingRsp.decodeGo, h]

end Bmc.Lemmas.Sensor
