import Bmc.Proto.Api
import Bmc.Proofs.C06
/-! The request side of the API calls: what the specification's reference parser (Spec/Requests.lean) reads from the
    request data each wrapper builds from its arguments. -/
namespace Bmc.Proto
open Bmc Bmc.Wire

/-- the caller's arguments, in the specification's terms -/
inductive Asked where
  | nothing                                        -- commands without request data
  | authCaps (v : Spec.Req.AuthCaps)
  | sessionInfo (v : Spec.Req.SessionSel)
  | chassisControl (control : Nat)
  | sensor (number : Nat)
  | privilege (level : Nat)                        -- 0 = "no change": how the current level is read
  | close (v : Spec.Req.CloseSel)
  | power (v : Spec.Req.PowerMode)
  | dcmiSensor (v : Spec.Req.DcmiSensorInfo)
  | dcmiParameter (selector : Nat)
  deriving Repr, DecidableEq

/-- the reference parser of the request data of the call's command -/
def Call.specParse : Call → Bytes → Option Asked
  | .getSystemGUID | .getDeviceID | .getChassisStatus | .getSDRRepositoryInfo | .reserveSDRRepository =>
    fun b => (Spec.Req.parseEmpty b).map fun _ => .nothing
  | .getChannelAuthenticationCapabilities _ => fun b => (Spec.Req.parseAuthCaps b).map .authCaps
  | .getSessionInfo _ => fun b => (Spec.Req.parseSessionInfo b).map .sessionInfo
  | .chassisControl _ => fun b => (Spec.Req.parseChassisControl b).map .chassisControl
  | .getSensorReading _ => fun b => (Spec.Req.parseSensorReading b).map .sensor
  | .getSessionPrivilegeLevel | .setSessionPrivilegeLevel _ => fun b => (Spec.Req.parseSetPriv b).map .privilege
  | .close => fun b => (Spec.Req.parseCloseSession b).map .close
  | .getPowerReading _ => fun b => (Spec.Req.parsePowerReading b).map .power
  | .getDCMISensorInfo _ => fun b => (Spec.Req.parseDcmiSensorInfo b).map .dcmiSensor
  | .dcmiSupportedCapabilities | .dcmiMandatoryPlatformAttrs | .dcmiOptionalPlatformAttrs | .dcmiManageabilityAccessAttrs
  | .dcmiEnhancedSystemPowerStatisticsAttrs => fun b => (Spec.Req.parseDcmiCaps b).map .dcmiParameter

/-- what the caller asked for (`remoteID`: the session whose `Close` is called) -/
def Call.asked (remoteID : Nat) : Call → Asked
  | .getSystemGUID | .getDeviceID | .getChassisStatus | .getSDRRepositoryInfo | .reserveSDRRepository => .nothing
  | .getChannelAuthenticationCapabilities r =>
    .authCaps { v2Data := r.extendedData, channel := r.channel.toNat, privilege := r.maxPrivilegeLevel.toNat }
  | .getSessionInfo r =>
    .sessionInfo (if r.index = 0 then .current else if r.index = 0xFE then .handle r.handle.toNat
                  else if r.index = 0xFF then .id r.id else .nth r.index.toNat)
  | .chassisControl c => .chassisControl c
  | .getSensorReading n => .sensor n.toNat
  | .getSessionPrivilegeLevel => .privilege 0
  | .setSessionPrivilegeLevel l => .privilege l.toNat
  | .close => .close (if remoteID = 0 then .byHandle 0 else .byID remoteID)
  | .getPowerReading r =>
    .power (if r.mode = 1 then .normal
            else .enhanced (Spec.rollingByte (r.periodNs.toNat / 1000000000) / 64) (Spec.rollingByte (r.periodNs.toNat / 1000000000) % 64))
  | .getDCMISensorInfo r =>
    .dcmiSensor { sensorType := r.type.toNat, entity := r.entity.toNat
                  sel := if r.instance_ = 0 then .all r.instanceStart.toNat else .one r.instance_.toNat }
  | .dcmiSupportedCapabilities => .dcmiParameter 1
  | .dcmiMandatoryPlatformAttrs => .dcmiParameter 2
  | .dcmiOptionalPlatformAttrs => .dcmiParameter 3
  | .dcmiManageabilityAccessAttrs => .dcmiParameter 4
  | .dcmiEnhancedSystemPowerStatisticsAttrs => .dcmiParameter 5

/-- the arguments fit the wire width of the request's fields (the `wf` predicates of Wire/Requests.lean; outside
    them the serialisers mask or overflow into neighbouring bits, see the examples at the end of Proofs/C06.lean) -/
def Call.argsWf (remoteID : Nat) : Call → Prop
  | .getChannelAuthenticationCapabilities r => r.wf
  | .getSessionInfo r => r.wf
  | .chassisControl c => c < 16
  | .setSessionPrivilegeLevel l => Req.SetPriv.wf l
  | .close => remoteID < 4294967296
  | .getPowerReading r => r.mode = 1 ∨ (r.mode = 2 ∧ 0 ≤ r.periodNs)
  | _ => True

theorem request_parses (call : Call) (rid : Nat) (h : call.argsWf rid) :
    ∃ b, call.body rid = .ok b ∧ call.specParse b = some (call.asked rid) := by
  cases call with
  | getSystemGUID | getDeviceID | getChassisStatus | getSDRRepositoryInfo | reserveSDRRepository => exact ⟨[], rfl, rfl⟩
  | getChannelAuthenticationCapabilities r =>
    exact ⟨r.encode, rfl, by simp only [Call.specParse, Call.asked, Proofs.C06.authcaps_parses r h]; rfl⟩
  | getSessionInfo r =>
    exact ⟨r.encode, rfl, by simp only [Call.specParse, Call.asked, Proofs.C06.sessioninfo_parses r h]; rfl⟩
  | chassisControl c =>
    exact ⟨_, rfl, by simp only [Call.specParse, Call.asked, Proofs.C06.chassiscontrol_parses c h]; rfl⟩
  | getSensorReading n => exact ⟨_, rfl, rfl⟩
  | getSessionPrivilegeLevel => exact ⟨[0], rfl, rfl⟩
  | setSessionPrivilegeLevel l =>
    obtain ⟨b, hb, hp⟩ := Proofs.C06.setpriv_parses l h
    exact ⟨b, hb, by simp only [Call.specParse, Call.asked, hp]; rfl⟩
  | close =>
    exact ⟨_, rfl, by simp only [Call.specParse, Call.asked, Proofs.C06.closesession_parses rid 0 h]; rfl⟩
  | getPowerReading r =>
    obtain ⟨m, ns⟩ := r
    refine ⟨_, rfl, ?_⟩
    rcases h with h | ⟨h, h0⟩
    · simp only at h; subst h
      simp only [Call.specParse, Call.asked, Proofs.C06.powerreading_normal_parses ns]; rfl
    · simp only at h h0; subst h
      simp only [Call.specParse, Call.asked, Proofs.C06.powerreading_enhanced_parses ns h0]; rfl
  | getDCMISensorInfo r =>
    exact ⟨r.encode, rfl, by simp only [Call.specParse, Call.asked, Proofs.C06.dcmisensorinfo_parses r]; rfl⟩
  | dcmiSupportedCapabilities | dcmiMandatoryPlatformAttrs | dcmiOptionalPlatformAttrs | dcmiManageabilityAccessAttrs
  | dcmiEnhancedSystemPowerStatisticsAttrs => exact ⟨_, rfl, rfl⟩

theorem request_short (call : Call) (rid : Nat) : (call.cmdFor rid).req.length ≤ 5 := by
  cases call <;> simp [Call.cmdFor, Call.body, Req.AuthCaps.encode, Req.ChassisControl.encode, Req.SensorReading.encode,
    Req.DcmiCaps.encode, Req.PowerReading.encode, Req.DcmiSensorInfo.encode]
  · rename_i r; unfold Req.SessionInfo.encode; split
    · simp
    · split <;> simp [putLE32]
  · simp [Req.SetPriv.encode]
  · rename_i l; unfold Req.SetPriv.encode; by_cases h : (l == 1) = true <;> simp [h]
  · unfold Req.CloseSession.encode; split <;> simp [putLE32]

end Bmc.Proto
