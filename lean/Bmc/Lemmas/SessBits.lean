import Bmc.Spec.Sess
import Bmc.Wire.Simple
import Bmc.Wire.Sess
import Bmc.Wire.Chassis
/-! Byte-level facts used by `Proofs/C07/Sess.lean` (finite checks over whole field ranges), and the reading of a
    flags byte the driver prints (`flag b n` = bit `n` of `b`). -/
namespace Bmc.Lemmas.Sess
open Bmc Bmc.Wire Bmc.Spec

/-- bit `n` of a flags byte — the expression `Driver.kvBit` prints -/
def flag (b : UInt8) (n : Nat) : Bool := b.toNat / 2 ^ n % 2 == 1

/-- Get Channel Authentication Capabilities bytes 1 … 3 as the library keeps them -/
def authTypes (e o p m5 m2 n : Bool) : UInt8 := bit e 7 ||| bit o 5 ||| bit p 4 ||| bit m5 2 ||| bit m2 1 ||| bit n 0
def authStatus (k pm ul nn nu an : Bool) : UInt8 := bit k 5 ||| bit pm 4 ||| bit ul 3 ||| bit nn 2 ||| bit nu 1 ||| bit an 0
def authVersions (v2 v1 : Bool) : UInt8 := bit v2 1 ||| bit v1 0

/-- `aN`: byte N of Get Channel Authentication Capabilities under the decoder's mask -/
theorem a1 : ∀ e o p m5 m2 n : Bool,
    (bit e 7 ||| bit o 5 ||| bit p 4 ||| bit m5 2 ||| bit m2 1 ||| bit n 0) &&& 0xb7 = authTypes e o p m5 m2 n := by
  decide +kernel
theorem a2 : ∀ k pm ul nn nu an : Bool,
    (bit k 5 ||| bit pm 4 ||| bit ul 3 ||| bit nn 2 ||| bit nu 1 ||| bit an 0) &&& 0x3f = authStatus k pm ul nn nu an := by
  decide +kernel
theorem a3 : ∀ v2 v1 : Bool, (bit v2 1 ||| bit v1 0) &&& 3 = authVersions v2 v1 := by decide +kernel

theorem a1_flags : ∀ e o p m5 m2 n : Bool,
    let b := authTypes e o p m5 m2 n
    flag b 7 = e ∧ flag b 5 = o ∧ flag b 4 = p ∧ flag b 2 = m5 ∧ flag b 1 = m2 ∧ flag b 0 = n := by decide +kernel
theorem a2_flags : ∀ k pm ul nn nu an : Bool,
    let b := authStatus k pm ul nn nu an
    flag b 5 = k ∧ flag b 4 = pm ∧ flag b 3 = ul ∧ flag b 2 = nn ∧ flag b 1 = nu ∧ flag b 0 = an := by decide +kernel
theorem a3_flags : ∀ v2 v1 : Bool, flag (authVersions v2 v1) 1 = v2 ∧ flag (authVersions v2 v1) 0 = v1 := by
  decide +kernel

/-- Get Session Info byte 5 -/
theorem s5 : ∀ v : Bool, ∀ c : Nat, c < 16 →
    ((((((if v then (1 : UInt8) else 0) <<< 4) ||| UInt8.ofNat c) &&& 0xf0) >>> 4 == 1) = v) ∧
    (((if v then (1 : UInt8) else 0) <<< 4) ||| UInt8.ofNat c) &&& 0xf = UInt8.ofNat c := by decide +kernel

/-- Get Chassis Status: the flag groups of bytes 0 and 1 (bits 4 … 0) and of byte 2 (bits 3 … 0) -/
def chassis0 (a b c d e : Bool) : UInt8 := bit a 4 ||| bit b 3 ||| bit c 2 ||| bit d 1 ||| bit e 0
def chassis2 (a b c d : Bool) : UInt8 := bit a 3 ||| bit b 2 ||| bit c 1 ||| bit d 0

/-- `cN`: byte N of Get Chassis Status as the decoder takes it apart (restore policy in bits 6:5 of byte 0; identify state in
    bits 5:4 of byte 2, valid when bit 6 is set) -/
theorem c0 : ∀ p : Nat, p < 4 → ∀ a b c d e : Bool,
    ((((UInt8.ofNat p <<< 5) ||| bit a 4 ||| bit b 3 ||| bit c 2 ||| bit d 1 ||| bit e 0) &&& 0x60) >>> 5 = UInt8.ofNat p) ∧
    ((UInt8.ofNat p <<< 5) ||| bit a 4 ||| bit b 3 ||| bit c 2 ||| bit d 1 ||| bit e 0) &&& 0x1f = chassis0 a b c d e := by
  decide +kernel
theorem c1 : ∀ a b c d e : Bool,
    (bit a 4 ||| bit b 3 ||| bit c 2 ||| bit d 1 ||| bit e 0) &&& 0x1f = chassis0 a b c d e := by decide +kernel
theorem c2 : ∀ s : Bool, ∀ st : Nat, st < 4 → ∀ a b c d : Bool,
    (if (bit s 6 ||| (UInt8.ofNat st <<< 4) ||| bit a 3 ||| bit b 2 ||| bit c 1 ||| bit d 0) &&& 0x40 != 0
       then ((bit s 6 ||| (UInt8.ofNat st <<< 4) ||| bit a 3 ||| bit b 2 ||| bit c 1 ||| bit d 0) &&& 0x30) >>> 4
       else 0xff) = (if s then UInt8.ofNat st else 0xff) ∧
    (bit s 6 ||| (UInt8.ofNat st <<< 4) ||| bit a 3 ||| bit b 2 ||| bit c 1 ||| bit d 0) &&& 0x0f = chassis2 a b c d := by
  decide +kernel

theorem c0_flags : ∀ a b c d e : Bool,
    let x := chassis0 a b c d e
    flag x 4 = a ∧ flag x 3 = b ∧ flag x 2 = c ∧ flag x 1 = d ∧ flag x 0 = e := by decide +kernel
theorem c2_flags : ∀ a b c d : Bool,
    let x := chassis2 a b c d
    flag x 3 = a ∧ flag x 2 = b ∧ flag x 1 = c ∧ flag x 0 = d := by decide +kernel
theorem c3_flags : ∀ a b c d e f g h : Bool,
    let x := (Spec.FrontPanel.mk a b c d e f g h).encode
    flag x 7 = a ∧ flag x 6 = b ∧ flag x 5 = c ∧ flag x 4 = d ∧ flag x 3 = e ∧ flag x 2 = f ∧ flag x 1 = g ∧ flag x 0 = h := by
  decide +kernel

end Bmc.Lemmas.Sess
