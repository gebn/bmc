import Bmc.Lemmas.LittleEndian
/-! Round trip of the v2.0 session wrapper (C08), with and without the authenticated trailer (integrity pad of 0xFF bytes, pad
    length, next header, AuthCode).

    `V2Session.decode_append` says what the decoder makes of `hdr ++ (inner ++ tail)` for an ABSTRACT header of known length
    (it reads `getD 0`, `getD 1` and LE words out of it) and ANY tail; the round trip and the rejection of a wrong AuthCode
    are that lemma with the serialiser's header and trailer plugged in. -/
namespace Bmc.Wire
open Bmc Bmc.Prim

theorem scanFF_replicate (p : Nat) (x : UInt8) (rest : Bytes) (hx : x ≠ 0xff) :
    scanFF (List.replicate p 0xff ++ x :: rest) = p + 1 := by
  induction p with
  | zero => simp [scanFF, hx]
  | succ n ih => simp [List.replicate_succ, scanFF, ih]; omega

theorem V2Session.decode_append (mac : Bytes → Bytes) (hdr inner tail : Bytes) (oem : Bool)
    (hH : hdr.length = (if oem then 8 else 2) + 10)
    (h0 : hdr.getD 0 0 = 6)
    (hoem : (hdr.getD 1 0 &&& 0x3f == 2) = oem)
    (hlen : le16 (hdr.drop ((if oem then 8 else 2) + 8)) = inner.length) :
    V2Session.decode mac (hdr ++ (inner ++ tail)) =
      let base : V2Session :=
        { encrypted := hdr.getD 1 0 &&& 0x80 != 0, authenticated := hdr.getD 1 0 &&& 0x40 != 0
          payloadType := hdr.getD 1 0 &&& 0x3f
          enterprise := if oem then le32 (hdr.drop 2) else 0
          payloadID := if oem then le16 (hdr.drop 6) else 0
          id := le32 (hdr.drop (if oem then 8 else 2))
          sequence := le32 (hdr.drop ((if oem then 8 else 2) + 4))
          length := inner.length, contents := hdr, payload := inner }
      if !(hdr.getD 1 0 &&& 0x40 != 0) then .ok base else
      let n := scanFF tail
      if tail.length < n + 1 then .error () else
      if tail.drop (n + 1) != mac (hdr ++ (inner ++ tail.take (n + 1))) then .error () else
      .ok { base with pad := UInt8.ofNat (n - 1), signature := tail.drop (n + 1) } := by
  -- the offset `k` of the fixed fields stays a variable: only `oem → 18 ≤ length` needs its value
  generalize hk : (if oem then 8 else 2) = k at hH hlen
  have hk2 : 2 ≤ k := by subst hk; split <;> omega
  generalize hb : hdr ++ (inner ++ tail) = b
  have blen : b.length = k + 10 + inner.length + tail.length := by subst hb; simp [hH]; omega
  have g0 : b.getD 0 0 = hdr.getD 0 0 := by subst hb; exact getD_append_lt _ _ _ (by omega)
  have g1 : b.getD 1 0 = hdr.getD 1 0 := by subst hb; exact getD_append_lt _ _ _ (by omega)
  have tk : b.take (k + 10) = hdr := by subst hb; exact List.take_left' hH
  have dr : b.drop (k + 10) = inner ++ tail := by subst hb; exact List.drop_left' hH
  have dr0 : b.drop (k + 10 + inner.length) = tail := by rw [← List.drop_drop, dr, List.drop_left]
  have dr2 : ∀ n, b.drop (k + 10 + inner.length + n + 1) = tail.drop (n + 1) := by
    intro n; rw [Nat.add_assoc, ← List.drop_drop, dr0]
  have tk2 : ∀ n, b.take (k + 10 + inner.length + n + 1) = hdr ++ (inner ++ tail.take (n + 1)) := by
    intro n; subst hb
    rw [Nat.add_assoc, ← hH, ← List.append_assoc, ← List.length_append, List.take_length_add_append, List.append_assoc]
  have hl : ∀ n, (b.length < k + 10 + inner.length + n + 1) = (tail.length < n + 1) := by
    intro n; rw [blen, eq_iff_iff]; omega
  have w16 : ∀ j, j + 2 ≤ k + 10 → le16 (b.drop j) = le16 (hdr.drop j) := by
    intro j hj; subst hb; exact le16_drop_append _ _ _ (by omega)
  have w32 : ∀ j, j + 4 ≤ k + 10 → le32 (b.drop j) = le32 (hdr.drop j) := by
    intro j hj; subst hb; exact le32_drop_append _ _ _ (by omega)
  have h18 : ¬ (oem = true ∧ b.length < 18) := by rintro ⟨rfl, h⟩; simp at hk; omega
  have hlt : ¬ b.length < k + 10 + inner.length := by omega
  unfold V2Session.decode
  simp only [g0, g1, h0, hoem, hk, Bool.and_eq_true, decide_eq_true_eq, h18, hlt, w16 (k + 8) (by omega), hlen,
    w32 k (by omega), w32 (k + 4) (by omega), w32 2 (by omega), w16 6 (by omega), tk, dr, List.take_left',
    show b.length < 12 ↔ False from ⟨fun h => by omega, False.elim⟩, bne_self_eq_false, Bool.false_eq_true, if_false,
    dr0, dr2, tk2, hl]

/-- the integrity trailer: the pad, its length, and the next-header byte 07h -/
def v2Trailer (p : Nat) : Bytes := List.replicate p 0xff ++ [UInt8.ofNat p, 7]

theorem v2Trailer_length (p : Nat) : (v2Trailer p).length = p + 2 := by simp [v2Trailer]

theorem scanFF_trailer (p : Nat) (hp : p < 255) (sig : Bytes) : scanFF (v2Trailer p ++ sig) = p + 1 := by
  have hne : UInt8.ofNat p ≠ 0xff := fun h => by have := congrArg UInt8.toNat h; simp at this; omega
  simpa [v2Trailer] using scanFF_replicate p (UInt8.ofNat p) (7 :: sig) hne

/-- an authenticated packet `hdr ++ inner ++ trailer ++ sig`: accepted with these fields when `sig` is the integrity value of
    what precedes it, rejected with ANY OTHER trailing bytes (the pad scan and the position of the AuthCode depend only on
    what precedes it) -/
theorem V2Session.decode_trailer (mac : Bytes → Bytes) (hdr inner sig : Bytes) (p : Nat) (oem : Bool)
    (hH : hdr.length = (if oem then 8 else 2) + 10)
    (h0 : hdr.getD 0 0 = 6)
    (hauth : (hdr.getD 1 0 &&& 0x40 != 0) = true)
    (hoem : (hdr.getD 1 0 &&& 0x3f == 2) = oem)
    (hlen : le16 (hdr.drop ((if oem then 8 else 2) + 8)) = inner.length)
    (hp : p < 255) :
    V2Session.decode mac (hdr ++ (inner ++ (v2Trailer p ++ sig))) =
      if sig = mac (hdr ++ (inner ++ v2Trailer p)) then
        .ok { encrypted := hdr.getD 1 0 &&& 0x80 != 0, authenticated := true, payloadType := hdr.getD 1 0 &&& 0x3f
              enterprise := if oem then le32 (hdr.drop 2) else 0
              payloadID := if oem then le16 (hdr.drop 6) else 0
              id := le32 (hdr.drop (if oem then 8 else 2))
              sequence := le32 (hdr.drop ((if oem then 8 else 2) + 4))
              length := inner.length, pad := UInt8.ofNat p, signature := sig
              contents := hdr, payload := inner }
      else .error () := by
  have hd : (v2Trailer p ++ sig).drop (p + 1 + 1) = sig := List.drop_left' (v2Trailer_length p)
  have ht : (v2Trailer p ++ sig).take (p + 1 + 1) = v2Trailer p := List.take_left' (v2Trailer_length p)
  rw [V2Session.decode_append mac hdr inner _ oem hH h0 hoem hlen]
  simp only [hauth, scanFF_trailer p hp sig, hd, ht, Bool.not_true, Bool.false_eq_true, if_false, bne_iff_ne, ne_eq,
    ite_not, List.length_append, v2Trailer_length, Nat.add_sub_cancel]
  rw [if_neg (by omega)]

theorem V2Session.decode_layout_badsig (mac : Bytes → Bytes) (hdr inner sig : Bytes) (p : Nat) (oem : Bool)
    (hH : hdr.length = (if oem then 8 else 2) + 10)
    (h0 : hdr.getD 0 0 = 6)
    (hauth : (hdr.getD 1 0 &&& 0x40 != 0) = true)
    (hoem : (hdr.getD 1 0 &&& 0x3f == 2) = oem)
    (hlen : le16 (hdr.drop ((if oem then 8 else 2) + 8)) = inner.length)
    (hp : p < 255)
    (hsig : sig ≠ mac (hdr ++ (inner ++ v2Trailer p))) :
    V2Session.decode mac (hdr ++ (inner ++ (v2Trailer p ++ sig))) = .error () := by
  rw [V2Session.decode_trailer mac hdr inner sig p oem hH h0 hauth hoem hlen hp, if_neg hsig]

/-- the header's first two bytes and the OEM payload descriptor, in front of the fixed fields -/
def v2Pre (s : V2Session) : Bytes :=
  [6, s.payloadType ||| (if s.encrypted then 0x80 else 0) ||| (if s.authenticated then 0x40 else 0)]
    ++ (if s.payloadType == 2 then putLE32 s.enterprise ++ putLE16 s.payloadID else [])

def v2Header (s : V2Session) (len : Nat) : Bytes :=
  [6, s.payloadType ||| (if s.encrypted then 0x80 else 0) ||| (if s.authenticated then 0x40 else 0)]
    ++ (if s.payloadType == 2 then putLE32 s.enterprise ++ putLE16 s.payloadID else [])
    ++ putLE32 s.id ++ putLE32 s.sequence ++ putLE16 len

theorem v2Header_eq (s : V2Session) (len : Nat) :
    v2Header s len = v2Pre s ++ putLE32 s.id ++ putLE32 s.sequence ++ putLE16 len := rfl

def v2Pad (s : V2Session) (len : Nat) : Nat := (4 - ((if s.payloadType == 2 then 18 else 12) + len + 2) % 4) % 4

theorem v2Pad_le (s : V2Session) (len : Nat) : v2Pad s len ≤ 3 := by unfold v2Pad; omega

theorem v2Pre_length (s : V2Session) : (v2Pre s).length = if s.payloadType == 2 then 8 else 2 := by
  unfold v2Pre; cases (s.payloadType == 2) <;> rfl

theorem v2Header_length (s : V2Session) (len : Nat) :
    (v2Header s len).length = (if s.payloadType == 2 then 8 else 2) + 10 := by
  simp only [v2Header_eq, List.length_append, v2Pre_length]; rfl

theorem v2Header_id (s : V2Session) (n : Nat) (hn : s.id < 4294967296) :
    le32 ((v2Header s n).drop (if s.payloadType == 2 then 8 else 2)) = s.id := by
  rw [v2Header_eq]
  rw [List.append_assoc, List.append_assoc]
  exact le32_at (v2Pre s) _ _ _ (v2Pre_length s) hn

theorem v2Header_seq (s : V2Session) (n : Nat) (hn : s.sequence < 4294967296) :
    le32 ((v2Header s n).drop ((if s.payloadType == 2 then 8 else 2) + 4)) = s.sequence := by
  rw [v2Header_eq]
  rw [List.append_assoc]
  exact le32_at (v2Pre s ++ putLE32 s.id) _ _ _ (by rw [List.length_append, v2Pre_length]; rfl) hn

theorem v2Header_len16 (s : V2Session) (n : Nat) (hn : n < 65536) :
    le16 ((v2Header s n).drop ((if s.payloadType == 2 then 8 else 2) + 8)) = n := by
  rw [v2Header_eq]
  rw [← List.append_nil (putLE16 n)]
  exact le16_at (v2Pre s ++ putLE32 s.id ++ putLE32 s.sequence) _ _ _
    (by simp only [List.length_append, v2Pre_length]; rfl) hn

theorem v2Header_ent (s : V2Session) (n : Nat) (hn : s.enterprise < 4294967296) (h : (s.payloadType == 2) = true) :
    le32 ((v2Header s n).drop 2) = s.enterprise := by
  unfold v2Header
  simp only [h, if_true, List.append_assoc]
  exact le32_at [_, _] _ 2 _ rfl hn

theorem v2Header_pid (s : V2Session) (n : Nat) (hn : s.payloadID < 65536) (h : (s.payloadType == 2) = true) :
    le16 ((v2Header s n).drop 6) = s.payloadID := by
  unfold v2Header
  simp only [h, if_true, List.append_assoc]
  rw [← List.append_assoc]
  exact le16_at _ _ 6 _ rfl hn

theorem V2Session.encode_eq (mac : Bytes → Bytes) (s : V2Session) (inner : Bytes) :
    V2Session.encode mac s inner =
      let len := inner.length % 65536
      if s.authenticated then
        let body := v2Header s len ++ (inner ++ v2Trailer (v2Pad s len))
        ({ s with length := len, pad := UInt8.ofNat (v2Pad s len), signature := mac body },
         v2Header s len ++ (inner ++ (v2Trailer (v2Pad s len) ++ mac body)))
      else ({ s with length := len }, v2Header s len ++ (inner ++ [])) := by
  cases ha : s.authenticated <;> simp [V2Session.encode, ha, v2Header, v2Trailer, v2Pad]

theorem V2Session.encode_auth (mac : Bytes → Bytes) (s : V2Session) (inner : Bytes) (ha : s.authenticated = true) :
    V2Session.encode mac s inner =
      let len := inner.length % 65536
      let body := v2Header s len ++ (inner ++ v2Trailer (v2Pad s len))
      ({ s with length := len, pad := UInt8.ofNat (v2Pad s len), signature := mac body },
       v2Header s len ++ (inner ++ (v2Trailer (v2Pad s len) ++ mac body))) := by
  rw [V2Session.encode_eq, ha]; rfl

structure V2Session.WF (s : V2Session) (inner : Bytes) : Prop where
  pt : s.payloadType.toNat < 64
  id : s.id < 4294967296
  seq : s.sequence < 4294967296
  len : inner.length < 65536
  ent : s.enterprise < 4294967296
  pid : s.payloadID < 65536
  oem0 : s.payloadType ≠ 2 → s.enterprise = 0 ∧ s.payloadID = 0
  unauth : s.authenticated = false → s.pad = 0 ∧ s.signature = []

theorem flags_rt : ∀ pt : Nat, pt < 64 → ∀ e a : Bool,
    let f : UInt8 := UInt8.ofNat pt ||| (if e then 0x80 else 0) ||| (if a then 0x40 else 0)
    (f &&& 0x80 != 0) = e ∧ (f &&& 0x40 != 0) = a ∧ f &&& 0x3f = UInt8.ofNat pt := by decide +kernel

/-- both forms of the wrapper -/
theorem V2Session.decode_encode (mac : Bytes → Bytes) (s : V2Session) (inner : Bytes) (h : s.WF inner) :
    V2Session.decode mac (V2Session.encode mac s inner).2 =
      .ok { (V2Session.encode mac s inner).1 with
            contents := (V2Session.encode mac s inner).2.take (if s.payloadType == 2 then 18 else 12)
            payload := inner } := by
  obtain ⟨hpt, hid, hseq, hlen, hent, hpid, hoem0, hun⟩ := h
  have hl2 : inner.length % 65536 = inner.length := by omega
  have tk : ∀ t, (v2Header s inner.length ++ t).take (if s.payloadType == 2 then 18 else 12) = v2Header s inner.length := by
    intro t; apply List.take_left'; rw [v2Header_length]; split <;> rfl
  obtain ⟨fe, fa, fp⟩ := flags_rt _ hpt s.encrypted s.authenticated
  simp only [UInt8.ofNat_toNat] at fe fa fp
  have g1 : (v2Header s inner.length).getD 1 0
      = s.payloadType ||| (if s.encrypted then 0x80 else 0) ||| (if s.authenticated then 0x40 else 0) := rfl
  have hE : (if (s.payloadType == 2) = true then le32 ((v2Header s inner.length).drop 2) else 0) = s.enterprise := by
    cases hoem : (s.payloadType == 2)
    · exact (hoem0 (by simpa using hoem)).1.symm
    · exact v2Header_ent s _ hent hoem
  have hP : (if (s.payloadType == 2) = true then le16 ((v2Header s inner.length).drop 6) else 0) = s.payloadID := by
    cases hoem : (s.payloadType == 2)
    · exact (hoem0 (by simpa using hoem)).2.symm
    · exact v2Header_pid s _ hpid hoem
  have hH := v2Header_length s inner.length
  have ho : ((v2Header s inner.length).getD 1 0 &&& 0x3f == 2) = (s.payloadType == 2) := by rw [g1, fp]
  have hL := v2Header_len16 s _ hlen
  rw [V2Session.encode_eq]
  simp only [hl2]
  cases ha : s.authenticated
  · obtain ⟨hp0, hs0⟩ := hun ha
    simp only [Bool.false_eq_true, if_false, tk, V2Session.decode_append mac _ inner [] _ hH rfl ho hL, g1, fe, fa, fp,
      hE, hP, v2Header_id s _ hid, v2Header_seq s _ hseq]
    simp only [ha, Bool.not_false, if_true, hp0, hs0]
  · have hv := v2Pad_le s inner.length
    simp only [if_true, tk, V2Session.decode_trailer mac _ inner _ (v2Pad s inner.length) _ hH rfl (by rw [g1, fa, ha]) ho hL
      (by omega), g1, fe, fp, hE, hP, v2Header_id s _ hid, v2Header_seq s _ hseq]

end Bmc.Wire
