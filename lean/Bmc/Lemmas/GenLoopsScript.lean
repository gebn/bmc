import Bmc.Lemmas.GenLoopsRecv
/-! The regenerated retry loops under the scripted surroundings (`SW`).

    `backoff.Retry` is then a bounded iteration: the surroundings allow a fixed number of runs of the closure (`SW.allowed`), a run
    that ends with an error uses one up (`UsesOne`), and `Retry` stops at the first nil, at a panic, or — with the context's error —
    when no run is left (`runs`, `backoffRetry_runs`). The inductions over the script that tie each regenerated loop to its hand
    model are recursions over `runs`, without fuel, back-off or the two ways a context can end.
    The tail the closures share takes the next outcome off the script (`recv_script`). -/
namespace Bmc.Lemmas.GenLoops
open Bmc Bmc.Proto Bmc.GoOrch Bmc.GoLoops Bmc.Gen.Loops

/-- the runs of a retry closure the surroundings still allow: one per outcome left in the script and, when the caller's context
    ends inside a Send that has not happened yet, the run that meets it -/
def SW.allowed (w : SW) : Nat := w.script.length + (if w.inSend && !w.expired then 1 else 0)

theorem SW.allowed_fresh (ivs : List Bytes) (script : List Outcome) (sent : List Bytes) (i : Bool) :
    ({ ivs := ivs, script := script, sent := sent, inSend := i, expired := false } : SW).allowed = script.length + (if i then 1 else 0) := by
  cases i <;> rfl

theorem SW.wait_eq (w : SW) : SW.wait w = (w, if w.allowed = 0 then .ctxDone else .again) := by
  unfold SW.wait SW.allowed
  cases w.script <;> cases w.inSend <;> cases w.expired <;> rfl

section retry
variable {K β : Type}

/-- at most `n` runs of `op`: stop at nil or a panic; the context's error when no run is left -/
def runs (op : β → M (SW × K) (β × Option GoErr)) : Nat → β → SW × K → RF (β × Option GoErr) × (SW × K)
  | 0, b, s => (.ok (b, some .ctx), s)
  | n + 1, b, s =>
    match op b s with
    | (.ok (b', some _), s') => runs op n b' s'
    | (.ok (b', none), s') => (.ok (b', none), s')
    | (r, s') => (castBad r, s')

variable (op : β → M (SW × K) (β × Option GoErr))

theorem runs_zero (b : β) (s : SW × K) : runs op 0 b s = (.ok (b, some .ctx), s) := rfl

section step
variable {n : Nat} {b b' : β} {s s' : SW × K}
theorem runs_done (h : op b s = (.ok (b', none), s')) : runs op (n + 1) b s = (.ok (b', none), s') := by rw [runs, h]
theorem runs_retry {e : GoErr} (h : op b s = (.ok (b', some e), s')) : runs op (n + 1) b s = runs op n b' s' := by rw [runs, h]
theorem runs_panic (h : op b s = (.panic, s')) : runs op (n + 1) b s = (.panic, s') := by rw [runs, h]; rfl
end step

/-- a run that ends with an error has taken one outcome off the script (or met the expired context) -/
def UsesOne : Prop := ∀ b w k b' e s', op b (w, k) = (.ok (b', some e), s') → s'.1.allowed = w.allowed - 1

variable {op} (hop : UsesOne op)
include hop

/-- `backoff.Retry` always runs the closure once, hence `- 1 + 1` -/
theorem backoffRetry_runs : ∀ (fuel : Nat) (b : β) (w : SW) (k : K), w.allowed ≤ fuel → 1 ≤ fuel →
    backoffRetry SW.wait fuel op b (w, k) = runs op (w.allowed - 1 + 1) b (w, k) := by
  intro fuel
  induction fuel with
  | zero => intro b w k _ h; omega
  | succ n ih =>
    intro b w k hle _
    rw [backoffRetry_succ, runs]
    rcases hr : op b (w, k) with ⟨⟨b', _ | e⟩ | _ | _ | _ | _, w', k'⟩ <;> try rfl
    have hu : w'.allowed = w.allowed - 1 := hop b w k b' e _ hr
    simp only [afterErr_apply, SW.wait_eq, ← hu]
    by_cases h0 : w'.allowed = 0
    · rw [if_pos h0, h0]; rfl
    · rw [if_neg h0, ih b' w' k' (by omega) (by omega), show w'.allowed - 1 + 1 = w'.allowed by omega]

/-- … from a fresh script: one run per outcome, and one more when the context ends inside a Send -/
theorem backoffRetry_script (i : Bool) (script : List Outcome) (hne : i = false → script ≠ []) (fuel : Nat)
    (hfu : script.length + (if i then 1 else 0) ≤ fuel) (b : β) (ivs sent : List Bytes) (k : K) :
    backoffRetry SW.wait fuel op b ({ ivs := ivs, script := script, sent := sent, inSend := i, expired := false }, k)
      = runs op (script.length + (if i then 1 else 0)) b ({ ivs := ivs, script := script, sent := sent, inSend := i, expired := false }, k) := by
  have h1 : 1 ≤ script.length + (if i then 1 else 0) := by
    cases i
    · cases script
      · exact absurd rfl (hne rfl)
      · simp
    · simp
  rw [backoffRetry_runs hop fuel b _ k (by rw [SW.allowed_fresh]; exact hfu) (by omega), SW.allowed_fresh, Nat.sub_add_cancel h1]

/-- … with the context already ended (the empty script): the closure still runs once -/
theorem backoffRetry_expired (fuel : Nat) (hfu : 1 ≤ fuel) (b : β) (ivs sent : List Bytes) (k : K) :
    backoffRetry SW.wait fuel op b ({ ivs := ivs, script := [], sent := sent, inSend := false, expired := false }, k)
      = runs op 1 b ({ ivs := ivs, script := [], sent := sent, inSend := false, expired := false }, k) :=
  backoffRetry_runs hop fuel b _ k (by rw [SW.allowed_fresh]; exact Nat.zero_le _) hfu

end retry

section recv
variable {τ β : Type} (W : World SW τ) (hW : W.transportSend = SW.send)
include hW

/-- the Send takes the next outcome off the script; only a reply reaches the decoder -/
theorem recv_script (ty : LayerTy) (fail ret : Option GoErr → β) (rest : M (SW × Conn τ) β) (w : SW) (K : Conn τ) :
    recv W ty fail ret rest (w, K) =
      match w.script with
      | [] => (.ok (fail (some .transport)), { w with expired := true }, K)
      | .lost :: tl => (.ok (fail (some .transport)), { w with script := tl, sent := w.sent ++ [K.buffer] }, K)
      | .reply d :: tl => afterReply W ty ret rest d ({ w with script := tl, sent := w.sent ++ [K.buffer] }, K) := by
  unfold recv
  rw [hW]
  unfold SW.send
  rcases w.script with _ | ⟨_ | d, tl⟩ <;> rfl

omit hW in
theorem afterReply_world (ty : LayerTy) (ret : Option GoErr → β) (rest : M (SW × Conn τ) β) (hrest : ∀ s, (rest s).2.1 = s.1)
    (d : Bytes) (s : SW × Conn τ) : (afterReply W ty ret rest d s).2.1 = s.1 := by
  unfold afterReply
  cases (W.decode s.2.layers s.2.decoded d).2.2
  · cases W.innermostEquals (W.decode s.2.layers s.2.decoded d).2.1 ty
    · rfl
    · exact hrest _   -- only `rest` could touch the surroundings
  · rfl
  · rfl

omit hW in
theorem accepted_world (a : Layers → Bool) (ret : Option GoErr → β) (s : SW × Conn τ) : (accepted a ret s).2.1 = s.1 := by
  unfold accepted; split <;> rfl

/-- … so a run of a closure that ends in `recv` uses up one of the runs the surroundings allow -/
theorem recv_allowed (ty : LayerTy) (fail ret : Option GoErr → β) (rest : M (SW × Conn τ) β) (hrest : ∀ s, (rest s).2.1 = s.1)
    (w : SW) (K : Conn τ) : (recv W ty fail ret rest (w, K)).2.1.allowed = w.allowed - 1 := by
  rw [recv_script W hW]
  obtain ⟨ivs, script, sent, i, e⟩ := w
  rcases script with _ | ⟨_ | d, tl⟩
  · cases i <;> cases e <;> rfl
  · simp only [SW.allowed, List.length_cons]; omega
  · simp only [afterReply_world W ty ret rest hrest, SW.allowed, List.length_cons]; omega

end recv
end Bmc.Lemmas.GenLoops
