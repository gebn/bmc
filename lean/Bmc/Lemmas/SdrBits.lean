import Bmc.Spec.Sdr
import Bmc.Wire.Sdr
import Bmc.Proofs.C20
/-! Byte-level facts used by `Proofs/C07/Sdr.lean`: finite checks over whole field ranges, one per byte (or byte pair)
    of the tables; two's complement fields; the Full Sensor Record decoder on the specification's 43 fixed bytes. -/
namespace Bmc.Lemmas.Sdr
open Bmc Bmc.Wire

/-- `complement.Twos` on the two bytes the decoder builds from a 10-bit field is the mathematical two's complement: the model
    `twosGo` unfolds to the function regenerated from the Go source, for which C20 shows it -/
theorem twosGo10 (n : Nat) (h : n < 1024) :
    (twosGo (UInt8.ofNat (n / 256)) (UInt8.ofNat (n % 256)) 10).toInt = Spec.twos 10 n := Proofs.C20.twos_10 n h
/-- `complement.Twos` on a 4-bit value, then `int8(…)` -/
theorem twosGo4 : ∀ x : Nat, x < 16 → (twosGo 0 (UInt8.ofNat x) 4).toInt8.toInt = Spec.twos 4 x := by decide +kernel

/-- the accuracy field is sent as its low 6 bits and its high 4 bits; the decoder's two bytes are those of `twosGo10` -/
theorem accuracy10 (n : Nat) (h : n < 1024) :
    (twosGo (UInt8.ofNat (n / 64 / 4)) (UInt8.ofNat (n % 64) ||| UInt8.ofNat (n / 64 % 4 * 64)) 10).toInt = Spec.twos 10 n := by
  have e : ∀ a : Nat, a < 64 → ∀ r : Nat, r < 4 → UInt8.ofNat a ||| UInt8.ofNat (r * 64) = UInt8.ofNat (r * 64 + a) := by
    decide +kernel
  rw [e _ (by omega) _ (by omega), show n / 64 % 4 * 64 + n % 64 = n % 256 by omega, Nat.div_div_eq_div_mul]
  exact twosGo10 n h

theorem twos_toTwos (k : Nat) (i : Int) (h : -2 ^ k ≤ i ∧ i < 2 ^ k) :
    Spec.toTwos (k + 1) i < 2 ^ (k + 1) ∧ Spec.twos (k + 1) (Spec.toTwos (k + 1) i) = i := by
  unfold Spec.twos Spec.toTwos
  rw [Nat.add_sub_cancel, Nat.pow_succ, Int.pow_succ]
  have e : (2 : Int) ^ k = ((2 ^ k : Nat) : Int) := by simp
  have hp : 0 < 2 ^ k := Nat.pow_pos (by decide)
  rw [e] at h ⊢
  generalize 2 ^ k = p at *
  -- `i % 2p` is `i` itself, or `i + 2p` for negative `i`
  by_cases hi : 0 ≤ i
  · rw [Int.emod_eq_of_lt hi (by omega), if_pos (by omega)]
    omega
  · rw [← Int.add_emod_right, Int.emod_eq_of_lt (by omega) (by omega), if_neg (by omega)]
    omega

/-- a signed 10-bit field `i`: its representation fits ten bits, and `complement.Twos` returns `i` from the two bytes the
    decoder assembles — from (ms 2 bits, ls 8 bits) for M and B, from (ls 6 bits, ms 4 bits) for the accuracy -/
theorem signed10 (i : Int) (h : -512 ≤ i ∧ i ≤ 511) :
    Spec.toTwos 10 i < 1024 ∧
    (twosGo (UInt8.ofNat (Spec.toTwos 10 i / 256)) (UInt8.ofNat (Spec.toTwos 10 i % 256)) 10).toInt = i ∧
    (twosGo (UInt8.ofNat (Spec.toTwos 10 i / 64 / 4))
      (UInt8.ofNat (Spec.toTwos 10 i % 64) ||| UInt8.ofNat (Spec.toTwos 10 i / 64 % 4 * 64)) 10).toInt = i := by
  obtain ⟨h1, h2⟩ := twos_toTwos 9 i ⟨h.1, by omega⟩
  exact ⟨h1, (twosGo10 _ h1).trans h2, (accuracy10 _ h1).trans h2⟩
theorem signed4 (i : Int) (h : -8 ≤ i ∧ i ≤ 7) :
    Spec.toTwos 4 i < 16 ∧ (twosGo 0 (UInt8.ofNat (Spec.toTwos 4 i)) 4).toInt8.toInt = i := by
  obtain ⟨h1, h2⟩ := twos_toTwos 3 i ⟨h.1, by omega⟩
  exact ⟨h1, (twosGo4 _ h1).trans h2⟩

/-- the SDR version byte (Get SDR Repository Info byte 0, SDR header byte 2): 51h is version 1.5 -/
theorem version : ∀ a : Nat, a < 10 → ∀ b : Nat, b < 10 →
    bcd (UInt8.ofNat (16 * b + a) &&& (0xf : UInt8)) * (10 : UInt8) + bcd (UInt8.ofNat (16 * b + a) >>> (4 : UInt8))
      = UInt8.ofNat (10 * a + b) := by decide +kernel

/-- Get SDR Repository Info byte 13: the decoder's mask clears the reserved bit 4 only -/
theorem flags13 : ∀ a b c d e f g : Bool,
    (Spec.bit a 7 ||| Spec.bit b 6 ||| Spec.bit c 5 ||| Spec.bit d 3 ||| Spec.bit e 2 ||| Spec.bit f 1 ||| Spec.bit g 0) &&& (0xef : UInt8)
      = Spec.bit a 7 ||| Spec.bit b 6 ||| Spec.bit c 5 ||| Spec.bit d 3 ||| Spec.bit e 2 ||| Spec.bit f 1 ||| Spec.bit g 0 := by
  decide +kernel

/-- Get Sensor Reading byte 1 -/
theorem reading1 : ∀ a b c : Bool,
    ((Spec.bit a 7 ||| Spec.bit b 6 ||| Spec.bit c 5) &&& (0x80 : UInt8) != 0) = a ∧
    ((Spec.bit a 7 ||| Spec.bit b 6 ||| Spec.bit c 5) &&& (0x40 : UInt8) != 0) = b ∧
    ((Spec.bit a 7 ||| Spec.bit b 6 ||| Spec.bit c 5) &&& (0x20 : UInt8) != 0) = c := by decide +kernel

/-- Full Sensor Record: `fsrN` is byte N of the record key and body -/
theorem fsr1 : ∀ c : Nat, c < 16 → ∀ l : Nat, l < 4 →
    ((UInt8.ofNat c <<< 4) ||| UInt8.ofNat l) >>> 4 = UInt8.ofNat c ∧
    ((UInt8.ofNat c <<< 4) ||| UInt8.ofNat l) &&& (0x3 : UInt8) = UInt8.ofNat l := by decide +kernel
theorem fsr4 : ∀ s : Bool, ∀ r : Nat, r < 128 →
    ((Spec.bit s 7 ||| UInt8.ofNat r) &&& (0x80 : UInt8) != 0) = s ∧
    (Spec.bit s 7 ||| UInt8.ofNat r) &&& (0x7f : UInt8) = UInt8.ofNat r := by decide +kernel
theorem fsr15a : ∀ f : Nat, f < 4 → ∀ r : Nat, r < 8 → ∀ u : Nat, u < 4 → ∀ p : Bool,
    ((UInt8.ofNat f <<< 6) ||| (UInt8.ofNat r <<< 3) ||| (UInt8.ofNat u <<< 1) ||| Spec.bit p 0) >>> 6 = UInt8.ofNat f ∧
    (((UInt8.ofNat f <<< 6) ||| (UInt8.ofNat r <<< 3) ||| (UInt8.ofNat u <<< 1) ||| Spec.bit p 0) &&& (0x38 : UInt8)) >>> 3
      = UInt8.ofNat r ∧
    (((UInt8.ofNat f <<< 6) ||| (UInt8.ofNat r <<< 3) ||| (UInt8.ofNat u <<< 1) ||| Spec.bit p 0) &&& (1 : UInt8) != 0) = p := by
  decide +kernel
/-- bytes 20 and 22: two bits above six -/
theorem fsr20 : ∀ h : Nat, h < 4 → ∀ t : Nat, t < 64 →
    ((UInt8.ofNat h <<< 6) ||| UInt8.ofNat t) >>> 6 = UInt8.ofNat h ∧
    ((UInt8.ofNat h <<< 6) ||| UInt8.ofNat t) &&& (0x3f : UInt8) = UInt8.ofNat t := by decide +kernel
/-- byte 23 as the decoder takes it apart -/
theorem fsr23 : ∀ u : Nat, u < 16 → ∀ e : Nat, e < 4 → ∀ d : Nat, d < 4 →
    (((UInt8.ofNat u <<< 4) ||| (UInt8.ofNat e <<< 2) ||| UInt8.ofNat d) &&& (0xf0 : UInt8)) >>> 6 = UInt8.ofNat (u / 4) ∧
    (((UInt8.ofNat u <<< 4) ||| (UInt8.ofNat e <<< 2) ||| UInt8.ofNat d) &&& (0xf0 : UInt8)) <<< (2 : UInt8) = UInt8.ofNat (u % 4 * 64) ∧
    (((UInt8.ofNat u <<< 4) ||| (UInt8.ofNat e <<< 2) ||| UInt8.ofNat d) &&& (0xc : UInt8)) >>> 2 = UInt8.ofNat e ∧
    ((UInt8.ofNat u <<< 4) ||| (UInt8.ofNat e <<< 2) ||| UInt8.ofNat d) &&& (0x3 : UInt8) = UInt8.ofNat d := by decide +kernel
theorem fsr25 : ∀ a b c : Bool,
    ((Spec.bit a 2 ||| Spec.bit b 1 ||| Spec.bit c 0) &&& (1 : UInt8) != 0) = c ∧
    ((Spec.bit a 2 ||| Spec.bit b 1 ||| Spec.bit c 0) &&& (2 : UInt8) != 0) = b ∧
    ((Spec.bit a 2 ||| Spec.bit b 1 ||| Spec.bit c 0) &&& (4 : UInt8) != 0) = a := by decide +kernel
theorem typeLength_fields (s : Spec.IdString) (h : s.wf) :
    s.typeLength >>> 6 = UInt8.ofNat s.enc.code ∧ (s.typeLength &&& 0x1f).toNat = s.chars.length := by
  have e : ∀ e : Nat, e < 4 → ∀ n : Nat, n < 32 →
      ((UInt8.ofNat e <<< 6) ||| UInt8.ofNat n) >>> 6 = UInt8.ofNat e ∧
      (((UInt8.ofNat e <<< 6) ||| UInt8.ofNat n) &&& (0x1f : UInt8)).toNat = n := by decide +kernel
  exact e s.enc.code (by cases s.enc <;> decide) s.chars.length (Nat.lt_succ_of_le h.1)

theorem fixed_length (v : Spec.FullSensor) : v.fixed.length = 43 := rfl

/-- the decoder on the specification's 43 fixed bytes followed by any others: which byte feeds which assignment, and the ID
    string decoder, chosen by the type/length byte, run on what follows -/
theorem fullSensor_decode_fixed (v : Spec.FullSensor) (t : Bytes) :
    FullSensorRecord.decode (v.fixed ++ t) =
      match idPure (v.idString.typeLength >>> 6) t (v.idString.typeLength &&& 0x1f).toNat with
      | none => .error ()
      | some r => .ok (FullSensorRecord.ofBytes v.ownerID (v.channel <<< 4 ||| v.ownerLUN) v.number v.entityID
          (Spec.bit v.logical 7 ||| v.entityInstance) (Spec.bit v.ignoreIfAbsent 7 ||| v.capabilities) v.sensorType
          v.eventReadingType (v.analogFormat <<< 6 ||| v.rateUnit <<< 3 ||| v.modifierUse <<< 1 ||| Spec.bit v.percentage 0)
          v.baseUnit v.modifierUnit v.linearisation
          (UInt8.ofNat (Spec.toTwos 10 v.m % 256)) (UInt8.ofNat (Spec.toTwos 10 v.m / 256) <<< 6 ||| v.tolerance)
          (UInt8.ofNat (Spec.toTwos 10 v.b % 256))
          (UInt8.ofNat (Spec.toTwos 10 v.b / 256) <<< 6 ||| UInt8.ofNat (Spec.toTwos 10 v.accuracy % 64))
          (UInt8.ofNat (Spec.toTwos 10 v.accuracy / 64) <<< 4 ||| v.accuracyExp <<< 2 ||| v.direction)
          (UInt8.ofNat (Spec.toTwos 4 v.rExp) <<< 4 ||| UInt8.ofNat (Spec.toTwos 4 v.bExp))
          (Spec.bit v.normalMinSpecified 2 ||| Spec.bit v.normalMaxSpecified 1 ||| Spec.bit v.nominalSpecified 0)
          v.nominalReading v.normalMax v.normalMin v.sensorMax v.sensorMin
          r.1 ((v.fixed ++ t).take (43 + r.2)) ((v.fixed ++ t).drop (43 + r.2))) := by
  unfold FullSensorRecord.decode
  rw [if_neg (show ¬ (v.fixed ++ t).length < 43 from Nat.not_lt.2 (Nat.le_add_left 43 t.length))]
  rfl

end Bmc.Lemmas.Sdr
