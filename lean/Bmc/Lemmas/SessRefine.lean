import Bmc.Wire.Sess
/-! Canonical-form theorem of the Get Session Info decoder. -/
namespace Bmc.Wire
open Bmc

theorem SessionInfoRsp.decodeGo_canon (prev : SessionInfoRsp) (d : GoSlice) :
    SessionInfoRsp.decodeGo prev d = SessionInfoRsp.decode d.vis ∧ (SessionInfoRsp.decodeGo prev d).bad = false := by
  unfold SessionInfoRsp.decode SessionInfoRsp.decodeGo
  simp only [GoSlice.len_ofBytes, GoSlice.vis_length]
  refine R.guard_canon fun h3 => ?_
  have hn : 3 ≤ d.len := Nat.le_of_not_lt h3
  go_reads hn []
  -- "no session": handle 0 and nothing after the third byte
  by_cases h0 : (List.getD d.vis 0 0 == 0 && d.len == 3) = true
  · go_reads hn [h0, Nat.le_refl, GoSlice.vis_length]
    exact ⟨trivial, rfl⟩
  simp only [h0]
  refine R.guard_canon fun h6 => ?_
  -- without the LAN data every read is below 6, with them below 18
  have hn : 6 ≤ d.len := Nat.le_of_not_lt h6
  by_cases h18 : d.len < 18
  case' neg => replace hn : 18 ≤ d.len := Nat.le_of_not_lt h18
  all_goals
    go_reads hn [h18, Nat.le_refl, GoSlice.vis_length]
    exact ⟨trivial, rfl⟩
#print axioms SessionInfoRsp.decodeGo_canon
end Bmc.Wire
