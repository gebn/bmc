import Bmc.Wire.V2Session
namespace Bmc.Wire
open Bmc

theorem V2Session.decode_ok {mac : Bytes → Bytes} {b : Bytes} {v : V2Session} (h : V2Session.decode mac b = .ok v) :
    (∃ off, v.id = le32 (b.drop off)) ∧
    (v.authenticated = true → ∃ off, off ≤ b.length ∧ v.signature = b.drop off ∧ b.drop off = mac (b.take off)) := by
  simp only [V2Session.decode, Except.ite_error_eq_ok] at h
  obtain ⟨-, -, -, -, h⟩ := h
  by_cases hna : (!(List.getD b 1 0 &&& 64 != 0)) = true
  · rw [if_pos hna] at h; cases h
    exact ⟨⟨_, rfl⟩, fun ha => by rw [show (List.getD b 1 0 &&& 64 != 0) = true from ha] at hna; cases hna⟩
  · rw [if_neg hna, Except.ite_error_eq_ok, Except.ite_error_eq_ok] at h
    obtain ⟨hl, hm, h⟩ := h; cases h
    exact ⟨⟨_, rfl⟩, fun _ => ⟨_, Nat.le_of_not_lt hl, rfl, by simpa using hm⟩⟩

theorem V2Session.decodeGo_refines (mac : Bytes → Bytes) (prev : V2Session) (d : GoSlice) :
    V2Session.decodeGo mac prev d = R.ofExcept (V2Session.decode mac d.vis) := by
  unfold V2Session.decodeGo V2Session.decode
  simp -zeta only [GoSlice.vis_length]
  refine R.guard_ofExcept fun h12 => ?_
  have hh : 12 ≤ d.len := Nat.le_of_not_lt h12
  simp -zeta only [GoSlice.idx_of_le hh, R.bind_ok, Nat.reduceLT]
  refine R.guard_ofExcept fun _ => ?_
  -- the OEM payload descriptor adds six bytes to the 12-byte header; `hh` bounds the header in both cases
  cases hoem : (List.getD d.vis 1 0 &&& 0x3f == 2)
  case' true =>
    by_cases h18 : d.len < 18
    · simp only [hoem, h18, Bool.true_and, decide_true, if_true]; rfl
    replace hh : 18 ≤ d.len := Nat.le_of_not_lt h18
    simp -zeta only [h18, decide_false, Bool.and_false]
  all_goals
    simp only [hoem, Bool.false_and, Bool.false_eq_true, if_false, if_true, R.pure_eq, R.bind_ok, Nat.reduceAdd,
      GoSlice.slice_of_le hh, Nat.reduceLeDiff, GoSlice.sub_vis, Nat.sub_zero, List.drop_zero, Nat.reduceSub,
      le16_take, le32_take, Nat.le_refl]
    generalize le16 (List.drop _ d.vis) = len
    refine R.guard_ofExcept fun hl => ?_
    rw [GoSlice.slice_ok d _ (_ + len) (by omega) (by omega)]
    cases hauth : (List.getD d.vis 1 0 &&& 0x40 != 0)
    · simp only [R.bind_ok, GoSlice.sub_vis, Bool.not_false, if_true, Nat.add_sub_cancel_left]; rfl
    · simp only [R.bind_ok, GoSlice.sub_vis, Bool.not_true, Bool.false_eq_true, if_false, Nat.add_sub_cancel_left]
      rw [GoSlice.sliceFrom_ok d _ (by omega)]
      simp only [R.bind_ok, GoSlice.sub_vis, GoSlice.take_len_drop_vis]
      generalize scanFF _ = n
      refine R.guard_ofExcept fun hs => ?_
      rw [GoSlice.sliceFrom_ok d _ (by omega), GoSlice.slice_ok d 0 _ (by omega) (by omega)]
      simp only [R.bind_ok, GoSlice.sub_vis, GoSlice.take_len_drop_vis, Nat.sub_zero, List.drop_zero, R.ofExcept_ite]
      rfl
#print axioms V2Session.decodeGo_refines

theorem V2Session.decodeGo_eq_ok {mac : Bytes → Bytes} {prev v : V2Session} {d : GoSlice} :
    V2Session.decodeGo mac prev d = .ok v ↔ V2Session.decode mac d.vis = .ok v := by
  rw [V2Session.decodeGo_refines, R.ofExcept_eq_ok]

theorem V2Session.decode_head {mac : Bytes → Bytes} {b : Bytes} {v : V2Session} (h : V2Session.decode mac b = .ok v) :
    12 ≤ b.length ∧ b.getD 0 0 = 6 := by
  simp only [V2Session.decode, Except.ite_error_eq_ok] at h
  exact ⟨Nat.le_of_not_lt h.1, by simpa using h.2.1⟩

