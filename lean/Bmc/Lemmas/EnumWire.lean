import Bmc.Proto.Enum
import Bmc.Spec.Enum
import Bmc.Proofs.C07.Sess
import Bmc.Proofs.C07.Dcmi
/-! Helper lemmas for C16, the response layers in front of the paging loops: applied to the bodies the specification's
    BMCs send, `pageOfBody` / `bmcOfBody` give the loops the specification's pages (C07's decode theorems). -/
namespace Bmc.Lemmas.Enum
open Bmc Bmc.Proto.Enum Bmc.Spec.Enum

theorem pageOfBody_spec (ch : UInt8) (hch : ch.toNat < 16) (data : Bytes) :
    pageOfBody (fun i => some (pageBody ch data i)) = fun w => some (page data w) := by
  funext w
  have hwf : (⟨ch, page data w⟩ : Spec.CipherSuites).wf := ⟨hch, by simp [page]; omega⟩
  simp [pageOfBody, pageBody, Proofs.C07.cipherSuites_decode_spec _ hwf, Proofs.C07.cipherSuitesView]

theorem bmcOfBody_spec (b : DcmiBmc) (hb : ∀ e ids, b.ids e = some ids → ids.length ≤ 255 ∧ ∀ r ∈ ids, r < 65536) :
    bmcOfBody b.respondBody = b.respond := by
  funext e s
  unfold bmcOfBody DcmiBmc.respondBody DcmiBmc.respond
  cases hi : b.ids e with
  | none => rfl
  | some ids =>
    obtain ⟨hlen, hr⟩ := hb e ids hi
    have hwf : (⟨UInt8.ofNat ids.length, (ids.drop (s - 1)).take b.pageSize⟩ : Spec.SensorInfo).wf := by
      refine ⟨by simp; omega, ?_⟩
      intro r hmem
      exact hr r (List.mem_of_mem_drop (List.mem_of_mem_take hmem))
    have hn : ids.length % 256 = ids.length := Nat.mod_eq_of_lt (by omega)
    simp [Proofs.C07.sensorInfo_decode_spec _ hwf, Proofs.C07.sensorInfoView, hn]

end Bmc.Lemmas.Enum
