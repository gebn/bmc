import Bmc.Proofs.GenOrch.GetSensorMap
/-! Helper lemma for `Proofs/GenOrch/GetSensorInfo.lean`: the second half of `GetSensorInfo` (the DCMI-specific entity IDs),
    with the regenerated `getSensorMap` as a black box (its equality theorem). -/
namespace Bmc.Lemmas.GenOrchDcmi
open Bmc Bmc.GoOrch Bmc.Gen.Orch Bmc.Proto.Enum Bmc.Lemmas.GenOrch
open Bmc.Proofs.GenOrch

theorem fallback_run (b : TBmc) (junk) (fuel : Nat) (hf : 256 ≤ fuel) (es : List UInt8) (hes : es.map (·.toNat) = dcmiEntities)
    (log : List GetDCMISensorInfoReq) (cmd : GetDCMISensorInfoCmd) (ht : cmd.req.type_ = 1) :
    ((M.cont (fun (t3 : GMap) => (pure ({ inlet := mapGet t3 (64 : UInt8) [], cpu := mapGet t3 (65 : UInt8) [], baseboard := mapGet t3 (66 : UInt8) [] } : Gen.Orch.SensorInfo) : M St _))
        (dcmi_getSensorMap fuel (ansOf b junk) es (log, cmd))).1.map viewInfo
      = RF.lift (fallback (handOf b 1)).2) ∧
    (M.cont (fun (t3 : GMap) => (pure ({ inlet := mapGet t3 (64 : UInt8) [], cpu := mapGet t3 (65 : UInt8) [], baseboard := mapGet t3 (66 : UInt8) [] } : Gen.Orch.SensorInfo) : M St _))
        (dcmi_getSensorMap fuel (ansOf b junk) es (log, cmd))).2.1.map viewReq
      = log.map viewReq ++ (fallback (handOf b 1)).1 := by
  obtain ⟨k1, k2, _, k4⟩ := getSensorMap_gen_eq b junk 1 fuel hf es log cmd ht
  rw [hes] at k1 k2
  have hres := sensorMap_safe (handOf b 1) dcmiEntities
  rw [fallback]
  generalize dcmi_getSensorMap fuel (ansOf b junk) es (log, cmd) = r at k1 k2 k4 ⊢
  generalize sensorMap (handOf b 1) dcmiEntities = h at k1 k2 hres ⊢
  obtain ⟨r1, log', cmd'⟩ := r
  obtain ⟨l, hr⟩ := h
  rcases map_eq_lift k1 hres with ⟨rfl, rfl⟩ | ⟨g, rfl, rfl⟩
  · exact ⟨rfl, k2⟩
  · exact ⟨by simp only [cont_ok, pure_apply, RF.map, pick_view g (k4 g rfl) 64 65 66]; rfl, k2⟩

end Bmc.Lemmas.GenOrchDcmi
