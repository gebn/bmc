import Bmc.Proofs.GenOrch.GetEntityInstances
/-! Helper lemma for `Proofs/GenOrch/GetSensorMap.lean`: the `range entities` loop with the regenerated
    `getEntityInstances` as a black box (its equality theorem), against the hand model's `sensorMapLoop`. -/
namespace Bmc.Lemmas.GenOrchDcmi
open Bmc Bmc.GoOrch Bmc.Gen.Orch Bmc.Proto.Enum Bmc.Lemmas.GenOrch
open Bmc.Proofs.GenOrch

/-- the `range entities` loop, for any body that sets the entity, calls `getEntityInstances` and stores what it returns -/
theorem forEach_getEntityInstances (b : TBmc) (junk) (typ : UInt8) (fuel : Nat) (hf : 256 ≤ fuel) (step : GMap → UInt8 → M St (Step GMap))
    (hstep : ∀ m e s, step m e s = M.cont (fun recordIDs => pure (Step.next (mapSet m e recordIDs)))
      (dcmi_getEntityInstances fuel (ansOf b junk) (s.1, { s.2 with req := { s.2.req with entity := e } }))) :
    ∀ (es : List UInt8) (m : GMap) (log : List GetDCMISensorInfoReq) (cmd : GetDCMISensorInfoCmd), cmd.req.type_ = typ →
    (m.map (·.1)).Nodup →
    ((forEach es step m (log, cmd)).1.map viewMap
        = RF.lift (sensorMapLoop (handOf b typ) (es.map (·.toNat)) (viewMap m)).2) ∧
    (forEach es step m (log, cmd)).2.1.map viewReq
        = log.map viewReq ++ (sensorMapLoop (handOf b typ) (es.map (·.toNat)) (viewMap m)).1 ∧
    (forEach es step m (log, cmd)).2.2.req.type_ = typ ∧
    (∀ g, (forEach es step m (log, cmd)).1 = .ok g → (g.map (·.1)).Nodup) := by
  intro es
  induction es with
  | nil => intro m log cmd ht hm; exact ⟨rfl, by simp [forEach_nil, sensorMapLoop], ht, fun g hg => by cases hg; exact hm⟩
  | cons e es ih =>
    intro m log cmd ht hm
    rw [forEach_cons, hstep]
    simp only [List.map_cons, sensorMapLoop]
    obtain ⟨k1, k2, k3, _⟩ :=
      getEntityInstances_gen_eq b junk typ e fuel hf log { cmd with req := { cmd.req with entity := e } } ht rfl
    generalize dcmi_getEntityInstances fuel (ansOf b junk) (log, { cmd with req := { cmd.req with entity := e } }) = r at k1 k2 k3 ⊢
    obtain ⟨r1, log', cmd'⟩ := r
    have hres := Lemmas.Enum.entityInstances_safe (handOf b typ) e.toNat
    generalize entityInstances (handOf b typ) e.toNat = h at k1 k2 hres
    obtain ⟨l1, hr⟩ := h
    rcases map_eq_lift k1 hres with ⟨rfl, rfl⟩ | ⟨a, rfl, rfl⟩
    · exact ⟨rfl, by simpa using k2, k3, nofun⟩
    · obtain ⟨i1, i2, i3, i4⟩ := ih (mapSet m e a) log' cmd' k3 (keys_mapSet m e a hm)
      rw [viewMap_mapSet] at i1 i2
      simp only [cont_ok, pure_apply]
      exact ⟨i1, by rw [i2, k2]; simp, i3, i4⟩

end Bmc.Lemmas.GenOrchDcmi
