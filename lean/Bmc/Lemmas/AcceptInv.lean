import Bmc.Lemmas.SessionLaws
import Bmc.Lemmas.MessageRefine
/-! Inversion lemmas: what must have been true of a datagram for the receive chain to reach the message layer. -/
namespace Bmc.Proto
open Bmc Bmc.Wire Bmc.Crypto

theorem onMessage_message (s : Sess) (mi : GoSlice) :
    (onMessage s mi).2 = .message → ∃ m, Message.decode 8 mi.vis = .ok m ∧ (onMessage s mi).1 = { s with msg := m } := by
  unfold onMessage
  cases (mi.len == 0)
  case true => exact fun h => nomatch h
  rcases hm : Message.decodeGo 8 s.msg mi with m | _ | _ | _
  case ok => exact fun _ => ⟨m, Message.decodeGo_eq_ok.mp hm, rfl⟩
  all_goals exact fun h => nomatch h

theorem onWrapper_message (C : Ops) (s : Sess) (v : V2Session) :
    (onWrapper C s v).2 = .message →
    ∃ mb m, (if v.encrypted then ∃ a, AESLayer.decodeGo C s.k2 true {} (GoSlice.ofBytes v.payload) = .ok a ∧ a.payload = mb
             else v.payload = mb) ∧
      Message.decode 8 mb = .ok m ∧ (onWrapper C s v).1 = { s with v2 := v, msg := m } := by
  unfold onWrapper
  cases v.payload.isEmpty
  case true => exact fun h => nomatch h
  cases (v.payloadType != 0)
  case true => exact fun h => nomatch h
  cases v.encrypted
  case false =>
    intro h
    obtain ⟨m, h1, h2⟩ := onMessage_message _ _ h
    exact ⟨_, m, (GoSlice.vis_ofBytes _).symm, h1, h2⟩
  rcases AESLayer.decodeGo C s.k2 true {} (GoSlice.ofBytes v.payload) with a | _ | _ | _
  case ok =>
    intro h
    obtain ⟨m, h1, h2⟩ := onMessage_message _ _ h
    exact ⟨_, m, ⟨a, rfl, (GoSlice.vis_ofBytes _).symm⟩, h1, h2⟩
  all_goals exact fun h => nomatch h

/-- what reaching the message layer took. The bytes `mb` the message layer decoded are left free: the users want of `msg` what
    `Message.decode_ok` gives for any input. -/
theorem onReply_message_inv (C : Ops) (s : Sess) (d : GoSlice) (v2 : V2Session) (msg : Message)
    (h : view (onReply C s d) = (.message, some (v2, msg))) :
    ∃ r p, RMCP.decodeGo s.rmcp d = .ok (r, p) ∧
      V2Session.decode (integMac C s.integ s.k1) p.vis = .ok v2 ∧
      (v2.encrypted = true → ∃ a, AESLayer.decodeGo C s.k2 true {} (GoSlice.ofBytes v2.payload) = .ok a) ∧
      ∃ mb, Message.decode 8 mb = .ok msg := by
  rw [onReply_view_eq] at h
  rcases hr : RMCP.decodeGo {} d with ⟨r, p⟩ | _ | _ | _ <;> rw [hr] at h
  case err | panic | overread => cases h
  dsimp only at h
  split at h
  · cases h
  rcases hv : V2Session.decode (integMac C s.integ s.k1) p.vis with _ | v <;> rw [hv] at h
  case error => cases h
  have hm : (onWrapper C s v).2 = .message := congrArg Prod.fst h
  obtain ⟨mb, m, ha, h4, h5⟩ := onWrapper_message C s v hm
  obtain ⟨rfl, rfl⟩ : v = v2 ∧ m = msg := by
    simpa only [view, hm, if_true, h5, Option.some.injEq, Prod.mk.injEq] using congrArg Prod.snd h
  exact ⟨r, p, hr, hv, fun he => (if_pos he ▸ ha).imp fun _ => And.left, mb, h4⟩

end Bmc.Proto
