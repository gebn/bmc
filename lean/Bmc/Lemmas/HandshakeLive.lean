import Bmc.Lemmas.HandshakeInv
import Bmc.Lemmas.V2Refine
import Bmc.Lemmas.V2RoundTrip
import Bmc.Lemmas.Rakp2Refine
import Bmc.Spec.Bmc
import Bmc.Lemmas.SetupBridge
import Bmc.Lemmas.SetupSpec
import Bmc.Lemmas.RmcpHeader
/-! Liveness of the handshake model against the specification's BMC (`Spec/Bmc.lean`): one lemma per layer
    (datagram → payload window → decoded reply → the checks), assembled in `newSession_live`. -/
namespace Bmc.Proto
open Bmc Bmc.Wire Bmc.Crypto Bmc.Lemmas.GenHs

/-- the literal of `Proto.payloadReply`: what lies behind the payload in the window handed to a setup-layer decoder. `LayerPayload()`
    points into the 512-byte receive buffer, so a slice expression beyond `len` finds stale bytes there (`R.overread`), not a fault;
    64 bytes of the marker `0xEE` stand for them. Their value never matters below: every lemma holds for any `tail`. -/
abbrev recvTail : Bytes := List.replicate 64 0xEE

theorem sessionless_eq_setupDatagram (pt : UInt8) (payload : Bytes) (h2 : pt ≠ 2) :
    Spec.sessionless pt payload = setupDatagram pt payload := by
  have l1 : payload.length % 65536 % 256 = payload.length % 256 := Nat.mod_mod_of_dvd _ ⟨256, rfl⟩
  have l2 : payload.length % 65536 / 256 % 256 = payload.length / 256 % 256 := by
    rw [show 65536 = 256 * 256 from rfl, Nat.mod_mul_right_div_self, Nat.mod_mod]
  unfold Spec.sessionless setupDatagram V2Session.encode
  simp only [beq_false_of_ne h2, putLE16, l1, l2, Bool.false_eq_true, if_false, List.append_nil, UInt8.or_zero]
  rfl

theorem payloadReply_setup (pt : UInt8) (payload : Bytes) (hpt : pt.toNat < 64) (h0 : pt ≠ 0) (h2 : pt ≠ 2)
    (hne : payload ≠ []) (hlen : payload.length < 65536) :
    payloadReply (GoSlice.ofBytes (Spec.sessionless pt payload)) = .got (GoSlice.window payload recvTail) := by
  have wf : V2Session.WF { payloadType := pt } payload :=
    ⟨hpt, by simp, by simp, hlen, by simp, by simp, fun _ => ⟨rfl, rfl⟩, fun _ => ⟨rfl, rfl⟩⟩
  have hdec := V2Session.decode_encode (fun _ => []) { payloadType := pt } payload wf
  generalize hw : V2Session.encode (fun _ => []) { payloadType := pt } payload = enc at hdec
  have hhead : (enc.2.length == 0) = false ∧ enc.2.getD 0 0 = 6 ∧ enc.1.payloadType = pt ∧ enc.1.encrypted = false := by
    subst hw; simp [V2Session.encode]
  have he : payload.isEmpty = false := by cases payload with | nil => exact absurd rfl hne | cons a t => rfl
  have hz : (pt == 0) = false := by simpa using h0
  rw [sessionless_eq_setupDatagram pt payload h2]
  show payloadReply (GoSlice.ofBytes (6 :: 0 :: 0xFF :: 7 :: (V2Session.encode (fun _ => []) { payloadType := pt } payload).2)) = _
  unfold payloadReply
  rw [hw, rmcp_decode_any]
  simp only [V2Session.decodeGo_refines, GoSlice.len_ofBytes, GoSlice.vis_ofBytes, hdec, hhead, he, hz, R.ofExcept_ok,
    show ((7 : UInt8) &&& 15 != 7) = false from rfl, bne_self_eq_false, Bool.false_eq_true, if_false, Bool.not_false, Bool.and_true]

open Bmc.Lemmas.Setup Bmc.Lemmas.SetupBridge in
theorem openSessionRsp_decode_bmc (tag mp : UInt8) (csid bsid : Nat) (a i c : UInt8) (hc : csid < 4294967296)
    (hb : bsid < 4294967296) (ha : a &&& 0x3f = a) (hi : i &&& 0x3f = i) (hcf : c &&& 0x3f = c) (tail : Bytes) :
    OpenSessionRsp.decodeGo {} (GoSlice.window (Spec.OpenSessionRsp.ok tag mp csid bsid (some a) (some i) (some c)).encode tail) =
      .ok { tag := tag, status := 0, maxPriv := mp, consoleSessionID := csid, bmcSessionID := bsid,
            authWild := false, auth := a, integWild := false, integ := i, confWild := false, conf := c } := by
  rw [show ({} : OpenSessionRsp) = forgetOpen {} from rfl, openSessionRsp_pure, GoSlice.vis_window,
    openSessionRsp_decode_ok tag mp csid bsid _ _ _ _ _ _ hc hb (algOf_some 0 a ha) (algOf_some 1 i hi) (algOf_some 2 c hcf)]
  rfl

open Bmc.Lemmas.Setup in
theorem rakp2_decode_bmc (tag : UInt8) (sid : Nat) (rc guid ac : Bytes) (h1 : sid < 4294967296) (h2 : rc.length = 16)
    (h3 : guid.length = 16) (tail : Bytes) :
    RAKP2.decodeGo true {} (GoSlice.window (Spec.RAKP2.ok tag sid rc guid ac).encode tail) =
      .ok { tag := tag, status := 0, consoleSessionID := sid, bmcRandom := rc, bmcGUID := guid, authCode := ac
            contents := (Spec.RAKP2.ok tag sid rc guid ac).encode } := by
  rw [RAKP2.decodeGo_refines, GoSlice.vis_window, rakp2_decode_ok tag sid rc guid ac h1 h2 h3]
  rfl

open Bmc.Lemmas.Setup Bmc.Lemmas.SetupBridge in
theorem rakp4_decode_bmc (tag : UInt8) (sid : Nat) (icv : Bytes) (h1 : sid < 4294967296) (tail : Bytes) :
    RAKP4.decodeGo {} (GoSlice.window (Spec.RAKP4.ok tag sid icv).encode tail) =
      .ok { tag := tag, status := 0, consoleSessionID := sid, icv := icv } := by
  rw [rakp4_pure, GoSlice.vis_window, rakp4_decode_ok tag sid icv h1]
  rfl

theorem priv_nibble (p : UInt8) (h : p.toNat < 16) : p &&& 0xF = p := by
  simpa using mask4 p.toNat h

theorem openSessionReq_spec (priv : UInt8) (hp : priv.toNat < 16) (sid : Nat) (a i c : UInt8) :
    OpenSessionReq.encode 0 priv sid a i c = Spec.openSessionRequest 0 priv sid a i c := by
  unfold OpenSessionReq.encode; rw [priv_nibble priv hp]; rfl

theorem rakp1_spec (o : Opts) (hp : o.priv.toNat < 16) (hu : o.user.length ≤ 16) (sidc : Nat) (rm : Bytes) :
    RAKP1.encode 0 sidc rm o.lookup o.priv o.user = .ok (Spec.rakp1 0 sidc rm (roleByte o) o.user) := by
  unfold RAKP1.encode; rw [if_neg (by omega), priv_nibble o.priv hp]; rfl

theorem rakp3_spec (sidc : Nat) (code : Bytes) : RAKP3.encode 0 sidc code = Spec.rakp3 0 0 sidc code := rfl

/-- what the BMC has received from this console: tag 0 and console session ID 1 (the library's constants), the
    proposed suite, the console's random number, the role byte and the user name of RAKP 1 -/
def received (o : Opts) (rm : Bytes) : Spec.Received :=
  { tag := 0, sidm := 1, auth := o.auth, integ := o.integ, conf := o.conf, rm := rm, role := roleByte o, uname := o.user }

/-- the Open Session Response the console holds after the first exchange -/
def liveOsr (o : Opts) (b : Spec.BmcSide) : OpenSessionRsp :=
  { tag := 0, status := 0, maxPriv := b.maxPriv, consoleSessionID := 1, bmcSessionID := b.sidc
    auth := o.auth, integ := o.integ, conf := o.conf }

/-- the RAKP Message 2 the console holds after the second exchange -/
def liveRk2 (C : Ops) (h : HashAlg) (o : Opts) (rm : Bytes) (b : Spec.BmcSide) : RAKP2 :=
  { tag := 0, status := 0, consoleSessionID := 1, bmcRandom := b.rc, bmcGUID := b.guid
    authCode := Spec.rakp2Code C h b.kuid (b.exchange (received o rm))
    contents := (Spec.RAKP2.ok 0 1 b.rc b.guid (Spec.rakp2Code C h b.kuid (b.exchange (received o rm)))).encode }

theorem accepted_bmc {C : Ops} {o : Opts} {rm : Bytes} {b : Spec.BmcSide} {h : HashAlg} {osr : OpenSessionRsp} {rk2 : RAKP2} {rk4 : RAKP4}
    (hauth : authHash o.auth = some h) (hinteg : o.integ = 1 ∨ o.integ = 2 ∨ o.integ = 4) (hconf : o.conf = 1)
    (hpass : b.kuid = o.pass) (hkg : b.kg = o.kg)
    (ho : osr.tag = 0 ∧ osr.status = 0 ∧ osr.consoleSessionID = 1 ∧ osr.bmcSessionID = b.sidc ∧ osr.auth = o.auth ∧
          osr.integ = o.integ ∧ osr.conf = o.conf)
    (hr2 : rk2.tag = 0 ∧ rk2.status = 0 ∧ rk2.consoleSessionID = 1 ∧ rk2.bmcRandom = b.rc ∧ rk2.bmcGUID = b.guid ∧
           rk2.authCode = Spec.rakp2Code C h b.kuid (b.exchange (received o rm)))
    (hr4 : rk4.tag = 0 ∧ rk4.status = 0 ∧ rk4.icv = Spec.icv C h (b.sik C h (received o rm)) (b.exchange (received o rm))) :
    Accepted C o rm osr rk2 h rk4
      (.ok 1 b.sidc o.auth o.integ o.conf (b.sik C h (received o rm)) (b.k1 C h (received o rm)) (b.k2 C h (received o rm))) ∧
    rakp3Code C h o rk2 = b.expectedRakp3 C h (received o rm) := by
  obtain ⟨t1, s1, c1, b1, au1, in1, co1⟩ := ho
  obtain ⟨t2, s2, c2, rc2, g2, code2⟩ := hr2
  obtain ⟨t4, s4, icv4⟩ := hr4
  have hx : Proofs.C02.exchangeOf o rm osr rk2 = b.exchange (received o rm) := by
    simp only [Proofs.C02.exchangeOf, b1, c2, rc2, g2]; rfl
  have hsik : sikOf C h o rm rk2 = b.sik C h (received o rm) := by
    rw [sikOf_spec C h o rm osr rk2, hx, ← hpass, ← hkg]; rfl
  refine ⟨⟨t1, s1, au1, in1, co1, t2, s2, au1 ▸ hauth, ?_, t4, s4, ?_, in1 ▸ hinteg, co1 ▸ hconf, ?_⟩, ?_⟩
  · rw [code2, rakp2Code_spec, hx, hpass]
  · rw [icv4, hsik, icvOf_spec C h o rm osr rk2 _ _ (au1 ▸ hauth), hx]
  · rw [hsik, c1, b1, au1, in1, co1]; rfl
  · rw [rakp3Code_spec C h o rm osr rk2, hx, ← hpass]; rfl

theorem openReply_got (b : Spec.BmcSide) (rx : Spec.Received) :
    payloadReply (GoSlice.ofBytes (b.openSessionReply rx)) = .got (GoSlice.window
      (Spec.OpenSessionRsp.ok rx.tag b.maxPriv rx.sidm b.sidc (some rx.auth) (some rx.integ) (some rx.conf)).encode recvTail) :=
  payloadReply_setup 0x11 _ (by decide) (by decide) (by decide) (List.cons_ne_nil _ _)
    (by simp only [Spec.OpenSessionRsp.encode, Spec.le32, Spec.algPayload, List.length_append, List.length_cons, List.length_nil]; decide)

theorem rakp2Reply_got (C : Ops) (h : HashAlg) (b : Spec.BmcSide) (hb : b.wf) (rx : Spec.Received)
    (hfit : (Spec.rakp2Code C h b.kuid (b.exchange rx)).length + 40 < 65536) :
    payloadReply (GoSlice.ofBytes (b.rakp2Reply C h rx)) = .got (GoSlice.window
      (Spec.RAKP2.ok rx.tag rx.sidm b.rc b.guid (Spec.rakp2Code C h b.kuid (b.exchange rx))).encode recvTail) :=
  payloadReply_setup 0x13 _ (by decide) (by decide) (by decide) (List.cons_ne_nil _ _)
    (by simp only [Spec.RAKP2.encode, Spec.le32, List.length_append, List.length_cons, List.length_nil, hb.2.1, hb.2.2]; omega)

theorem rakp4Reply_got (C : Ops) (h : HashAlg) (b : Spec.BmcSide) (rx : Spec.Received)
    (hfit : (Spec.icv C h (b.sik C h rx) (b.exchange rx)).length + 8 < 65536) :
    payloadReply (GoSlice.ofBytes (b.rakp4Reply C h rx)) = .got (GoSlice.window
      (Spec.RAKP4.ok rx.tag rx.sidm (Spec.icv C h (b.sik C h rx) (b.exchange rx))).encode recvTail) :=
  payloadReply_setup 0x15 _ (by decide) (by decide) (by decide) (List.cons_ne_nil _ _)
    (by simp only [Spec.RAKP4.encode, Spec.le32, List.length_append, List.length_cons, List.length_nil]; omega)

/-- a hash whose outputs fit the wrapper's 16-bit payload length (any real hash: 16 to 32 bytes) gives codes that fit -/
theorem fits_of_bound (C : Ops) (h : HashAlg) (hfit : ∀ k m, (C.hmac h k m).length + 40 < 65536) (kuid : Bytes)
    (sik : Bytes) (x : Spec.Exchange) :
    (Spec.rakp2Code C h kuid x).length + 40 < 65536 ∧ (Spec.icv C h sik x).length + 8 < 65536 := by
  constructor
  · exact hfit _ _
  · have := hfit sik (x.rm ++ x.sidc ++ x.guid)
    cases h <;> simp only [Spec.icv, List.length_take] <;> omega

theorem hmac_fits (C : Ops) (hC : C.Lawful) (h : HashAlg) (k m : Bytes) : (C.hmac h k m).length + 40 < 65536 := by
  rw [hC.hmac_len]; cases h <;> decide

theorem fits_of_lawful (C : Ops) (hC : C.Lawful) (h : HashAlg) (kuid : Bytes) (sik : Bytes) (x : Spec.Exchange) :
    (Spec.rakp2Code C h kuid x).length + 40 < 65536 ∧ (Spec.icv C h sik x).length + 8 < 65536 :=
  fits_of_bound C h (hmac_fits C hC h) kuid sik x

/-- a reply that is read down to a payload ends the exchange (`Ends`, `Lemmas/HandshakeLoss.lean`) -/
theorem got_not_retry {d : Bytes} {w : GoSlice} (h : payloadReply (GoSlice.ofBytes d) = .got w) :
    payloadReply (GoSlice.ofBytes d) ≠ .retry := by
  rw [h]; exact nofun

theorem scriptExchange_reply {α : Type} {dec : GoSlice → R α} {d : Bytes} {w : GoSlice} {v : α}
    (hgot : payloadReply (GoSlice.ofBytes d) = .got w) (hdec : dec w = .ok v) (pt : UInt8) (pl : Bytes) (rest : List Outcome)
    (sent : List Bytes) :
    scriptExchange pt pl dec (.reply d :: rest, sent) = ((rest, sent ++ [setupDatagram pt pl]), .ok v) := by
  simp only [scriptExchange, exchange, decoded, exchangePayload, hgot, hdec, List.drop_succ_cons, List.drop_zero, List.replicate_one]

/-- against the specification's BMC holding the same password and key, with one reply per exchange: exactly the three
    datagrams the specification prescribes are transmitted and the session is returned with the BMC's own keys -/
theorem newSession_live (C : Ops) (o : Opts) (rm : Bytes) (b : Spec.BmcSide) (hb : b.wf) (h : HashAlg)
    (ha : authHash o.auth = some h) (hi : o.integ = 1 ∨ o.integ = 2 ∨ o.integ = 4) (hc : o.conf = 1)
    (hu : o.user.length ≤ 16) (hp : o.priv.toNat < 16) (hk : b.kuid = o.pass) (hkg : b.kg = o.kg)
    (hfit : ∀ k m, (C.hmac h k m).length + 40 < 65536) :
    newSession C o rm [.reply (b.openSessionReply (received o rm)), .reply (b.rakp2Reply C h (received o rm)),
        .reply (b.rakp4Reply C h (received o rm))] =
      ([Spec.sessionless 0x10 (Spec.openSessionRequest 0 o.priv 1 o.auth o.integ o.conf),
        Spec.sessionless 0x12 (Spec.rakp1 0 b.sidc rm (roleByte o) o.user),
        Spec.sessionless 0x14 (Spec.rakp3 0 0 b.sidc (b.expectedRakp3 C h (received o rm)))],
       .ok 1 b.sidc o.auth o.integ o.conf (b.sik C h (received o rm)) (b.k1 C h (received o rm)) (b.k2 C h (received o rm))) := by
  have ha' : o.auth &&& 0x3f = o.auth := by rcases authHash_some ha with ⟨e, _⟩ | ⟨e, _⟩ | ⟨e, _⟩ <;> (rw [e]; rfl)
  have hi' : o.integ &&& 0x3f = o.integ := by rcases hi with e | e | e <;> (rw [e]; rfl)
  have hc' : o.conf &&& 0x3f = o.conf := by rw [hc]; rfl
  have d1 := openSessionRsp_decode_bmc 0 b.maxPriv 1 b.sidc o.auth o.integ o.conf (by omega) hb.1 ha' hi' hc' recvTail
  have d2 := rakp2_decode_bmc 0 1 b.rc b.guid (Spec.rakp2Code C h b.kuid (b.exchange (received o rm))) (by omega) hb.2.1 hb.2.2 recvTail
  have d4 := rakp4_decode_bmc 0 1 (Spec.icv C h (b.sik C h (received o rm)) (b.exchange (received o rm))) (by omega) recvTail
  obtain ⟨f2, f4⟩ := fits_of_bound C h hfit b.kuid (b.sik C h (received o rm)) (b.exchange (received o rm))
  obtain ⟨acc, e3⟩ := accepted_bmc (osr := liveOsr o b) (rk2 := liveRk2 C h o rm b) ha hi hc hk hkg ⟨rfl, rfl, rfl, rfl, rfl, rfl, rfl⟩
    ⟨rfl, rfl, rfl, rfl, rfl, rfl⟩ (rk4 := { tag := 0, status := 0, consoleSessionID := 1, icv := _ }) ⟨rfl, rfl, rfl⟩
  have a2 : ∀ sent, (scriptAnswers rm).rakp1
        ([.reply (b.rakp2Reply C h (received o rm)), .reply (b.rakp4Reply C h (received o rm))], sent)
        ⟨0, b.sidc, rm, o.lookup, o.priv, o.user⟩ =
      (([.reply (b.rakp4Reply C h (received o rm))], sent ++ [setupDatagram 0x12 (Spec.rakp1 0 b.sidc rm (roleByte o) o.user)]),
        .ok (liveRk2 C h o rm b)) := by
    intro sent
    show (match RAKP1.encode 0 b.sidc rm o.lookup o.priv o.user with | .error _ => _ | .ok rk1 => _) = _
    rw [rakp1_spec o hp hu b.sidc rm]
    exact scriptExchange_reply (rakp2Reply_got C h b hb (received o rm) f2) d2 _ _ _ _
  rw [newSession_eq_hsRun, hsRun_of_stages (A := scriptAnswers rm)
    ⟨scriptExchange_reply (openReply_got b (received o rm)) d1 _ _ _ _, rfl, a2 _,
      scriptExchange_reply (rakp4Reply_got C h b (received o rm) f4) d4 _ _ _ _, acc⟩]
  rw [e3, openSessionReq_spec o.priv hp, rakp3_spec, ← sessionless_eq_setupDatagram _ _ (by decide),
    ← sessionless_eq_setupDatagram _ _ (by decide), ← sessionless_eq_setupDatagram _ _ (by decide)]
  rfl

end Bmc.Proto
