import Bmc.Lemmas.AesRefine
/-! Helper lemmas for C08, the AES-CBC-128 confidentiality layer: the padded plaintext is a whole number of blocks, and
    decoding an encoding under the same key gives back the IV and the message (from the round trip of CBC over a lawful
    block cipher). -/
namespace Bmc.Wire
open Bmc Bmc.Crypto

theorem confPad_len (n : Nat) : (confPad n).length = n + 1 := by simp [confPad]

theorem padded_len (msg : Bytes) : ∃ k, 1 ≤ k ∧ (msg ++ confPad (padLen msg.length)).length = 16 * k :=
  ⟨msg.length / 16 + 1, by omega, by rw [List.length_append, confPad_len, padLen]; omega⟩

theorem padOk_range (n : Nat) : padOk ((List.range n).map (fun i => UInt8.ofNat (i + 1))) = true := by
  simp [padOk]

theorem AESLayer.decode_encode (C : Ops) (hC : C.Lawful) (key iv msg : Bytes) (hiv : iv.length = 16) :
    AESLayer.decode C key (AESLayer.encode C key iv msg) = .ok { contents := iv, payload := msg } := by
  obtain ⟨k, hk1, hP⟩ := padded_len msg
  have hn : padLen msg.length ≤ 15 := Nat.sub_le _ _
  unfold AESLayer.decode AESLayer.encode
  generalize padLen msg.length = n at hP hn
  have hdiv : (msg ++ confPad n).length / 16 = k := by omega
  have hct := cbcEnc_len C hC key k iv _ hiv hP
  have hrt := cbcDec_cbcEnc C hC key k iv _ hiv hP
  simp only [hdiv]
  generalize cbcEnc C key k iv (msg ++ confPad n) = ct at hct hrt
  -- lengths in terms of `msg.length` and `n`: the last byte is at `16 + (msg.length + n)`, the pad starts at `16 + msg.length`
  rw [List.length_append, confPad_len] at hP
  have hL : (iv ++ ct).length = 16 + (msg.length + n + 1) := by rw [List.length_append, hiv, hct]; omega
  have hb : (16 + (msg.length + n + 1) - 16) / 16 = k := by omega
  simp only [hL, List.take_left' hiv, List.drop_left' hiv, hb, hrt]
  have hg : (decide (16 + (msg.length + n + 1) < 17) || (16 + (msg.length + n + 1)) % 16 != 0) = false := by
    simp; omega
  have hlast : (iv ++ (msg ++ confPad n)).getD (16 + (msg.length + n + 1) - 1) 0 = UInt8.ofNat n := by
    have e : 16 + (msg.length + n + 1) - 1 = (iv ++ (msg ++ (List.range n).map fun i => UInt8.ofNat (i + 1))).length := by
      simp [hiv]
    rw [e, confPad, ← List.append_assoc msg, ← List.append_assoc iv]
    simp [List.getD_eq_getElem?_getD]
  have hnn : (UInt8.ofNat n).toNat = n := UInt8.toNat_ofNat_of_lt' (show _ < 256 by omega)
  have hgt : ¬ (UInt8.ofNat n > 16) := fun h => by have := UInt8.lt_iff_toNat_lt.mp h; simp at this; omega
  have hs : 16 + (msg.length + n + 1) - n - 1 = 16 + msg.length := by omega
  have hdrop : (iv ++ (msg ++ confPad n)).drop (16 + msg.length) = confPad n := by
    rw [← List.append_assoc]; exact List.drop_left' (by simp [hiv])
  have htake : (confPad n).take n = (List.range n).map fun i => UInt8.ofNat (i + 1) := List.take_left' (by simp)
  simp only [hg, hlast, hnn, hgt, hs, hdrop, htake, padOk_range, Nat.add_sub_cancel_left, List.take_left,
    Nat.not_lt.mpr (Nat.le_add_right 16 _), Bool.not_true, Bool.false_eq_true, if_false]
#print axioms AESLayer.decode_encode

end Bmc.Wire
