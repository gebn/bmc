import Bmc.Proto.SdrWalk
/-! Helper lemmas for C14 about ANY BMC (no assumption on the answer function): what `call` makes of an answer, the four
    ways one round of the walk can go (`walkLoop_round`: every proof about `walkLoop` is an induction over the fuel through
    it), and that a walk which returns a map has seen every one of its Get SDR requests complete normally. -/
namespace Bmc.Lemmas.SdrWalk
open Bmc Bmc.Wire Bmc.Proto.SdrWalk

variable {σ : Type}

theorem call_eq {α : Type} (a : Answer σ) (dec : Bytes → R α) (s : σ) (q : Req) :
    call a dec s q = ((a s q).1, (a s q).2.bind fun r =>
      match dec r.data with
      | .ok v => if r.cc = 0 then some v else none
      | _ => none) := by
  unfold call
  rcases a s q with ⟨s', _ | r⟩
  · rfl
  · simp only [Option.bind_some]
    cases dec r.data <;> simp only
    split <;> rfl

theorem call_logged {α : Type} (a : Answer σ) (dec : Bytes → R α) (s : σ) (l : List (Req × Option Rsp)) (q : Req) :
    call (logged a) dec (s, l) q = (((a s q).1, l ++ [(q, (a s q).2)]), (call a dec s q).2) := by
  rw [call_eq, call_eq]; rfl

theorem call_some {α : Type} (a : Answer σ) (dec : Bytes → R α) (s : σ) (q : Req) (v : α)
    (h : (call a dec s q).2 = some v) : ∃ r, (a s q).2 = some r ∧ r.cc = 0 ∧ dec r.data = .ok v := by
  rw [call_eq] at h
  obtain ⟨r, hr, hv⟩ := Option.bind_eq_some_iff.mp h
  refine ⟨r, hr, ?_⟩
  split at hv
  · split at hv
    · cases hv; exact ⟨‹_›, ‹_›⟩
    · cases hv
  · cases hv

/-- ONE ROUND of the walk, in the four ways it can go: after the header read (state `s1`) an error or the next record
    (not a Full Sensor Record); after the body read too (state `s2`) an error or the next record with the map extended -/
theorem walkLoop_round (k : Bool) (a : Answer σ) (n : Nat) (s : σ) (resv id : Nat) (m : SDRRepository) (hid : id ≠ 0xFFFF) :
    ∃ s1 o1, call a GetSDRRsp.decode s (.getSDR resv id 0 5) = (s1, o1) ∧
      (walkLoop k a (n + 1) s resv id m = (s1, .err) ∨
       (∃ hdr header, o1 = some hdr ∧ SDRHeader.decodeGo {} (GoSlice.ofBytes hdr.payload) = .ok header ∧
          ((header.typ ≠ 1 ∧ walkLoop k a (n + 1) s resv id m = walkLoop k a n s1 resv hdr.next m) ∨
           (header.typ = 1 ∧ ¬ header.length.toNat > 64 ∧
            ∃ s2 o2, call a GetSDRRsp.decode s1 (.getSDR resv id 5 header.length.toNat) = (s2, o2) ∧
              (walkLoop k a (n + 1) s resv id m = (s2, .err) ∨
               ∃ body fsr, o2 = some body ∧ FullSensorRecord.decodeGo {} (GoSlice.ofBytes body.payload) = .ok fsr ∧
                 walkLoop k a (n + 1) s resv id m =
                   walkLoop k a n s2 resv body.next (insert m (if k then header.id else id) fsr)))))) := by
  rw [walkLoop, if_neg hid]
  rcases call a GetSDRRsp.decode s (.getSDR resv id 0 5) with ⟨s1, _ | hdr⟩
  · exact ⟨s1, none, rfl, Or.inl rfl⟩
  · refine ⟨s1, some hdr, rfl, ?_⟩
    dsimp only
    cases hh : SDRHeader.decodeGo {} (GoSlice.ofBytes hdr.payload) with
    | ok header =>
      dsimp only
      by_cases ht : header.typ = 1
      · by_cases hl : header.length.toNat > 64
        · exact Or.inl (by rw [if_pos ht, if_pos hl])
        · refine Or.inr ⟨hdr, header, rfl, hh, Or.inr ⟨ht, hl, ?_⟩⟩
          rw [if_pos ht, if_neg hl]
          rcases call a GetSDRRsp.decode s1 (.getSDR resv id 5 header.length.toNat) with ⟨s2, _ | body⟩
          · exact ⟨s2, none, rfl, Or.inl rfl⟩
          · refine ⟨s2, some body, rfl, ?_⟩
            dsimp only
            cases hf : FullSensorRecord.decodeGo {} (GoSlice.ofBytes body.payload) with
            | ok fsr => exact Or.inr ⟨body, fsr, rfl, hf, rfl⟩
            | _ => exact Or.inl rfl
      · exact Or.inr ⟨hdr, header, rfl, hh, Or.inl ⟨ht, by rw [if_neg ht]⟩⟩
    | _ => exact Or.inl rfl

theorem call_logged_some {α : Type} (a : Answer σ) (dec : Bytes → R α) (s : σ) (l : List (Req × Option Rsp)) (q : Req)
    (s1 : σ × List (Req × Option Rsp)) (o1 : Option α) (h : call (logged a) dec (s, l) q = (s1, o1)) :
    ∃ e, s1.2 = l ++ [e] ∧ (o1.isSome → badGetSDR e = false) := by
  rw [call_logged] at h
  obtain ⟨rfl, rfl⟩ := Prod.mk.inj h
  refine ⟨_, rfl, fun hs => ?_⟩
  obtain ⟨v, hv⟩ := Option.isSome_iff_exists.mp hs
  obtain ⟨r, hr, hc, _⟩ := call_some a dec s q v hv
  simp [badGetSDR, hr, hc]

theorem walkLoop_log (k : Bool) (a : Answer σ) (fuel : Nat) :
    ∀ (s : σ) (l : List (Req × Option Rsp)) (resv id : Nat) (m : SDRRepository) (s' : σ) (l' : List (Req × Option Rsp))
      (m' : SDRRepository),
    walkLoop k (logged a) fuel (s, l) resv id m = ((s', l'), .ok m') →
    ∃ new, l' = l ++ new ∧ ∀ e ∈ new, badGetSDR e = false := by
  induction fuel with
  | zero => intro s l resv id m s' l' m' h; simp [walkLoop] at h
  | succ n ih =>
    intro s l resv id m s' l' m' h
    by_cases hid : id = 0xFFFF
    · rw [walkLoop, if_pos hid] at h
      simp only [Prod.mk.injEq, Res.ok.injEq] at h
      exact ⟨[], by simp [h.1.2.symm], by simp⟩
    · obtain ⟨⟨s1, l1⟩, o1, h1, hr⟩ := walkLoop_round k (logged a) n (s, l) resv id m hid
      obtain ⟨e1, rfl, g1⟩ := call_logged_some a _ s l _ _ _ h1
      rcases hr with e | ⟨hdr, header, rfl, _, ⟨_, e⟩ | ⟨_, _, ⟨s2, l2⟩, o2, h2, hr⟩⟩
      · rw [e] at h; cases h
      · rw [e] at h
        obtain ⟨new, rfl, hg⟩ := ih _ _ _ _ _ _ _ _ h
        exact ⟨e1 :: new, by simp, by simpa [g1 rfl] using hg⟩
      · obtain ⟨e2, rfl, g2⟩ := call_logged_some a _ s1 _ _ _ _ h2
        rcases hr with e | ⟨body, fsr, rfl, _, e⟩
        · rw [e] at h; cases h
        · rw [e] at h
          obtain ⟨new, rfl, hg⟩ := ih _ _ _ _ _ _ _ _ h
          exact ⟨e1 :: e2 :: new, by simp, by simpa [g1 rfl, g2 rfl] using hg⟩

theorem walk_log (k : Bool) (a : Answer σ) (fuel : Nat) (s s' : σ) (l' : List (Req × Option Rsp)) (m' : SDRRepository)
    (h : walk k (logged a) fuel (s, []) = ((s', l'), .ok m')) : ∀ e ∈ l', badGetSDR e = false := by
  unfold walk at h
  rw [call_logged] at h
  cases ho : (call a ReserveRsp.decode s .reserve).2 with
  | none => rw [ho] at h; simp at h
  | some r =>
    rw [ho] at h
    simp only at h
    obtain ⟨new, hn, hg⟩ := walkLoop_log k a fuel _ _ _ _ _ _ _ _ h
    intro e he
    rw [hn] at he
    simp only [List.nil_append, List.cons_append, List.mem_cons] at he
    rcases he with rfl | he
    · rfl
    · exact hg e he

end Bmc.Lemmas.SdrWalk
