namespace Bmc
abbrev Bytes := List UInt8

theorem forall_uint8 {P : UInt8 → Prop} (h : ∀ n : Nat, n < 256 → P (UInt8.ofNat n)) : ∀ b : UInt8, P b := by
  intro b
  have := h b.toNat b.toNat_lt
  simpa using this

theorem forall_bv8 {P : BitVec 8 → Prop} (h : ∀ n : Nat, n < 256 → P (BitVec.ofNat 8 n)) : ∀ b : BitVec 8, P b := by
  intro b
  have := h b.toNat b.isLt
  simpa using this
theorem mask7 : ∀ n : Nat, n < 128 → UInt8.ofNat n &&& 0x7f = UInt8.ofNat n := by decide +kernel
theorem mask6 : ∀ n : Nat, n < 64 → UInt8.ofNat n &&& 0x3f = UInt8.ofNat n := by decide +kernel
theorem mask4 : ∀ n : Nat, n < 16 → UInt8.ofNat n &&& 0xf = UInt8.ofNat n := by decide +kernel
theorem nibble_pair : ∀ h : Nat, h < 16 → ∀ l : Nat, l < 16 →
    ((UInt8.ofNat h <<< 4) ||| UInt8.ofNat l) >>> 4 = UInt8.ofNat h ∧
    ((UInt8.ofNat h <<< 4) ||| UInt8.ofNat l) &&& 0xf = UInt8.ofNat l := by decide +kernel

theorem and_toNat_le (x m : UInt8) : (x &&& m).toNat ≤ m.toNat := UInt8.le_iff_toNat_le.1 UInt8.and_le_right

theorem and_or_left (x a b : UInt8) : x &&& a ||| x &&& b = x &&& (a ||| b) :=
  (UInt8.toBitVec_inj.1 BitVec.and_or_distrib_left).symm
theorem and_or (x y m : UInt8) : (x ||| y) &&& m = x &&& m ||| y &&& m :=
  UInt8.toBitVec_inj.1 BitVec.and_or_distrib_right

theorem le24_lt (a b c : UInt8) : a.toNat + 256 * b.toNat + 65536 * c.toNat < 16777216 := by
  have := a.toNat_lt; have := b.toNat_lt; have := c.toNat_lt; omega

theorem getD_take (l : Bytes) (n i : Nat) (h : i < n) : (l.take n).getD i 0 = l.getD i 0 := by
  simp [List.getD_eq_getElem?_getD, h]

theorem getD_drop (l : Bytes) (k i : Nat) : (l.drop k).getD i 0 = l.getD (k + i) 0 := by
  simp [List.getD_eq_getElem?_getD, List.getElem?_drop]

theorem drop_eq_getD_cons {l : Bytes} {i : Nat} (h : i < l.length) : l.drop i = l.getD i 0 :: l.drop (i + 1) := by
  rw [List.drop_eq_getElem_cons h, List.getD_eq_getElem?_getD, List.getElem?_eq_getElem h, Option.getD_some]

theorem range_getD (l : Bytes) (k n : Nat) (h : k + n ≤ l.length) :
    ((List.range n).map (k + ·)).map (fun i => l.getD i 0) = (l.drop k).take n := by
  apply List.ext_getElem?
  intro i
  by_cases hi : i < n
  · simp [hi, List.getD_eq_getElem?_getD]
    have : k + i < l.length := by omega
    simp [this]
  · simp [List.getElem?_take, hi]

theorem getD_of_forall {α : Type} {P : α → Prop} (l : List α) (d : α) (h : ∀ x ∈ l, P x) (hd : P d) (k : Nat) :
    P (l.getD k d) := by
  rw [List.getD_eq_getElem?_getD]
  cases hk : l[k]? with
  | none => exact hd
  | some x => exact h x (List.mem_of_getElem? hk)

theorem set_append_drop {α : Type} (A P : List α) (m : Nat) (v : α) (hA : A.length = m) (hP : m < P.length) :
    (A ++ P.drop m).set m v = (A ++ [v]) ++ P.drop (m + 1) := by
  subst hA
  rw [List.set_append_right _ _ (Nat.le_refl _)]
  simp only [Nat.sub_self, List.append_assoc, List.singleton_append]
  congr 1
  rw [List.drop_eq_getElem_cons hP]
  rfl

/-! A block `a` of known length `n` at the head of `a ++ r`: what is read beyond it is read from `r`. With `h` supplied the
    left sides match reads at numeral offsets (`drop 19 (a ++ r)` for `n = 16` gives `k := 3`), so they work as `simp` lemmas. -/
theorem drop_block {a : Bytes} {n : Nat} (h : a.length = n) (r : Bytes) (k : Nat) : (a ++ r).drop (k + n) = r.drop k := by
  rw [Nat.add_comm, ← List.drop_drop, List.drop_left' h]
theorem getD_block {a : Bytes} {n : Nat} (h : a.length = n) (r : Bytes) (k : Nat) : (a ++ r).getD (k + n) 0 = r.getD k 0 := by
  rw [Nat.add_comm, ← getD_drop, List.drop_left' h]
theorem take_block {a : Bytes} {n : Nat} (h : a.length = n) (r : Bytes) (k : Nat) : (a ++ r).take (k + n) = a ++ r.take k := by
  subst h; rw [Nat.add_comm, List.take_length_add_append]
theorem range_succ_map {α : Type} (f : Nat → α) (n : Nat) :
    (List.range (n + 1)).map f = f 0 :: (List.range n).map (fun i => f (i + 1)) := by
  rw [List.range_succ_eq_map, List.map_cons, List.map_map]; rfl

theorem getD_map_range {α : Type} (f : Nat → α) {n i : Nat} (h : i < n) (d : α) : ((List.range n).map f).getD i d = f i := by
  simp [List.getD_eq_getElem?_getD, h]

theorem decide_toBitVec_eq (a b : UInt8) : decide (a.toBitVec = b.toBitVec) = (a == b) := by
  rw [Bool.eq_iff_iff, decide_eq_true_iff, beq_iff_eq]; exact UInt8.toBitVec_inj
end Bmc
