import Bmc.Basic.GoDec
/-! Support definitions for the ORCHESTRATION functions REGENERATED from the Go source by `tools/decgen -orch`
    (`Bmc/Gen/Orch.lean`): functions that talk to the BMC through `s.SendCommand(ctx, cmd)` several times, in loops.

    * `M σ α` — a computation over a state `σ` that SURVIVES errors (a Go function that returns an error has still sent
      its commands and mutated the structs it was given pointers to): `σ → RF α × σ`.
    * the state of a translated function is the state of the BMC's ANSWER FUNCTION (a type parameter) paired, where the
      function sends a command, with the CELL: the command struct behind the pointer handed to `SendCommand`
      (`getCell` / `modifyCell` / `withCell`).
    * `send`: `ValidateResponse(s.SendCommand(ctx, cmd))` — the answer function is applied to the request part of the
      cell, the response part of the cell is REPLACED by what the answer function says it holds afterwards (also when
      an error is reported: nothing is assumed about a response struct after a failed command), and the Boolean says
      whether the error was nil. -/
namespace Bmc.GoOrch
open Bmc

def M (σ α : Type) : Type := σ → RF α × σ

/-- an outcome that is not `ok`, at another result type -/
def castBad {α β : Type} : RF α → RF β
  | .ok _ => .panic      -- never used on `ok`
  | .err => .err | .panic => .panic | .overread => .overread | .outOfFuel => .outOfFuel

namespace M
def pure {σ α : Type} (a : α) : M σ α := fun s => (.ok a, s)
def cont {σ α β : Type} (f : α → M σ β) : RF α × σ → RF β × σ
  | (.ok a, s') => f a s'
  | (r, s') => (castBad r, s')
def bind {σ α β : Type} (x : M σ α) (f : α → M σ β) : M σ β := fun s => cont f (x s)
end M

instance {σ : Type} : Monad (M σ) where
  pure := M.pure
  bind := M.bind

def M.run {σ α : Type} (x : M σ α) (s : σ) : RF α × σ := x s

/-- a function outcome that does not touch the state (`RF`: the regenerated byte parsers) -/
def liftRF {σ α : Type} (r : RF α) : M σ α := fun s => (r, s)
/-- `return …, err` with a non-nil error -/
def fail {σ α : Type} : M σ α := fun s => (.err, s)
def panic {σ α : Type} : M σ α := fun s => (.panic, s)

/-- `v, err := f(…)` where the error is NOT propagated at once: `none` = a non-nil error came back (panics and
    exhausted fuel still end the computation) -/
def try_ {σ α : Type} (x : M σ α) : M σ (Option α) := fun s =>
  match x s with
  | (.ok a, s') => (.ok (some a), s')
  | (.err, s') => (.ok none, s')
  | (r, s') => (castBad r, s')

def getCell {σ C : Type} : M (σ × C) C := fun s => (.ok s.2, s)
def modifyCell {σ C : Type} (f : C → C) : M (σ × C) Unit := fun s => (.ok (), (s.1, f s.2))
/-- a command struct allocated by the function (`cmd := &T{…}`, or a local whose address is handed to `SendCommand`):
    it lives until the function returns -/
def withCell {σ C α : Type} (c : C) (x : M (σ × C) α) : M σ α := fun s =>
  let r := x (s, c)
  (r.1, r.2.1)

/-- a computation that does not know of the cell, run where there is one -/
def liftCell {σ C α : Type} (x : M σ α) : M (σ × C) α := fun s =>
  let r := x s.1
  (r.1, (r.2, s.2))

/-- `ValidateResponse(s.SendCommand(ctx, cmd))`: `ans` = the BMC (with everything below `SendCommand`) as a function of
    its state and the request struct: the new state, what the response struct holds afterwards, whether the error is nil -/
def send {σ C Q P : Type} (ans : σ → Q → σ × P × Bool) (req : C → Q) (setRsp : C → P → C) : M (σ × C) Unit := fun s =>
  let r := ans s.1 (req s.2)
  (bif r.2.2 then .ok () else .err, (r.1, setRsp s.2 r.2.1))

/-- a typed wrapper around `SendCommand` (`s.GetSDRRepositoryInfo(ctx)`, `s.ReserveSDRRepository(ctx)`): allocates its own
    command; `none` = a non-nil error -/
def call {σ P : Type} (ans : σ → σ × Option P) : M σ P := fun s =>
  let r := ans s
  (match r.2 with | some p => .ok p | none => .err, r.1)

/-- `*p` for a pointer that may be nil, `l.(*T)` for an interface value that may be nil: `none` is a run-time panic -/
def derefOpt {σ α : Type} (o : Option α) : M σ α := fun s => (match o with | some a => .ok a | none => .panic, s)

/-- `gopacket.NewPacket(data, LT, gopacket.DecodeOptions{Lazy: true}).Layer(LT)` where the decoder registered for `LT`
    decodes into a fresh `T` (`layerexts.BuildDecoder`) and `dec` is `(*T).DecodeFromBytes`: NewPacket COPIES the bytes
    (no `NoCopy`), so the decoder sees an exact-capacity slice; the layer is there exactly when decoding succeeds (an error
    becomes a DecodeFailure layer, a decoder panic is recovered into one: no layer of type `LT`). A modelling decision
    about gopacket (v1.1.19 `packet.go`), not a translation. -/
def packetLayer {T : Type} (dec : T → GoSlice → R T) (zero : T) (data : Bytes) : Option T :=
  match dec zero (GoSlice.ofBytes data) with
  | .ok v => some v
  | _ => none

/-- `backoff.Retry(op, policy)`: `op` is run until it returns nil, at most `attempts` times — what the context and the
    back-off's limit allow; afterwards the error is returned. (The waiting between attempts is not modelled; a panic or
    exhausted fuel inside `op` ends the computation.) -/
def retry {σ α : Type} : Nat → M σ α → M σ α
  | 0, _ => fun s => (.err, s)
  | n + 1, op => fun s =>
    match op s with
    | (.err, s') => retry n op s'
    | r => r

inductive Step (β : Type) where
  | next (b : β)       -- the end of the body (or `continue`)
  | brk (b : β)        -- `break`, or the loop condition was false
  deriving Repr

inductive Ctl (β ρ : Type) where
  | next (b : β)
  | brk (b : β)
  | ret (r : ρ)        -- `return r, nil` inside the loop
  deriving Repr

/-- a `for` loop without a successful `return` inside: FUEL rounds at most, else `RF.outOfFuel` -/
def loop {σ β : Type} : Nat → (β → M σ (Step β)) → β → M σ β
  | 0, _, _ => fun s => (.outOfFuel, s)
  | n + 1, step, b => fun s =>
    match step b s with
    | (.ok (.next b'), s') => loop n step b' s'
    | (.ok (.brk b'), s') => (.ok b', s')
    | (r, s') => (castBad r, s')

/-- … with a successful `return` inside: `inr v` = the function returns `v` -/
def loopR {σ β ρ : Type} : Nat → (β → M σ (Ctl β ρ)) → β → M σ (β ⊕ ρ)
  | 0, _, _ => fun s => (.outOfFuel, s)
  | n + 1, step, b => fun s =>
    match step b s with
    | (.ok (.next b'), s') => loopR n step b' s'
    | (.ok (.brk b'), s') => (.ok (.inl b'), s')
    | (.ok (.ret v), s') => (.ok (.inr v), s')
    | (r, s') => (castBad r, s')

/-- `for _, x := range l { … }` over a list the body does not change -/
def forEach {σ α β : Type} : List α → (β → α → M σ (Step β)) → β → M σ β
  | [], _, b => fun s => (.ok b, s)
  | x :: xs, step, b => fun s =>
    match step b x s with
    | (.ok (.next b'), s') => forEach xs step b' s'
    | (.ok (.brk b'), s') => (.ok b', s')
    | (r, s') => (castBad r, s')

def forEachR {σ α β ρ : Type} : List α → (β → α → M σ (Ctl β ρ)) → β → M σ (β ⊕ ρ)
  | [], _, b => fun s => (.ok (.inl b), s)
  | x :: xs, step, b => fun s =>
    match step b x s with
    | (.ok (.next b'), s') => forEachR xs step b' s'
    | (.ok (.brk b'), s') => (.ok (.inl b'), s')
    | (.ok (.ret v), s') => (.ok (.inr v), s')
    | (r, s') => (castBad r, s')

/-! Go maps used as sets / small dictionaries: association lists in insertion order; a key occurs at most once. -/
/-- `m[k] = v` -/
def mapSet {κ ν : Type} [DecidableEq κ] (m : List (κ × ν)) (k : κ) (v : ν) : List (κ × ν) :=
  m.filter (fun e => e.1 ≠ k) ++ [(k, v)]
/-- `m[k]` (a missing key reads as the zero value) -/
def mapGet {κ ν : Type} [DecidableEq κ] (m : List (κ × ν)) (k : κ) (zero : ν) : ν :=
  match m.find? (fun e => e.1 = k) with | some e => e.2 | none => zero
/-- `_, ok := m[k]` -/
def mapHas {κ ν : Type} [DecidableEq κ] (m : List (κ × ν)) (k : κ) : Bool := m.any (fun e => e.1 = k)

/-- `arr[i]` on a slice given as the list of its elements: beyond the length is a panic -/
def listIdx {σ α : Type} (l : List α) (i : Nat) : M σ α := fun s =>
  (match l[i]? with | some a => .ok a | none => .panic, s)

section lemmas
variable {σ α β ρ C Q P : Type}

@[simp] theorem pure_apply (a : α) (s : σ) : (Pure.pure a : M σ α) s = (.ok a, s) := rfl
@[simp] theorem bind_apply (x : M σ α) (f : α → M σ β) (s : σ) : (x >>= f) s = M.cont f (x s) := rfl
@[simp] theorem cont_ok (f : α → M σ β) (a : α) (s : σ) : M.cont f (.ok a, s) = f a s := rfl
@[simp] theorem cont_err (f : α → M σ β) (s : σ) : M.cont f (.err, s) = (.err, s) := rfl
@[simp] theorem cont_panic (f : α → M σ β) (s : σ) : M.cont f (.panic, s) = (.panic, s) := rfl
@[simp] theorem cont_overread (f : α → M σ β) (s : σ) : M.cont f (.overread, s) = (.overread, s) := rfl
@[simp] theorem cont_outOfFuel (f : α → M σ β) (s : σ) : M.cont f (.outOfFuel, s) = (.outOfFuel, s) := rfl
@[simp] theorem cont_ite (f : α → M σ β) (c : Prop) [Decidable c] (x y : RF α × σ) :
    M.cont f (if c then x else y) = if c then M.cont f x else M.cont f y := by split <;> rfl
@[simp] theorem cont_cond_fst (f : α → M σ β) (c : Bool) (x y : RF α) (s : σ) :
    M.cont f (bif c then x else y, s) = bif c then M.cont f (x, s) else M.cont f (y, s) := by cases c <;> rfl
theorem cont_lift (f : α → M σ β) (x : R α) (s : σ) :
    M.cont f (RF.lift x, s) = match x with | .ok a => f a s | .err => (.err, s) | .panic => (.panic, s) | .overread => (.overread, s) := by
  cases x <;> rfl
@[simp] theorem liftRF_apply (r : RF α) (s : σ) : (liftRF r : M σ α) s = (r, s) := rfl
@[simp] theorem fail_apply (s : σ) : (fail : M σ α) s = (.err, s) := rfl
@[simp] theorem panic_apply (s : σ) : (panic : M σ α) s = (.panic, s) := rfl
@[simp] theorem send_apply (ans : σ → Q → σ × P × Bool) (req : C → Q) (setRsp : C → P → C) (s : σ × C) :
    send ans req setRsp s = (bif (ans s.1 (req s.2)).2.2 then .ok () else .err, ((ans s.1 (req s.2)).1, setRsp s.2 (ans s.1 (req s.2)).2.1)) := rfl
@[simp] theorem withCell_apply (c : C) (x : M (σ × C) α) (s : σ) : withCell c x s = ((x (s, c)).1, (x (s, c)).2.1) := rfl
@[simp] theorem liftCell_apply (x : M σ α) (s : σ × C) : (liftCell x : M (σ × C) α) s = ((x s.1).1, ((x s.1).2, s.2)) := rfl
@[simp] theorem getCell_apply (s : σ × C) : (getCell : M (σ × C) C) s = (.ok s.2, s) := rfl
@[simp] theorem modifyCell_apply (f : C → C) (s : σ × C) : modifyCell f s = (.ok (), (s.1, f s.2)) := rfl
@[simp] theorem ite_apply' (c : Prop) [Decidable c] (x y : M σ α) (s : σ) : (if c then x else y) s = if c then x s else y s := by
  split <;> rfl
@[simp] theorem castBad_err : (castBad (RF.err : RF α) : RF β) = .err := rfl
@[simp] theorem castBad_panic : (castBad (RF.panic : RF α) : RF β) = .panic := rfl
@[simp] theorem castBad_overread : (castBad (RF.overread : RF α) : RF β) = .overread := rfl
@[simp] theorem castBad_outOfFuel : (castBad (RF.outOfFuel : RF α) : RF β) = .outOfFuel := rfl

@[simp] theorem derefOpt_some (a : α) (s : σ) : (derefOpt (some a) : M σ α) s = (.ok a, s) := rfl
@[simp] theorem derefOpt_none (s : σ) : (derefOpt (none : Option α) : M σ α) s = (.panic, s) := rfl
theorem retry_zero (op : M σ α) (s : σ) : retry 0 op s = (.err, s) := rfl
theorem retry_succ (n : Nat) (op : M σ α) (s : σ) :
    retry (n + 1) op s = match op s with | (.err, s') => retry n op s' | r => r := rfl
theorem call_apply (ans : σ → σ × Option P) (s : σ) :
    call ans s = (match (ans s).2 with | some p => .ok p | none => .err, (ans s).1) := rfl

theorem loop_zero (step : β → M σ (Step β)) (b : β) (s : σ) : loop 0 step b s = (.outOfFuel, s) := rfl
theorem loop_succ (n : Nat) (step : β → M σ (Step β)) (b : β) (s : σ) :
    loop (n + 1) step b s = match step b s with
      | (.ok (.next b'), s') => loop n step b' s'
      | (.ok (.brk b'), s') => (.ok b', s')
      | (r, s') => (castBad r, s') := rfl
theorem loopR_zero (step : β → M σ (Ctl β ρ)) (b : β) (s : σ) : loopR 0 step b s = (.outOfFuel, s) := rfl
theorem forEach_nil (step : β → α → M σ (Step β)) (b : β) (s : σ) : forEach [] step b s = (.ok b, s) := rfl
theorem forEach_cons (x : α) (xs : List α) (step : β → α → M σ (Step β)) (b : β) (s : σ) :
    forEach (x :: xs) step b s = match step b x s with
      | (.ok (.next b'), s') => forEach xs step b' s'
      | (.ok (.brk b'), s') => (.ok b', s')
      | (r, s') => (castBad r, s') := rfl
theorem forEach_cons_bind (x : α) (xs : List α) (step : β → α → M σ (Step β)) (b : β) :
    forEach (x :: xs) step b = step b x >>= fun | .next b' => forEach xs step b' | .brk b' => pure b' := by
  funext s
  rw [forEach_cons, bind_apply]
  rcases step b x s with ⟨(_ | _) | _ | _ | _ | _, _⟩ <;> rfl
theorem forEachR_nil (step : β → α → M σ (Ctl β ρ)) (b : β) (s : σ) : forEachR [] step b s = (.ok (.inl b), s) := rfl
theorem forEachR_cons (x : α) (xs : List α) (step : β → α → M σ (Ctl β ρ)) (b : β) (s : σ) :
    forEachR (x :: xs) step b s = match step b x s with
      | (.ok (.next b'), s') => forEachR xs step b' s'
      | (.ok (.brk b'), s') => (.ok (.inl b'), s')
      | (.ok (.ret v), s') => (.ok (.inr v), s')
      | (r, s') => (castBad r, s') := rfl
theorem forEachR_cons_bind (x : α) (xs : List α) (step : β → α → M σ (Ctl β ρ)) (b : β) :
    forEachR (x :: xs) step b = step b x >>= fun
      | .next b' => forEachR xs step b' | .brk b' => pure (.inl b') | .ret v => pure (.inr v) := by
  funext s
  rw [forEachR_cons, bind_apply]
  rcases step b x s with ⟨(_ | _ | _) | _ | _ | _ | _, _⟩ <;> rfl

theorem loopR_congr (step step' : β → M σ (Ctl β ρ)) (h : ∀ b s, step b s = step' b s) :
    ∀ (f : Nat) (b : β) (s : σ), loopR f step b s = loopR f step' b s := by
  rw [show step = step' from funext fun b => funext (h b)]; intros; rfl
theorem forEachR_congr (step step' : β → α → M σ (Ctl β ρ)) (h : ∀ b x s, step b x s = step' b x s) :
    ∀ (l : List α) (b : β) (s : σ), forEachR l step b s = forEachR l step' b s := by
  rw [show step = step' from funext fun b => funext fun x => funext (h b x)]; intros; rfl
end lemmas

end Bmc.GoOrch

namespace Bmc
/-- `simp only` with what the primitives of `Bmc.GoOrch` do to a state, plus the lemmas given -/
syntax "orch_simp" ("[" Lean.Parser.Tactic.simpLemma,* "]")? (Lean.Parser.Tactic.location)? : tactic
macro_rules
  | `(tactic| orch_simp $[$loc]?) => `(tactic| orch_simp [] $[$loc]?)
  | `(tactic| orch_simp [$ls,*] $[$loc]?) => `(tactic| simp only [GoOrch.pure_apply, GoOrch.bind_apply, GoOrch.cont_ok, GoOrch.cont_err,
      GoOrch.cont_panic, GoOrch.cont_overread, GoOrch.cont_outOfFuel, GoOrch.cont_ite, GoOrch.cont_cond_fst, GoOrch.liftRF_apply,
      GoOrch.fail_apply, GoOrch.panic_apply, GoOrch.send_apply, GoOrch.withCell_apply, GoOrch.liftCell_apply, GoOrch.getCell_apply, GoOrch.modifyCell_apply,
      GoOrch.ite_apply', GoOrch.castBad_err, GoOrch.castBad_panic, GoOrch.castBad_overread, GoOrch.castBad_outOfFuel, GoOrch.derefOpt_some, GoOrch.derefOpt_none, $ls,*] $[$loc]?)
end Bmc
