import Bmc.Basic.GoOrch
import Bmc.Basic.GoKeys
/-! Support definitions for SESSION ESTABLISHMENT as REGENERATED from the Go source by `tools/decgen -hs` (`Bmc/Gen/Hs.lean`):
    the few primitives `newV2Session` needs on top of the state monad of `Basic/GoOrch.lean`.

    * `optErr` — `v, err := table(…)` for a regenerated table of `Gen/Keys.lean` that fails with `none`: a non-nil error.
    * `sum` — `F(h, …)` for a key formula of the shape `…h.Write(x)…; sum := h.Sum(nil); h.Reset(); return sum`: the PARAMETER
      `hash_Sum` applied to the description of `h` and to the bytes `F` writes (`Keys.F_input`); `none` = `Sum` panics.
    * `kOf` — the method `K` of an `additionalKeyMaterialGenerator{hash}` handed, as the interface
      `AdditionalKeyMaterialGenerator`, to `algorithmHasher` / `algorithmCipher`, whose regenerated definitions take it as a
      pure function `Int → Bytes`: `Sum(nil)` of the hash after `K_input n` was written. A `Sum` that panics cannot be
      expressed there and reads as the empty key; `Lemmas/GenHs.lean: kOf_mac` shows that the hash
      `hashGenerator.K(sik)` (an HMAC, never truncated) has a `Sum` under the contract `Lemmas/GenKeys.lean: mac`.
    * `randRead` — `rand.Read(a[:])` into a local byte array: the PARAMETER `rand_Read` (state, length ↦ new state, the
      bytes drawn or `none` = an error); the array afterwards holds the first `len(a)` bytes drawn (contract of
      crypto/rand.Read: on a nil error all `len(a)` bytes were drawn; a shorter draw leaves the rest of `a` as it was). -/
namespace Bmc.GoHs
open Bmc Bmc.GoOrch

def optErr {σ α : Type} (o : Option α) : M σ α := fun s => (match o with | some a => .ok a | none => .err, s)

def sum {σ H : Type} (hash_Sum : H → Bytes → Option Bytes) (h : H) (written : Bytes) : M σ Bytes := fun s =>
  (match hash_Sum h written with | some b => .ok b | none => .panic, s)

def kOf {H : Type} (hash_Sum : H → Bytes → Option Bytes) (h : H) (K_input : Int → Bytes) (n : Int) : Bytes :=
  match hash_Sum h (K_input n) with | some b => b | none => []

def randRead {σ : Type} (rand_Read : σ → Nat → σ × Option Bytes) (a : Bytes) : M σ Bytes := fun s =>
  let r := rand_Read s a.length
  (match r.2 with | some d => .ok (GoKeys.copyArr a.length a d) | none => .err, r.1)

section lemmas
variable {σ α H : Type}
@[simp] theorem optErr_some (a : α) (s : σ) : (optErr (some a) : M σ α) s = (.ok a, s) := rfl
@[simp] theorem optErr_none (s : σ) : (optErr (none : Option α) : M σ α) s = (.err, s) := rfl
theorem sum_apply (hs : H → Bytes → Option Bytes) (h : H) (w : Bytes) (s : σ) :
    (sum hs h w : M σ Bytes) s = (match hs h w with | some b => .ok b | none => .panic, s) := rfl
theorem randRead_apply (rr : σ → Nat → σ × Option Bytes) (a : Bytes) (s : σ) :
    randRead rr a s = (match (rr s a.length).2 with | some d => .ok (GoKeys.copyArr a.length a d) | none => .err, (rr s a.length).1) := rfl
end lemmas

end Bmc.GoHs
