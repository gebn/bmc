import Bmc.Basic.Bytes
/-! Go slice semantics: indexing is bounded by `len`, slicing by `cap`; panics and
    reads beyond `len` are explicit outcomes. -/
namespace Bmc

theorem apply_ite_congr {α β : Type} (F : α → β) {c : Prop} {i1 i2 : Decidable c} {x y : α} {x' y' : β}
    (hx : c → F x = x') (hy : ¬ c → F y = y') : F (@ite _ c i1 x y) = @ite _ c i2 x' y' := by
  by_cases hc : c
  · rw [if_pos hc, if_pos hc]; exact hx hc
  · rw [if_neg hc, if_neg hc]; exact hy hc

/-- stated with `f` so that a chain of guards is walked without `split`, which re-simplifies the whole remaining chain at
    every guard -/
theorem apply_ite_ne {α β : Type} (f : α → β) {c : Prop} [Decidable c] {a b : α} {x : β} (ha : f a ≠ x) (hb : f b ≠ x) :
    f (if c then a else b) ≠ x := by
  split <;> assumption

inductive R (α : Type) where
  | ok (a : α)
  | err                -- the Go function returned a non-nil error
  | panic              -- runtime panic (index / slice bounds, nil dereference)
  | overread           -- a slice expression reached beyond len (within cap): stale receive-buffer bytes
  deriving Repr, DecidableEq

namespace R
def bad : R α → Bool | .panic => true | .overread => true | _ => false
def isOk : R α → Bool | .ok _ => true | _ => false
def ofExcept : Except ε α → R α | .ok a => .ok a | .error _ => .err
def ofOption : Option α → R α | some a => .ok a | none => .err
def map (f : α → β) : R α → R β | .ok a => .ok (f a) | .err => .err | .panic => .panic | .overread => .overread
instance : Monad R where
  pure := R.ok
  bind x f := match x with
    | .ok a => f a | .err => .err | .panic => .panic | .overread => .overread
@[simp] theorem bind_ok (a : α) (f : α → R β) : (R.ok a >>= f) = f a := rfl
@[simp] theorem bind_err (f : α → R β) : ((R.err : R α) >>= f) = R.err := rfl
@[simp] theorem bind_panic (f : α → R β) : ((R.panic : R α) >>= f) = R.panic := rfl
@[simp] theorem bind_overread (f : α → R β) : ((R.overread : R α) >>= f) = R.overread := rfl
@[simp] theorem pure_eq (a : α) : (pure a : R α) = R.ok a := rfl
@[simp] theorem ofExcept_ok (a : α) : ofExcept (Except.ok a : Except ε α) = R.ok a := rfl
@[simp] theorem ofExcept_error (e : ε) : ofExcept (Except.error e : Except ε α) = R.err := rfl
theorem ofExcept_eq_ok {ε α : Type} {e : Except ε α} {a : α} : ofExcept e = .ok a ↔ e = .ok a := by
  cases e <;> simp [ofExcept]
@[simp] theorem ofOption_some (a : α) : ofOption (some a) = R.ok a := rfl
@[simp] theorem ofOption_none : ofOption (none : Option α) = R.err := rfl
theorem ofExcept_ite (c : Prop) [Decidable c] (a b : Except ε α) :
    ofExcept (if c then a else b) = if c then ofExcept a else ofExcept b := by split <;> rfl
theorem bad_ofExcept {α ε : Type} (e : Except ε α) : (ofExcept e).bad = false := by cases e <;> rfl
theorem bad_map {α β : Type} (f : α → β) (x : R α) : (x.map f).bad = x.bad := by cases x <;> rfl
theorem err_or_ok {α : Type} {r : R α} (h : r.bad = false) : r = .err ∨ ∃ a, r = .ok a := by
  cases r with
  | ok a => exact .inr ⟨a, rfl⟩
  | err => exact .inl rfl
  | panic | overread => cases h
theorem map_ok {α β : Type} (a : α) (f : α → β) : (R.ok a).map f = .ok (f a) := rfl
theorem map_err {α β : Type} (f : α → β) : (R.err : R α).map f = .err := rfl
theorem bind_eq_ok {α β : Type} {x : R α} {f : α → R β} {b : β} : (x >>= f) = .ok b ↔ ∃ a, x = .ok a ∧ f a = .ok b := by
  cases x <;> simp [bind_ok, bind_err, bind_panic, bind_overread]
theorem map_eq_ok {α β : Type} {x : R α} {f : α → β} {b : β} : x.map f = .ok b ↔ ∃ a, x = .ok a ∧ f a = b := by
  cases x <;> simp [map]
theorem map_eq_err {α β : Type} {x : R α} {f : α → β} : x.map f = .err ↔ x = .err := by
  cases x <;> simp [map]
theorem map_bind {α γ δ : Type} (x : R α) (k : α → R γ) (g : γ → δ) : (x >>= k).map g = (x >>= fun a => (k a).map g) := by
  cases x <;> rfl
theorem bind_map {α β γ : Type} (x : R α) (f : α → β) (k : β → R γ) : (x.map f >>= k) = (x >>= fun a => k (f a)) := by
  cases x <;> rfl
theorem guard_ofExcept {α : Type} {c : Prop} [Decidable c] {x : R α} {y : Except Unit α} (h : ¬ c → x = ofExcept y) :
    (if c then R.err else x) = ofExcept (if c then .error () else y) := by
  split
  · rfl
  · exact h ‹_›
theorem guard_canon {α : Type} {c : Prop} [Decidable c] {x y : R α} (h : ¬ c → x = y ∧ x.bad = false) :
    (if c then R.err else x) = (if c then R.err else y) ∧ (if c then R.err else x).bad = false := by
  split
  · exact ⟨rfl, rfl⟩
  · exact h ‹_›

/-! Comparing two programs through a view `f` of their results (`x.map f = y`): the steps that walk down a shared `if`
    and split at a shared call, so that each part is compared on its own. The `Decidable` instances are plain variables:
    after `simp` has rewritten a condition, the instance on one side may still mention the old term. -/

theorem map_bind_map {α α' γ δ : Type} {x : R α} {k : α → R γ} {g : γ → δ} {f : α → α'} {k' : α' → R δ}
    (hk : ∀ a, (k a).map g = k' (f a)) : (x >>= k).map g = (x.map f >>= k') := by
  rw [map_bind, bind_map]; exact bind_congr hk

theorem bind_sim {α α' β γ δ : Type} {x : R α} {y : R α'} {f : α → β} {f' : α' → β} (hxy : x.map f = y.map f')
    {k : α → R γ} {k' : α' → R δ} {g : γ → δ} (hk : ∀ a b, f a = f' b → (k a).map g = k' b) :
    (x >>= k).map g = (y >>= k') := by
  cases x <;> cases y <;> first | rfl | cases hxy | exact hk _ _ (R.ok.inj hxy)

theorem map_ite_congr {α β : Type} {c : Prop} {i1 i2 : Decidable c} {x y : R α} {x' y' : R β} {f : α → β}
    (hx : c → x.map f = x') (hy : ¬ c → y.map f = y') : (@ite _ c i1 x y).map f = @ite _ c i2 x' y' :=
  apply_ite_congr (R.map f) hx hy

theorem map_guard {α β : Type} {c : Prop} {i1 i2 : Decidable c} {x : R α} {y : R β} {f : α → β} (h : ¬ c → x.map f = y) :
    (@ite _ c i1 R.err x).map f = @ite _ c i2 R.err y := map_ite_congr (fun _ => rfl) h

theorem bind_guard {α β : Type} {c : Prop} {i1 i2 : Decidable c} {x : R α} {k : α → R β} {y : R β} (h : ¬ c → (x >>= k) = y) :
    (@ite _ c i1 R.err x >>= k) = @ite _ c i2 R.err y := apply_ite_congr (· >>= k) (fun _ => rfl) h

theorem ite_bind {α β : Type} {c : Prop} {i : Decidable c} (x y : R α) (k : α → R β) :
    (@ite _ c i x y >>= k) = @ite _ c i (x >>= k) (y >>= k) := by split <;> rfl
end R

/-- as a `simp` lemma it takes a chain of guards apart -/
theorem Except.ite_error_eq_ok {ε α : Type} {c : Prop} [Decidable c] {e : ε} {x : Except ε α} {a : α} :
    (if c then .error e else x) = .ok a ↔ ¬ c ∧ x = .ok a := by
  split <;> simp [*]

theorem Except.ite_error_eq_error {ε α : Type} {c : Prop} [Decidable c] {e e' : ε} {x : Except ε α} :
    (if c then .error e else x) = .error e' ↔ (c ∧ e = e') ∨ (¬ c ∧ x = .error e') := by
  split <;> simp [*]

theorem Except.bind_eq_ok {ε α β : Type} {x : Except ε α} {f : α → Except ε β} {b : β} :
    (x >>= f) = .ok b ↔ ∃ a, x = .ok a ∧ f a = .ok b := by
  cases x <;> simp [bind, Except.bind]

theorem Except.bind_eq_error {ε α β : Type} {x : Except ε α} {f : α → Except ε β} {e : ε} :
    (x >>= f) = .error e ↔ x = .error e ∨ ∃ a, x = .ok a ∧ f a = .error e := by
  cases x <;> simp [bind, Except.bind]

theorem Except.eq_error_of_ne_ok {α : Type} {x : Except Unit α} (h : ∀ a, x ≠ .ok a) : x = .error () := by
  cases x with
  | error => rfl
  | ok a => exact absurd rfl (h a)

/-- the values `g k, g (k+1), …, g (k+n-1)` computed in this order (the first failure is the outcome): the hand models'
    character loops (`Prim.loop6`, `Prim.loopBcd`) and what the translator's fill loops come to (`Lemmas.GenDec.foldlM_fill`) -/
def fillM {α : Type} (g : Nat → R α) : Nat → Nat → R (List α)
  | _, 0 => pure []
  | i, n + 1 => do
    let v ← g i
    let rest ← fillM g (i + 1) n
    pure (v :: rest)

theorem fillM_ok {α : Type} {g : Nat → R α} {h : Nat → α} (n : Nat) : ∀ k, (∀ i, k ≤ i → i < k + n → g i = .ok (h i)) →
    fillM g k n = .ok ((List.range' k n).map h) := by
  induction n with
  | zero => intro k _; rfl
  | succ n ih =>
    intro k hg
    rw [fillM, hg k (Nat.le_refl k) (by omega), ih (k + 1) fun i h1 h2 => hg i (by omega) (by omega)]
    rfl

theorem fillM_map {α β : Type} (g : Nat → R α) (f : α → β) (n : Nat) : ∀ k,
    fillM (fun i => (g i).map f) k n = (fillM g k n).map (List.map f) := by
  induction n with
  | zero => intro k; rfl
  | succ n ih =>
    intro k
    simp only [fillM, ih]
    cases g k <;> try rfl
    cases fillM g (k + 1) n <;> rfl

theorem fillM_all {α : Type} (g : Nat → R α) (P : α → Prop) (hP : ∀ i v, g i = .ok v → P v) (n : Nat) : ∀ k l,
    fillM g k n = .ok l → ∀ v ∈ l, P v := by
  induction n with
  | zero => intro k l h; cases h; simp
  | succ n ih =>
    intro k l h
    simp only [fillM, R.bind_eq_ok, R.pure_eq, R.ok.injEq] at h
    obtain ⟨v, hv, rest, hr, rfl⟩ := h
    exact List.forall_mem_cons.2 ⟨hP k v hv, ih _ _ hr⟩

/-- a Go `[]byte`: `buf` runs from the slice start to its capacity, `len` is the length -/
structure GoSlice where
  buf : Bytes
  len : Nat
  h : len ≤ buf.length

namespace GoSlice
/-- the bytes the slice legitimately denotes -/
def vis (s : GoSlice) : Bytes := s.buf.take s.len

/-- an exact-capacity slice -/
def ofBytes (b : Bytes) : GoSlice := ⟨b, b.length, Nat.le_refl _⟩
def window (b tail : Bytes) : GoSlice := ⟨b ++ tail, b.length, by simp⟩

@[simp] theorem len_ofBytes (b : Bytes) : (ofBytes b).len = b.length := rfl
@[simp] theorem vis_ofBytes (b : Bytes) : (ofBytes b).vis = b := by simp [vis, ofBytes]
@[simp] theorem vis_window (b t : Bytes) : (window b t).vis = b := by simp [vis, window]
@[simp] theorem vis_length (s : GoSlice) : s.vis.length = s.len := by simp [vis, Nat.min_eq_left s.h]

@[simp] theorem take_len_drop_vis (s : GoSlice) (k : Nat) :
    List.take (s.len - k) (List.drop k s.vis) = List.drop k s.vis := by
  apply List.take_of_length_le; simp

theorem drop_vis_of_le {s : GoSlice} {k : Nat} (h : s.len ≤ k) : s.vis.drop k = [] :=
  List.drop_eq_nil_of_le (by rwa [vis_length])

theorem drop_vis_cons {s : GoSlice} {i : Nat} (h : i < s.len) : s.vis.drop i = s.vis.getD i 0 :: s.vis.drop (i + 1) :=
  drop_eq_getD_cons (by rwa [vis_length])

theorem window_length {s : GoSlice} {n : Nat} (hn : n ≤ s.len) (lo k : Nat) (h : lo + k ≤ n) :
    ((s.vis.drop lo).take k).length = k := by
  simp only [List.length_take, List.length_drop, vis_length]; omega

/-- `s[i]` -/
def idx (s : GoSlice) (i : Nat) : R UInt8 :=
  if i < s.len then .ok (s.buf.getD i 0) else .panic

/-- `s[lo:hi]` -/
def slice (s : GoSlice) (lo hi : Nat) : R GoSlice :=
  if h : lo ≤ hi ∧ hi ≤ s.buf.length then
    (if hi ≤ s.len then .ok ⟨s.buf.drop lo, hi - lo, by simp; omega⟩ else .overread)
  else .panic

/-- `s[lo:]` (upper bound defaults to len) -/
def sliceFrom (s : GoSlice) (lo : Nat) : R GoSlice :=
  if h : lo ≤ s.len then .ok ⟨s.buf.drop lo, s.len - lo, by have := s.h; simp; omega⟩ else .panic

theorem idx_ok (s : GoSlice) (i : Nat) (h : i < s.len) : s.idx i = .ok (s.vis.getD i 0) := by
  simp [idx, h, vis, List.getD_eq_getElem?_getD]

theorem idx_panic (s : GoSlice) (i : Nat) (h : s.len ≤ i) : s.idx i = .panic := by
  simp [idx]; omega

/-- the sub-slice `s[lo:hi]` when it is legal and within `len` -/
def sub (s : GoSlice) (lo hi : Nat) (h1 : lo ≤ hi) (h2 : hi ≤ s.len) : GoSlice :=
  ⟨s.buf.drop lo, hi - lo, by have := s.h; simp; omega⟩

theorem slice_ok (s : GoSlice) (lo hi : Nat) (h1 : lo ≤ hi) (h2 : hi ≤ s.len) :
    s.slice lo hi = .ok (s.sub lo hi h1 h2) := by
  have hs := s.h
  have h3 : lo ≤ hi ∧ hi ≤ s.buf.length := ⟨h1, by omega⟩
  simp [slice, h3, h2, sub]

theorem slice_overread (s : GoSlice) (lo hi : Nat) (h1 : lo ≤ hi) (h2 : s.len < hi) (h3 : hi ≤ s.buf.length) :
    s.slice lo hi = .overread := by
  have : ¬ hi ≤ s.len := by omega
  simp [slice, h1, h3, this]

theorem slice_panic (s : GoSlice) (lo hi : Nat) (h : hi < lo ∨ s.buf.length < hi) : s.slice lo hi = .panic := by
  have : ¬ (lo ≤ hi ∧ hi ≤ s.buf.length) := by omega
  simp [slice, this]

@[simp] theorem sub_vis (s : GoSlice) (lo hi : Nat) (h1 : lo ≤ hi) (h2 : hi ≤ s.len) :
    (s.sub lo hi h1 h2).vis = (s.vis.drop lo).take (hi - lo) := by
  simp only [vis, sub, List.drop_take]
  rw [List.take_take]
  congr 1
  omega

@[simp] theorem sub_len (s : GoSlice) (lo hi : Nat) (h1 : lo ≤ hi) (h2 : hi ≤ s.len) :
    (s.sub lo hi h1 h2).len = hi - lo := rfl

theorem sliceFrom_ok (s : GoSlice) (lo : Nat) (h : lo ≤ s.len) :
    s.sliceFrom lo = .ok (s.sub lo s.len h (Nat.le_refl _)) := by
  simp [sliceFrom, h, sub]

theorem sub_tail_vis (s : GoSlice) (k : Nat) (h : k ≤ s.len) : (s.sub k s.len h (Nat.le_refl _)).vis = s.vis.drop k := by
  simp

/-! Reads at constant offsets below ONE known bound `n ≤ s.len` (the decoder's length guard); a read the guard does not
    cover is not touched. -/
theorem le_len_ofBytes_vis {s : GoSlice} {n : Nat} (hn : n ≤ s.len) : n ≤ (ofBytes s.vis).len := by
  rwa [len_ofBytes, vis_length]
theorem idx_of_le {s : GoSlice} {n : Nat} (hn : n ≤ s.len) (i : Nat) (hi : i < n) : s.idx i = .ok (s.vis.getD i 0) :=
  idx_ok s i (Nat.lt_of_lt_of_le hi hn)
theorem slice_of_le {s : GoSlice} {n : Nat} (hn : n ≤ s.len) (lo hi : Nat) (h1 : lo ≤ hi) (h2 : hi ≤ n) :
    s.slice lo hi = .ok (s.sub lo hi h1 (Nat.le_trans h2 hn)) := slice_ok s lo hi h1 _
theorem sliceFrom_of_le {s : GoSlice} {n : Nat} (hn : n ≤ s.len) (lo : Nat) (h : lo ≤ n) :
    s.sliceFrom lo = .ok (s.sub lo s.len (Nat.le_trans h hn) (Nat.le_refl _)) := sliceFrom_ok s lo _

end GoSlice

/-- Evaluate the reads of a decoder below its length guard `h : n ≤ d.len`, on `d` and on the exact-capacity slice of the
    same bytes (`GoSlice.ofBytes d.vis`, the other side of a canonical-form theorem): offsets below `n` are numerals, so the
    side conditions of `GoSlice.idx_of_le h` … are closed by `Nat.reduceLT` / `Nat.reduceLeDiff`. A read at a computed
    offset is passed as a ground instance (`GoSlice.idx_ok d (d.len - 1) (by omega)`) among the further rules. No
    `(disch := …)`: with a tactic discharger `simp` starts from an empty cache under every binder of the `do` block. -/
macro "go_reads " h:ident " [" ls:Lean.Parser.Tactic.simpLemma,* "]" : tactic => `(tactic|
  simp only [↓reduceIte, GoSlice.idx_of_le $h, GoSlice.slice_of_le $h, GoSlice.sliceFrom_of_le $h,
    GoSlice.idx_of_le (GoSlice.le_len_ofBytes_vis $h), GoSlice.slice_of_le (GoSlice.le_len_ofBytes_vis $h),
    GoSlice.sliceFrom_of_le (GoSlice.le_len_ofBytes_vis $h), Nat.reduceLT, Nat.reduceLeDiff, R.bind_ok, R.pure_eq,
    GoSlice.sub_vis, GoSlice.sub_len, GoSlice.vis_ofBytes, GoSlice.len_ofBytes, $ls,*])

/-- decoding into a reused receiver: state is kept on every outcome -/
def DecM (σ α : Type) := σ → σ × R α

namespace DecM
instance : Monad (DecM σ) where
  pure a := fun s => (s, .ok a)
  bind m f := fun s => match m s with
    | (s', .ok a) => f a s'
    | (s', .err) => (s', .err)
    | (s', .panic) => (s', .panic)
    | (s', .overread) => (s', .overread)
def set (f : σ → σ) : DecM σ Unit := fun s => (f s, .ok ())
def get : DecM σ σ := fun s => (s, .ok s)
def lift (r : R α) : DecM σ α := fun s => (s, r)
def fail : DecM σ α := fun s => (s, .err)

@[simp] theorem run_pure (a : α) (s : σ) : (pure a : DecM σ α) s = (s, .ok a) := rfl
@[simp] theorem run_fail (s : σ) : (fail : DecM σ α) s = (s, .err) := rfl
@[simp] theorem run_set (g : σ → σ) (s : σ) : set g s = (g s, .ok ()) := rfl
@[simp] theorem run_get (s : σ) : (get : DecM σ σ) s = (s, .ok s) := rfl
@[simp] theorem run_lift (r : R α) (s : σ) : (lift r : DecM σ α) s = (s, r) := rfl
@[simp] theorem bind_set (g : σ → σ) (f : Unit → DecM σ β) (s : σ) : (set g >>= f) s = f () (g s) := rfl
@[simp] theorem bind_get (f : σ → DecM σ β) (s : σ) : (get >>= f) s = f s s := rfl
@[simp] theorem bind_pure (a : α) (f : α → DecM σ β) (s : σ) : ((pure a : DecM σ α) >>= f) s = f a s := rfl
@[simp] theorem bind_fail (f : α → DecM σ β) (s : σ) : ((fail : DecM σ α) >>= f) s = (s, .err) := rfl
@[simp] theorem bind_lift_ok (a : α) (f : α → DecM σ β) (s : σ) : (lift (R.ok a) >>= f) s = f a s := rfl
@[simp] theorem bind_lift_err (f : α → DecM σ β) (s : σ) : (lift (R.err : R α) >>= f) s = (s, .err) := rfl
@[simp] theorem bind_lift_panic (f : α → DecM σ β) (s : σ) : (lift (R.panic : R α) >>= f) s = (s, .panic) := rfl
@[simp] theorem bind_lift_overread (f : α → DecM σ β) (s : σ) : (lift (R.overread : R α) >>= f) s = (s, .overread) := rfl
@[simp] theorem run_ite (c : Prop) [Decidable c] (a b : DecM σ α) (s : σ) :
    (if c then a else b) s = if c then a s else b s := by split <;> rfl
theorem bind_ite (c : Prop) [Decidable c] (a b : DecM σ α) (f : α → DecM σ β) (s : σ) :
    ((if c then a else b) >>= f) s = if c then (a >>= f) s else (b >>= f) s := by split <;> rfl
theorem bind_assoc' (m : DecM σ α) (f : α → DecM σ β) (g : β → DecM σ γ) (s : σ) :
    ((m >>= f) >>= g) s = (m >>= fun a => f a >>= g) s := by
  simp only [bind]
  rcases m s with ⟨s', r⟩
  cases r <;> rfl
end DecM

end Bmc
