import Bmc.Crypto.Abstract
/-! A toy instance that satisfies the laws (shows the hypotheses of the theorems are satisfiable;
    also used for `decide`-checked witnesses). Not secure, not used by the driver. -/
namespace Bmc.Crypto
def toy : Ops where
  hmac a _ _ := List.replicate a.size 0
  encBlock k b := xorBytes b (k ++ List.replicate 16 0 |>.take b.length)
  decBlock k b := xorBytes b (k ++ List.replicate 16 0 |>.take b.length)

theorem toy_lawful : toy.Lawful := by
  -- the pad is as long as the block: the key, zero-filled to 16 bytes or more, cut to the block's length
  have pad (k b : Bytes) (h : b.length = 16) : b.length = ((k ++ List.replicate 16 0).take b.length).length := by
    rw [List.length_take, List.length_append, List.length_replicate]; omega
  exact {
    hmac_len := fun _ _ _ => List.length_replicate
    enc_len := fun k b h => (xorBytes_len _ _ (pad k b h)).trans h
    dec_len := fun k b h => (xorBytes_len _ _ (pad k b h)).trans h
    dec_enc := fun k b h => by
      simp only [toy, xorBytes_len _ _ (pad k b h)]
      exact xorBytes_cancel _ _ (pad k b h) }
end Bmc.Crypto
