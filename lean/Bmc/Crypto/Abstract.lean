import Bmc.Basic.Bytes
/-! Abstract cryptographic operations: the protocol model and every theorem are parametric in these. -/
namespace Bmc.Crypto
open Bmc

inductive HashAlg | md5 | sha1 | sha256 deriving Repr, DecidableEq
def HashAlg.size : HashAlg → Nat | .md5 => 16 | .sha1 => 20 | .sha256 => 32

structure Ops where
  hmac : HashAlg → Bytes → Bytes → Bytes        -- algorithm, key, message
  encBlock : Bytes → Bytes → Bytes              -- AES-128: key (16), block (16)
  decBlock : Bytes → Bytes → Bytes

structure Ops.Lawful (C : Ops) : Prop where
  hmac_len : ∀ a k m, (C.hmac a k m).length = a.size
  enc_len : ∀ k b, b.length = 16 → (C.encBlock k b).length = 16
  dec_len : ∀ k b, b.length = 16 → (C.decBlock k b).length = 16
  dec_enc : ∀ k b, b.length = 16 → C.decBlock k (C.encBlock k b) = b

def xorBytes : Bytes → Bytes → Bytes
  | a :: as, b :: bs => (a ^^^ b) :: xorBytes as bs
  | _, _ => []

theorem xorBytes_len (a b : Bytes) (h : a.length = b.length) : (xorBytes a b).length = a.length := by
  induction a generalizing b with
  | nil => simp [xorBytes]
  | cons x xs ih => cases b with
    | nil => simp at h
    | cons y ys => simp [xorBytes, ih ys (by simpa using h)]

theorem xorBytes_cancel (a b : Bytes) (h : a.length = b.length) : xorBytes (xorBytes a b) b = a := by
  induction a generalizing b with
  | nil => simp [xorBytes]
  | cons x xs ih => cases b with
    | nil => simp at h
    | cons y ys =>
      simp only [xorBytes, ih ys (by simpa using h), List.cons.injEq, and_true]
      rw [UInt8.xor_assoc, UInt8.xor_self, UInt8.xor_zero]

/-- CBC over whole 16-byte blocks (Go's `cipher.NewCBCEncrypter(...).CryptBlocks`); `fuel` = number of blocks -/
def cbcEnc (C : Ops) (key : Bytes) : Nat → Bytes → Bytes → Bytes
  | 0, _, _ => []
  | n + 1, prev, pt =>
    let c := C.encBlock key (xorBytes (pt.take 16) prev)
    c ++ cbcEnc C key n c (pt.drop 16)

def cbcDec (C : Ops) (key : Bytes) : Nat → Bytes → Bytes → Bytes
  | 0, _, _ => []
  | n + 1, prev, ct =>
    let c := ct.take 16
    xorBytes (C.decBlock key c) prev ++ cbcDec C key n c (ct.drop 16)

/-- the block a CBC round hands to the cipher is 16 bytes long -/
theorem xorBytes_take_len {prev pt : Bytes} {n : Nat} (hp : prev.length = 16) (hl : pt.length = 16 * (n + 1)) :
    (xorBytes (pt.take 16) prev).length = 16 := by
  have h1 : (pt.take 16).length = 16 := by rw [List.length_take]; omega
  rw [xorBytes_len _ _ (h1.trans hp.symm), h1]

theorem cbcEnc_len (C : Ops) (hC : C.Lawful) (key : Bytes) (n : Nat) (prev pt : Bytes)
    (hp : prev.length = 16) (hl : pt.length = 16 * n) : (cbcEnc C key n prev pt).length = 16 * n := by
  induction n generalizing prev pt with
  | zero => rfl
  | succ n ih =>
    have hc := hC.enc_len key _ (xorBytes_take_len hp hl)
    rw [cbcEnc, List.length_append, hc, ih _ _ hc (by rw [List.length_drop]; omega)]
    omega

theorem cbcDec_cbcEnc (C : Ops) (hC : C.Lawful) (key : Bytes) (n : Nat) (prev pt : Bytes)
    (hp : prev.length = 16) (hl : pt.length = 16 * n) :
    cbcDec C key n prev (cbcEnc C key n prev pt) = pt := by
  induction n generalizing prev pt with
  | zero => exact (List.eq_nil_of_length_eq_zero hl).symm
  | succ n ih =>
    have hx := xorBytes_take_len hp hl
    have hc := hC.enc_len key _ hx
    simp only [cbcEnc, cbcDec]
    rw [List.take_left' hc, List.drop_left' hc, hC.dec_enc key _ hx, xorBytes_cancel _ _ (by rw [List.length_take]; omega),
      ih _ _ hc (by rw [List.length_drop]; omega), List.take_append_drop]

end Bmc.Crypto
