import Bmc.Basic.Go
/-! Model of `ipmi.decodePacked6BitAscii` (pkg/ipmi/id_string.go) and its specification. -/
namespace Bmc.Prim
open Bmc

/-- start offset of character i: `(i-1) - floor((i-1)/4)` with Go's float floor (i = 0 ↦ 0) -/
def off6 (i : Nat) : Nat := if i = 0 then 0 else (i - 1) - (i - 1) / 4

/-- one iteration of the loop body -/
def char6 (d : GoSlice) (i : Nat) : R UInt8 := do
  let o := off6 i
  if i % 4 = 0 then
    let b ← d.idx o; pure ((b &&& 0x3f) + 0x20)
  else if i % 4 = 1 then
    let b ← d.idx o; let b' ← d.idx (o + 1); pure (((b >>> 6) ||| ((b' &&& 0xf) <<< 2)) + 0x20)
  else if i % 4 = 2 then
    let b ← d.idx o; let b' ← d.idx (o + 1); pure (((b >>> 4) ||| ((b' &&& 0x3) <<< 4)) + 0x20)
  else
    let b ← d.idx o; pure ((b >>> 2) + 0x20)

def loop6 (d : GoSlice) : Nat → Nat → R (List UInt8)
  | _, 0 => pure []
  | i, n + 1 => do
    let ch ← char6 d i
    let rest ← loop6 d (i + 1) n
    pure (ch :: rest)

/-- `decodePacked6BitAscii(b, c)`: the string (as bytes: every rune is < 0x60) and the bytes consumed -/
def decode6Go (d : GoSlice) (c : Nat) : R (List UInt8 × Nat) := do
  if d.len < c - c / 4 then R.err else
  let s ← loop6 d 0 c
  pure (s, c - c / 4)

/-- the specification side: byte k of the packing of 6-bit codes, least-significant bits first, four codes per three bytes -/
def packByte (cs : List UInt8) (k : Nat) : UInt8 :=
  let q := k / 3
  let c (j : Nat) := cs.getD (4 * q + j) 0
  if k % 3 = 0 then c 0 ||| (c 1 <<< 6)
  else if k % 3 = 1 then (c 1 >>> 2) ||| (c 2 <<< 4)
  else (c 2 >>> 4) ||| (c 3 <<< 2)

def pack6 (cs : List UInt8) : Bytes := (List.range (cs.length - cs.length / 4)).map (packByte cs)

theorem pack6_len (cs : List UInt8) : (pack6 cs).length = cs.length - cs.length / 4 := by simp [pack6]

theorem pack6_getD (cs : List UInt8) (k : Nat) (h : k < cs.length - cs.length / 4) : (pack6 cs).getD k 0 = packByte cs k := by
  simp [pack6, List.getD_eq_getElem?_getD, h]

/-- `off6` without the float floor: character `4q + r` starts in byte `3q + (r − 1)` (`3q` for r = 0) -/
theorem off6_eq (i : Nat) : off6 i = 3 * (i / 4) + (i % 4 - 1) := by unfold off6; split <;> omega

/-- a field shifted up leaves the bits below it clear and comes back by the opposite shift -/
theorem field_shift : ∀ x : UInt8,
    x <<< 6 &&& (0x3f : UInt8) = 0 ∧ x <<< 6 >>> 6 = x &&& (3 : UInt8) ∧ x <<< 4 &&& (0xf : UInt8) = 0 ∧
    x <<< 4 >>> 4 = x &&& (0xf : UInt8) ∧ x <<< 2 &&& (3 : UInt8) = 0 := by
  apply forall_uint8; decide +kernel

/-- a 6-bit code fills exactly the fields it is cut into -/
theorem code_fields : ∀ x : UInt8, x.toNat < 64 →
    x &&& (0x3f : UInt8) = x ∧ x >>> 6 = 0 ∧ x >>> 2 &&& (0xf : UInt8) = x >>> 2 ∧ x >>> 2 >>> 4 = 0 ∧
    x >>> 4 &&& (3 : UInt8) = x >>> 4 ∧ x >>> 4 >>> 2 = 0 ∧ x <<< 2 >>> 2 = x ∧
    x &&& (3 : UInt8) ||| x >>> 2 <<< 2 = x ∧ x &&& (0xf : UInt8) ||| x >>> 4 <<< 4 = x := by
  apply forall_uint8; decide +kernel

/-- four 6-bit codes packed into three bytes and taken out again as the decoder does: the two fields of a byte do not
    overlap, so a mask or shift acts on each by itself (`and_or`, `UInt8.shiftRight_or`) -/
theorem quad6 (a b c d : UInt8) (ha : a.toNat < 64) (hb : b.toNat < 64) (hc : c.toNat < 64) (hd : d.toNat < 64) :
    (a ||| b <<< 6) &&& 0x3f = a ∧
    (a ||| b <<< 6) >>> 6 ||| ((b >>> 2 ||| c <<< 4) &&& 0xf) <<< 2 = b ∧
    (b >>> 2 ||| c <<< 4) >>> 4 ||| ((c >>> 4 ||| d <<< 2) &&& 0x3) <<< 4 = c ∧
    (c >>> 4 ||| d <<< 2) >>> 2 = d := by
  simp only [and_or, UInt8.shiftRight_or, field_shift, code_fields a ha, code_fields b hb, code_fields c hc, code_fields d hd,
    UInt8.or_zero, UInt8.zero_or, and_self]

theorem packByte_group (cs : List UInt8) (q : Nat) :
    packByte cs (3 * q) = cs.getD (4 * q) 0 ||| cs.getD (4 * q + 1) 0 <<< 6 ∧
    packByte cs (3 * q + 1) = cs.getD (4 * q + 1) 0 >>> 2 ||| cs.getD (4 * q + 2) 0 <<< 4 ∧
    packByte cs (3 * q + 2) = cs.getD (4 * q + 2) 0 >>> 4 ||| cs.getD (4 * q + 3) 0 <<< 2 := by
  simp [packByte, show 3 * q / 3 = q by omega, show (3 * q + 1) / 3 = q by omega, show (3 * q + 2) / 3 = q by omega,
    show 3 * q % 3 = 0 by omega, show (3 * q + 1) % 3 = 1 by omega, show (3 * q + 2) % 3 = 2 by omega]

end Bmc.Prim
