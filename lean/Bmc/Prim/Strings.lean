import Bmc.Basic.Go
import Bmc.Spec.Prim
/-! Models of `decodeBCDPlus`, `decode8BitAsciiLatin1` (pkg/ipmi/id_string.go) and
    `rollingAvgPeriodByte` (pkg/dcmi/rolling_average.go). Strings are modelled as their bytes
    (every rune the decoders produce is < 0x80, or a raw byte for Latin-1). -/
namespace Bmc.Prim
open Bmc

/-- one iteration of the BCD plus loop: `bcdPlusRunes[(b[i/2]>>shift)&0xf]`, shift = 4 for even i -/
def bcdChar (d : GoSlice) (i : Nat) : R UInt8 := do
  let b ← d.idx (i / 2)
  let nib : UInt8 := if i % 2 = 0 then (b >>> 4) &&& 0xf else b &&& 0xf
  pure (Spec.bcdPlusTable.getD nib.toNat 0)

def loopBcd (d : GoSlice) : Nat → Nat → R Bytes
  | _, 0 => pure []
  | i, n + 1 => do
    let ch ← bcdChar d i
    let rest ← loopBcd d (i + 1) n
    pure (ch :: rest)

/-- `decodeBCDPlus(b, c)`; `math.Ceil(float64(c)/2)` is `(c+1)/2` on non-negative ints -/
def bcdPlusGo (d : GoSlice) (c : Nat) : R (Bytes × Nat) := do
  if d.len < (c + 1) / 2 then R.err else
  let s ← loopBcd d 0 c
  pure (s, (c + 1) / 2)

/-- `decode8BitAsciiLatin1(b, c)`. A character count of zero means there is no string and is accepted
    whatever follows. -/
def latin1Go (d : GoSlice) (c : Nat) : R (Bytes × Nat) := do
  if c = 0 then pure ([], 0) else
  if d.len < 2 then R.err else
  if d.len < c then R.err else
  let s ← d.slice 0 c
  pure (s.vis, c)

/-- `rollingAvgPeriodByte(d)` for a non-negative whole number of seconds (float division by a whole
    unit followed by truncation is `Nat` division there) -/
def rollingByteGo (secs : Nat) : Nat :=
  if secs < 60 then secs % 256
  else if secs < 3600 then (secs / 60) % 256 ||| 0x40
  else if secs < 86400 then (secs / 3600) % 256 ||| 0x80
  else (min (secs / 86400) 63) % 256 ||| 0xc0

end Bmc.Prim
