import Bmc.Basic.Bytes
namespace Bmc.Prim

/-- model of `ipmi.checksum`: two's-complement of the byte sum -/
def checksum (bs : Bytes) : UInt8 := 0 - bs.foldl (· + ·) 0

/-- the byte sum a receiver checks: zero over data followed by their checksum (`Proofs.C20.checksum_sum`) -/
def sum (bs : Bytes) : UInt8 := bs.foldl (· + ·) 0

end Bmc.Prim
