import Bmc.Basic.Go
/-! Model of `ipmi.V2Session.DecodeFromBytes` (pkg/ipmi/v2session.go). -/
namespace Bmc.Wire
open Bmc

structure V2Session where
  encrypted : Bool := false
  authenticated : Bool := false
  payloadType : UInt8 := 0
  enterprise : Nat := 0
  payloadID : Nat := 0
  id : Nat := 0
  sequence : Nat := 0
  length : Nat := 0
  pad : UInt8 := 0
  signature : Bytes := []
  contents : Bytes := []
  payload : Bytes := []
  deriving Repr, DecidableEq

/-- `binary.LittleEndian.Uint16` / `Uint32` as numbers. (`GoDec.le16` / `le32` are the same readers in `UInt16` / `UInt32`:
    `Lemmas.GenDec.le16_toNat`; `putLE16` and `Spec.le16` are WRITERS.) -/
def le16 (b : Bytes) : Nat := (b.getD 0 0).toNat + 256 * (b.getD 1 0).toNat
def le32 (b : Bytes) : Nat :=
  (b.getD 0 0).toNat + 256 * (b.getD 1 0).toNat + 65536 * (b.getD 2 0).toNat + 16777216 * (b.getD 3 0).toNat

theorem le16_lt (b : Bytes) : le16 b < 65536 := by
  have := (b.getD 0 0).toNat_lt; have := (b.getD 1 0).toNat_lt; unfold le16; omega

theorem le32_lt (b : Bytes) : le32 b < 4294967296 := by
  have := le24_lt (b.getD 0 0) (b.getD 1 0) (b.getD 2 0); have := (b.getD 3 0).toNat_lt; unfold le32; omega

@[simp] theorem le32_take (l : Bytes) (n : Nat) (h : 4 ≤ n) : le32 (l.take n) = le32 l := by
  simp [le32, show 0 < n by omega, show 1 < n by omega, show 2 < n by omega, show 3 < n by omega]

@[simp] theorem le16_take (l : Bytes) (n : Nat) (h : 2 ≤ n) : le16 (l.take n) = le16 l := by
  simp [le16, show 0 < n by omega, show 1 < n by omega]

/-- number of iterations of the pad-scanning loop over the bytes after the payload:
    `for b := 0xFF; offset < len(data) && b == 0xFF; offset++ { b = data[offset] }` -/
def scanFF : Bytes → Nat
  | [] => 0
  | b :: bs => if b == 0xFF then 1 + scanFF bs else 1

/-- `mac` is the integrity algorithm already keyed (nil ⇒ `executeHash` returns nil ⇒ `fun _ => []`) -/
def V2Session.decodeGo (mac : Bytes → Bytes) (_prev : V2Session) (d : GoSlice) : R V2Session := do
  if d.len < 12 then R.err else
  let b0 ← d.idx 0
  if b0 != 6 then R.err else
  let b1 ← d.idx 1
  let enc := b1 &&& 0x80 != 0
  let auth := b1 &&& 0x40 != 0
  let pt := b1 &&& 0x3f
  let oem := pt == 2
  if oem && d.len < 18 then R.err else
  let ent ← if oem then (do let s ← d.slice 2 6; pure (le32 s.vis)) else pure 0
  let pid ← if oem then (do let s ← d.slice 6 8; pure (le16 s.vis)) else pure 0
  let off := if oem then 8 else 2
  let sId ← d.slice off (off + 4)
  let sSeq ← d.slice (off + 4) (off + 8)
  let sLen ← d.slice (off + 8) (off + 10)
  let len := le16 sLen.vis
  let off := off + 10
  let contents ← d.slice 0 off
  if d.len < off + len then R.err else
  let payload ← d.slice off (off + len)
  let off := off + len
  if !auth then
    pure { encrypted := enc, authenticated := auth, payloadType := pt, enterprise := ent, payloadID := pid
           id := le32 sId.vis, sequence := le32 sSeq.vis, length := len, pad := 0, signature := []
           contents := contents.vis, payload := payload.vis }
  else
    let rest ← d.sliceFrom off            -- not a Go expression: the loop only indexes under `offset < len(data)`
    let n := scanFF rest.vis
    -- offset after the loop is off + n; `offset--`; Pad = uint8(offset - padStart); `offset += 2`
    let sigOff := off + n + 1
    if d.len < sigOff then R.err else
    let sig ← d.sliceFrom sigOff
    let signed ← d.slice 0 sigOff
    if sig.vis != mac signed.vis then R.err else
    pure { encrypted := enc, authenticated := auth, payloadType := pt, enterprise := ent, payloadID := pid
           id := le32 sId.vis, sequence := le32 sSeq.vis, length := len
           pad := UInt8.ofNat (n - 1), signature := sig.vis
           contents := contents.vis, payload := payload.vis }

/-- pure reference decoder -/
def V2Session.decode (mac : Bytes → Bytes) (b : Bytes) : Except Unit V2Session :=
  if b.length < 12 then .error () else
  if b.getD 0 0 != 6 then .error () else
  let b1 := b.getD 1 0
  let auth := b1 &&& 0x40 != 0
  let pt := b1 &&& 0x3f
  let oem := pt == 2
  if oem && b.length < 18 then .error () else
  let off := if oem then 8 else 2
  let len := le16 (b.drop (off + 8))
  let hdr := off + 10
  if b.length < hdr + len then .error () else
  let base : V2Session :=
    { encrypted := b1 &&& 0x80 != 0, authenticated := auth, payloadType := pt
      enterprise := if oem then le32 (b.drop 2) else 0
      payloadID := if oem then le16 (b.drop 6) else 0
      id := le32 (b.drop off), sequence := le32 (b.drop (off + 4)), length := len
      contents := b.take hdr, payload := (b.drop hdr).take len }
  if !auth then .ok base else
  let n := scanFF (b.drop (hdr + len))
  let sigOff := hdr + len + n + 1
  if b.length < sigOff then .error () else
  if b.drop sigOff != mac (b.take sigOff) then .error () else
  .ok { base with pad := UInt8.ofNat (n - 1), signature := b.drop sigOff }

end Bmc.Wire
