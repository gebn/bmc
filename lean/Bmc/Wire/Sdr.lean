import Bmc.Basic.Go
import Bmc.Wire.Simple
import Bmc.Prim.Strings
import Bmc.Prim.Packed6
/-! Models of the SDR group of pkg/ipmi: `GetSDRRepositoryInfoRsp.DecodeFromBytes` and
    `FullSensorRecord.DecodeFromBytes` (with `complement.Twos` and the choice of ID string decoder).
    Reserve SDR Repository, Get SDR, the SDR header and Get Sensor Reading are in `Wire/Simple.lean`
    (`ReserveRsp`, `GetSDRRsp`, `SDRHeader`, `SensorReadingRsp`; checked against the Go source: same guards,
    same slices, same fields). -/
namespace Bmc.Wire
open Bmc

-- Get SDR Repository Info -----------------------------------------------------------------------------------
structure SDRRepoInfoRsp where
  version : UInt8 := 0          -- bcd.Decode(data[0]&0xf)*10 + bcd.Decode(data[0]>>4)
  records : Nat := 0
  freeSpace : Nat := 0
  lastAddition : Nat := 0       -- time.Unix(seconds, 0), kept as the seconds (the zero time.Time is rendered 0 as well)
  lastErase : Nat := 0
  flags : UInt8 := 0            -- data[13] with the unread bit 4 cleared: 7 overflow, 6 modal, 5 non-modal, 3 delete,
                                -- 2 partial add, 1 reserve, 0 allocation info
  contents : Bytes := []
  payload : Bytes := []
  deriving Repr, DecidableEq

def SDRRepoInfoRsp.decodeGo (_prev : SDRRepoInfoRsp) (d : GoSlice) : R SDRRepoInfoRsp := do
  if d.len < 14 then R.err else
  let c ← d.slice 0 14
  let p ← d.sliceFrom 14
  let b0 ← d.idx 0
  let r ← d.slice 1 3
  let f ← d.slice 3 5
  let a ← d.slice 5 9
  let e ← d.slice 9 13
  let b13 ← d.idx 13
  pure { version := (bcd (b0 &&& (0xf : UInt8))) * (10 : UInt8) + bcd (b0 >>> (4 : UInt8))
         records := le16 r.vis, freeSpace := le16 f.vis, lastAddition := le32 a.vis, lastErase := le32 e.vis
         flags := b13 &&& 0xef, contents := c.vis, payload := p.vis }
def SDRRepoInfoRsp.decode (b : Bytes) : R SDRRepoInfoRsp := SDRRepoInfoRsp.decodeGo {} (GoSlice.ofBytes b)

-- complement.Twos ---------------------------------------------------------------------------------------------
/-- `complement.Twos([2]byte{hi, lo}, bits)`: `numerical := uint16(lo) | uint16(hi)<<8; mask := uint16(1) << (uint16(bits)-1);
    int16((numerical ^ mask) - mask)`. (Go's shift count is not reduced modulo 16, Lean's is: the two agree for
    1 ≤ bits ≤ 16; the decoder calls it with 10 and 4 only.) -/
def twosGo (hi lo : UInt8) (bits : UInt8) : Int16 :=
  let numerical : UInt16 := lo.toUInt16 ||| (hi.toUInt16 <<< 8)
  let mask : UInt16 := (1 : UInt16) <<< (bits.toUInt16 - 1)
  ((numerical ^^^ mask) - mask).toInt16

-- ID string ---------------------------------------------------------------------------------------------------
/-- `StringEncoding(data[42] >> 6).Decoder()` followed by `decoder.Decode(b, c)`: the map has entries for 0…3
    (0 and 3 both `decode8BitAsciiLatin1`), any other key is the "no decoder found" error -/
def idDecoder (enc : UInt8) (d : GoSlice) (c : Nat) : R (Bytes × Nat) :=
  if enc = 1 then Prim.bcdPlusGo d c
  else if enc = 2 then Prim.decode6Go d c
  else if enc = 0 ∨ enc = 3 then Prim.latin1Go d c
  else R.err

-- Full Sensor Record ------------------------------------------------------------------------------------------
structure FullSensorRecord where
  ownerAddress : UInt8 := 0
  channel : UInt8 := 0
  ownerLUN : UInt8 := 0
  number : UInt8 := 0
  m : Int := 0                  -- int16
  b : Int := 0                  -- int16
  bExp : Int := 0               -- int8
  rExp : Int := 0               -- int8
  isContainerEntity : Bool := false
  entity : UInt8 := 0
  inst : UInt8 := 0
  ignore : Bool := false
  sensorType : UInt8 := 0
  outputType : UInt8 := 0
  analogDataFormat : UInt8 := 0
  rateUnit : UInt8 := 0
  isPercentage : Bool := false
  baseUnit : UInt8 := 0
  modifierUnit : UInt8 := 0
  linearisation : UInt8 := 0
  tolerance : UInt8 := 0
  accuracy : Int := 0           -- int16
  accuracyExp : UInt8 := 0
  direction : UInt8 := 0
  nominalReadingSpecified : Bool := false
  normalMinSpecified : Bool := false
  normalMaxSpecified : Bool := false
  nominalReading : UInt8 := 0
  normalMin : UInt8 := 0
  normalMax : UInt8 := 0
  sensorMin : UInt8 := 0
  sensorMax : UInt8 := 0
  identity : Bytes := []        -- the Go string's bytes (every rune produced is < 0x80, or a raw byte)
  contents : Bytes := []
  payload : Bytes := []
  deriving Repr, DecidableEq

/-- the assignments of `FullSensorRecord.DecodeFromBytes`, as a function of the bytes they read -/
def FullSensorRecord.ofBytes (b0 b1 b2 b3 b4 b6 b7 b8 b15 b16 b17 b18 b19 b20 b21 b22 b23 b24 b25 b26 b27 b28 b29 b30 : UInt8)
    (identity contents payload : Bytes) : FullSensorRecord :=
  { ownerAddress := b0, channel := b1 >>> 4, ownerLUN := b1 &&& 0x3, number := b2
    entity := b3, isContainerEntity := b4 &&& 0x80 != 0, inst := b4 &&& 0x7f
    ignore := b6 &&& 0x80 != 0
    sensorType := b7, outputType := b8
    analogDataFormat := b15 >>> 6, rateUnit := (b15 &&& 0x38) >>> 3, isPercentage := b15 &&& 1 != 0
    baseUnit := b16, modifierUnit := b17
    linearisation := b18 &&& 0x7f
    m := (twosGo (b20 >>> 6) b19 10).toInt
    tolerance := b20 &&& 0x3f
    b := (twosGo (b22 >>> 6) b21 10).toInt
    accuracy := (twosGo ((b23 &&& 0xf0) >>> 6) ((b22 &&& (0x3f : UInt8)) ||| ((b23 &&& (0xf0 : UInt8)) <<< (2 : UInt8))) 10).toInt
    accuracyExp := (b23 &&& 0xc) >>> 2
    direction := b23 &&& 0x3
    rExp := (twosGo 0 (b24 >>> 4) 4).toInt8.toInt
    bExp := (twosGo 0 (b24 &&& 0xf) 4).toInt8.toInt
    nominalReadingSpecified := b25 &&& 1 != 0
    normalMaxSpecified := b25 &&& 2 != 0
    normalMinSpecified := b25 &&& 4 != 0
    nominalReading := b26, normalMax := b27, normalMin := b28
    sensorMax := b29, sensorMin := b30
    identity := identity, contents := contents, payload := payload }

def FullSensorRecord.decodeGo (_prev : FullSensorRecord) (d : GoSlice) : R FullSensorRecord := do
  if d.len < 43 then R.err else
  let b0 ← d.idx 0; let b1 ← d.idx 1; let b2 ← d.idx 2; let b3 ← d.idx 3; let b4 ← d.idx 4
  let b6 ← d.idx 6; let b7 ← d.idx 7; let b8 ← d.idx 8
  let b15 ← d.idx 15; let b16 ← d.idx 16; let b17 ← d.idx 17; let b18 ← d.idx 18; let b19 ← d.idx 19
  let b20 ← d.idx 20; let b21 ← d.idx 21; let b22 ← d.idx 22; let b23 ← d.idx 23; let b24 ← d.idx 24
  let b25 ← d.idx 25; let b26 ← d.idx 26; let b27 ← d.idx 27; let b28 ← d.idx 28; let b29 ← d.idx 29
  let b30 ← d.idx 30
  let b42 ← d.idx 42
  let t ← d.sliceFrom 43
  let r ← idDecoder (b42 >>> 6) t (b42 &&& 0x1f).toNat
  let c ← d.slice 0 (43 + r.2)
  let p ← d.sliceFrom (43 + r.2)
  pure (FullSensorRecord.ofBytes b0 b1 b2 b3 b4 b6 b7 b8 b15 b16 b17 b18 b19 b20 b21 b22 b23 b24 b25 b26 b27 b28 b29 b30
          r.1 c.vis p.vis)

/-- packed 6-bit ASCII as a function of the bytes: character `i` -/
def char6P (b : Bytes) (i : Nat) : UInt8 :=
  let o := Prim.off6 i
  if i % 4 = 0 then (b.getD o 0 &&& 0x3f) + 0x20
  else if i % 4 = 1 then ((b.getD o 0 >>> 6) ||| ((b.getD (o + 1) 0 &&& 0xf) <<< 2)) + 0x20
  else if i % 4 = 2 then ((b.getD o 0 >>> 4) ||| ((b.getD (o + 1) 0 &&& 0x3) <<< 4)) + 0x20
  else (b.getD o 0 >>> 2) + 0x20

def dec6P (b : Bytes) (c : Nat) : Option (Bytes × Nat) :=
  if b.length < c - c / 4 then none else some ((List.range' 0 c).map (char6P b), c - c / 4)

/-- the four ID string decoders as functions of the bytes that follow the type/length byte -/
def idPure (enc : UInt8) (b : Bytes) (c : Nat) : Option (Bytes × Nat) :=
  if enc = 1 then Spec.bcdPlus b c
  else if enc = 2 then dec6P b c
  else if enc = 0 ∨ enc = 3 then Spec.latin1 b c
  else none

/-- the pure decoder -/
def FullSensorRecord.decode (b : Bytes) : Except Unit FullSensorRecord :=
  if b.length < 43 then .error () else
  match idPure (b.getD 42 0 >>> 6) (b.drop 43) (b.getD 42 0 &&& 0x1f).toNat with
  | none => .error ()
  | some r => .ok (FullSensorRecord.ofBytes (b.getD 0 0) (b.getD 1 0) (b.getD 2 0) (b.getD 3 0) (b.getD 4 0) (b.getD 6 0)
      (b.getD 7 0) (b.getD 8 0) (b.getD 15 0) (b.getD 16 0) (b.getD 17 0) (b.getD 18 0) (b.getD 19 0) (b.getD 20 0)
      (b.getD 21 0) (b.getD 22 0) (b.getD 23 0) (b.getD 24 0) (b.getD 25 0) (b.getD 26 0) (b.getD 27 0) (b.getD 28 0)
      (b.getD 29 0) (b.getD 30 0) r.1 (b.take (43 + r.2)) (b.drop (43 + r.2)))

/-- the repository's own test vector (full_sensor_record_test.go, second case): M = −257, B = 496,
    accuracy = −342, R exp = −6, B exp = 5, nine packed 6-bit characters, three trailing bytes -/
def fsrTestVector : Bytes :=
  [0x30, 0x5e, 0x16, 0x0a, 0xe0, 0x7f, 0xe8, 0x03, 0x01, 0x00, 0x72, 0x00, 0x72, 0x3f, 0x3f, 0x2d, 0x05, 0x0e,
   0x05, 0xff, 0xb5, 0xf0, 0x6a, 0xad, 0xa5, 0xaa, 0x08, 0x11, 0x3a, 0x7b, 0x80, 0x64, 0x64, 0x5f, 0x00, 0x00,
   0x00, 0x02, 0x02, 0xff, 0xff, 0xff, 0x89, 0x18, 0x01, 0x74, 0xc7, 0xce, 0xdb, 0x3f, 0x9a, 0x00, 0x00]
example :
    (FullSensorRecord.decodeGo {} (GoSlice.ofBytes fsrTestVector)).map (fun r => [r.m, r.b, r.accuracy, r.rExp, r.bExp])
      = R.ok [-257, 496, -342, -6, 5] ∧
    (FullSensorRecord.decodeGo {} (GoSlice.ofBytes fsrTestVector)).map (fun r => (r.tolerance, r.identity, r.payload))
      = R.ok (53, [0x38, 0x24, 0x20, 0x3d, 0x27, 0x5b, 0x5c, 0x56, 0x5f], [0x9a, 0, 0]) := by
  decide +kernel

end Bmc.Wire
