import Bmc.Basic.Go
import Bmc.Wire.V2Session
import Bmc.Spec.Prim
/-! Models of the response layers of pkg/dcmi: the five Get DCMI Capabilities Info parameter responses
    (get_dcmi_capabilities_info.go), Get Power Reading (get_power_reading.go) and Get DCMI Sensor Info
    (get_dcmi_sensor_info.go).

    Each `decodeGo` mirrors the Go `DecodeFromBytes`: the same guards in the same order, every index and slice
    expression through `GoSlice.idx` / `slice` / `sliceFrom` (bytes the Go code reads only on one branch are read
    only on that branch), fields a path does not assign keep `prev`'s value. `decode` is the pure decoder on the
    visible bytes; the refinement theorems are in `Lemmas/DcmiRefine.lean`. -/
namespace Bmc.Wire
open Bmc

-- the header shared by the five capabilities responses -----------------------------------------------------------

/-- `getDCMICapabilitiesInfoRspHeader` (an embedded struct, not a layer of its own) -/
structure DcmiHeader where
  major : UInt8 := 0
  minor : UInt8 := 0
  revision : UInt8 := 0
  deriving Repr, DecidableEq

/-- `(*getDCMICapabilitiesInfoRspHeader).Decode`: the three header fields and `data[3:]` -/
def DcmiHeader.decodeGo (d : GoSlice) : R (DcmiHeader × GoSlice) := do
  if d.len < 3 then R.err else
  let b0 ← d.idx 0; let b1 ← d.idx 1; let b2 ← d.idx 2
  let body ← d.sliceFrom 3
  pure ({ major := b0, minor := b1, revision := b2 }, body)

/-- `g.MajorVersion == 1 && g.MinorVersion == 0` -/
def DcmiHeader.isV10 (h : DcmiHeader) : Bool := h.major == 1 && h.minor == 0

def DcmiHeader.ofBytes (b : Bytes) : DcmiHeader := { major := b.getD 0 0, minor := b.getD 1 0, revision := b.getD 2 0 }

-- parameter 1: supported DCMI capabilities -------------------------------------------------------------------------

structure DcmiCap1 where
  hdr : DcmiHeader := {}
  temperatureMonitor : Bool := false
  chassisPower : Bool := false
  selLogging : Bool := false
  identification : Bool := false
  powerManagement : Bool := false
  vlanCapable : Bool := false
  solSupported : Bool := false
  oobPrimary : Bool := false
  oobSecondary : Bool := false
  serialTMODE : Bool := false
  ibKCS : Bool := false
  ibSystemInterface : Bool := false
  contents : Bytes := []
  payload : Bytes := []
  deriving Repr, DecidableEq

/-- the field assignments of parameter 1, given the header and the three body bytes (`b0` is read on the v1.0
    path only) -/
def DcmiCap1.build (h : DcmiHeader) (b0 b1 b2 : UInt8) (c p : Bytes) : DcmiCap1 :=
  let v10 := h.isV10
  { hdr := h
    temperatureMonitor := if v10 then b0 &&& 8 != 0 else true
    chassisPower := if v10 then b0 &&& 4 != 0 else true
    selLogging := if v10 then b0 &&& 2 != 0 else true
    identification := if v10 then b0 &&& 1 != 0 else true
    powerManagement := b1 &&& 1 != 0
    vlanCapable := if v10 then b2 &&& 32 != 0 else true
    solSupported := if v10 then b2 &&& 16 != 0 else true
    oobPrimary := if v10 then b2 &&& 8 != 0 else true
    oobSecondary := b2 &&& 4 != 0
    serialTMODE := b2 &&& 2 != 0
    ibKCS := if v10 then b2 &&& 1 != 0 else true
    ibSystemInterface := if v10 then false else b2 &&& 1 != 0
    contents := c, payload := p }

def DcmiCap1.decodeGo (_prev : DcmiCap1) (d : GoSlice) : R DcmiCap1 := do
  let (h, body) ← DcmiHeader.decodeGo d
  if body.len < 3 then R.err else
  let b0 ← if h.isV10 then body.idx 0 else pure 0
  let b1 ← body.idx 1
  let b2 ← body.idx 2
  let c ← d.slice 0 (d.len - body.len + 3)
  let p ← body.sliceFrom 3
  pure (DcmiCap1.build h b0 b1 b2 c.vis p.vis)

def DcmiCap1.decode (b : Bytes) : Except Unit DcmiCap1 :=
  if b.length < 3 then .error () else
  if b.length - 3 < 3 then .error () else
  let h := DcmiHeader.ofBytes b
  .ok (DcmiCap1.build h (if h.isV10 then b.getD 3 0 else 0) (b.getD 4 0) (b.getD 5 0) (b.take 6) (b.drop 6))

-- parameter 2: mandatory platform attributes -----------------------------------------------------------------------

structure DcmiCap2 where
  hdr : DcmiHeader := {}
  selAutoRollover : Bool := false
  selFlushOnRollover : Bool := false
  selRecordLevelFlushOnRollover : Bool := false
  selMaxEntries : Nat := 0
  assetTagSupport : Bool := false
  dhcpHostNameSupport : Bool := false
  guidSupport : Bool := false
  baseboardTemperature : Bool := false
  processorsTemperature : Bool := false
  inletTemperature : Bool := false
  /-- `time.Duration`, nanoseconds -/
  temperatureSamplingFrequency : Nat := 0
  contents : Bytes := []
  payload : Bytes := []
  deriving Repr, DecidableEq

/-- the field assignments of parameter 2. `v10` is the code's `isVersion10`; on that path `b4` is not read, on the
    other `b2`, `b3` are not. `SELMaxEntries` is `binary.LittleEndian.Uint16([]byte{body[0] & 0xf, body[1]})`:
    the low nibble of the FIRST byte plus 256 × the SECOND byte — the reading the repository's tests pin
    (`f5 aa` ⇒ 43525, `4f ff` ⇒ 65295). -/
def DcmiCap2.build (h : DcmiHeader) (v10 : Bool) (b0 b1 b2 b3 b4 : UInt8) (c p : Bytes) : DcmiCap2 :=
  { hdr := h
    selAutoRollover := b0 &&& 0x80 != 0
    selFlushOnRollover := if v10 then false else b0 &&& 0x40 != 0
    selRecordLevelFlushOnRollover := if v10 then false else b0 &&& 0x20 != 0
    selMaxEntries := (b0 &&& 0xf).toNat + 256 * b1.toNat
    assetTagSupport := if v10 then b2 &&& 4 != 0 else true
    dhcpHostNameSupport := if v10 then b2 &&& 2 != 0 else true
    guidSupport := if v10 then b2 &&& 1 != 0 else true
    baseboardTemperature := if v10 then b3 &&& 4 != 0 else true
    processorsTemperature := if v10 then b3 &&& 2 != 0 else true
    inletTemperature := if v10 then b3 &&& 1 != 0 else true
    temperatureSamplingFrequency := if v10 then 0 else 1000000000 * b4.toNat
    contents := c, payload := p }

def DcmiCap2.decodeGo (_prev : DcmiCap2) (d : GoSlice) : R DcmiCap2 := do
  let (h, body) ← DcmiHeader.decodeGo d
  if body.len < 4 then R.err else
  -- `isVersion10 := len(body) == 4 || g.MajorVersion == 1 && g.MinorVersion == 0`
  let v10 := body.len == 4 || h.isV10
  let b0 ← body.idx 0
  let b1 ← body.idx 1
  let b2 ← if v10 then body.idx 2 else pure 0
  let b3 ← if v10 then body.idx 3 else pure 0
  let b4 ← if v10 then pure 0 else body.idx 4
  let n := if v10 then 4 else 5
  let c ← d.slice 0 (d.len - body.len + n)
  let p ← body.sliceFrom n
  pure (DcmiCap2.build h v10 b0 b1 b2 b3 b4 c.vis p.vis)

def DcmiCap2.decode (b : Bytes) : Except Unit DcmiCap2 :=
  if b.length < 3 then .error () else
  if b.length - 3 < 4 then .error () else
  let h := DcmiHeader.ofBytes b
  let v10 := b.length - 3 == 4 || h.isV10
  let n := if v10 then 4 else 5
  .ok (DcmiCap2.build h v10 (b.getD 3 0) (b.getD 4 0) (if v10 then b.getD 5 0 else 0) (if v10 then b.getD 6 0 else 0)
    (if v10 then 0 else b.getD 7 0) (b.take (3 + n)) (b.drop (3 + n)))

-- parameter 3: optional platform attributes ------------------------------------------------------------------------

structure DcmiCap3 where
  hdr : DcmiHeader := {}
  slaveAddress : UInt8 := 0
  channel : UInt8 := 0
  revision : UInt8 := 0
  contents : Bytes := []
  payload : Bytes := []
  deriving Repr, DecidableEq

def DcmiCap3.decodeGo (_prev : DcmiCap3) (d : GoSlice) : R DcmiCap3 := do
  let (h, body) ← DcmiHeader.decodeGo d
  if body.len < 2 then R.err else
  let b0 ← body.idx 0
  let b1 ← body.idx 1
  let c ← d.slice 0 (d.len - body.len + 2)
  let p ← body.sliceFrom 2
  pure { hdr := h, slaveAddress := b0 >>> 1, channel := b1 >>> 4, revision := b1 &&& 0xf, contents := c.vis, payload := p.vis }

def DcmiCap3.decode (b : Bytes) : Except Unit DcmiCap3 :=
  if b.length < 3 then .error () else
  if b.length - 3 < 2 then .error () else
  .ok { hdr := DcmiHeader.ofBytes b, slaveAddress := b.getD 3 0 >>> 1, channel := b.getD 4 0 >>> 4, revision := b.getD 4 0 &&& 0xf
        contents := b.take 5, payload := b.drop 5 }

-- parameter 4: manageability access attributes ---------------------------------------------------------------------

structure DcmiCap4 where
  hdr : DcmiHeader := {}
  primaryLAN : UInt8 := 0
  secondaryLAN : UInt8 := 0
  serial : UInt8 := 0
  contents : Bytes := []
  payload : Bytes := []
  deriving Repr, DecidableEq

def DcmiCap4.decodeGo (_prev : DcmiCap4) (d : GoSlice) : R DcmiCap4 := do
  let (h, body) ← DcmiHeader.decodeGo d
  if body.len < 3 then R.err else
  let b0 ← body.idx 0
  let b1 ← body.idx 1
  let b2 ← body.idx 2
  let c ← d.slice 0 (d.len - body.len + 3)
  let p ← body.sliceFrom 3
  pure { hdr := h, primaryLAN := b0, secondaryLAN := b1, serial := b2, contents := c.vis, payload := p.vis }

def DcmiCap4.decode (b : Bytes) : Except Unit DcmiCap4 :=
  if b.length < 3 then .error () else
  if b.length - 3 < 3 then .error () else
  .ok { hdr := DcmiHeader.ofBytes b, primaryLAN := b.getD 3 0, secondaryLAN := b.getD 4 0, serial := b.getD 5 0
        contents := b.take 6, payload := b.drop 6 }

-- parameter 5: enhanced system power statistics attributes ---------------------------------------------------------

/-- `rollingAvgPeriodDuration(b)` in nanoseconds — the function as translated from the Go source on every run
    (`Bmc.Gen`), proved equal to the specification's `Spec.rollingDurationNs` in `Proofs/C20` -/
def rollingNs (b : UInt8) : Nat := Spec.rollingDurationNs b.toNat   -- `rollingAvgPeriodDuration`, proved equal to this in Proofs/C20 (rolling_duration)

/-- the successive index expressions `s[i]` for `i` in a list (the loop `for i … { … body[1+i] }`) -/
def _root_.Bmc.GoSlice.idxs (s : GoSlice) : List Nat → R Bytes
  | [] => .ok []
  | i :: is => do
    let b ← s.idx i
    let bs ← GoSlice.idxs s is
    pure (b :: bs)

structure DcmiCap5 where
  hdr : DcmiHeader := {}
  /-- `[]time.Duration`, nanoseconds; allocated afresh by `make` on every successful decode -/
  periods : List Nat := []
  contents : Bytes := []
  payload : Bytes := []
  deriving Repr, DecidableEq

def DcmiCap5.decodeGo (_prev : DcmiCap5) (d : GoSlice) : R DcmiCap5 := do
  let (h, body) ← DcmiHeader.decodeGo d
  if body.len < 1 then R.err else
  let b0 ← body.idx 0
  let periods := b0.toNat
  if body.len < 1 + periods then R.err else
  let bs ← body.idxs ((List.range periods).map (1 + ·))
  let c ← d.slice 0 (d.len - body.len + 1 + periods)
  let p ← body.sliceFrom (1 + periods)
  pure { hdr := h, periods := bs.map rollingNs, contents := c.vis, payload := p.vis }

def DcmiCap5.decode (b : Bytes) : Except Unit DcmiCap5 :=
  if b.length < 3 then .error () else
  if b.length - 3 < 1 then .error () else
  let n := (b.getD 3 0).toNat
  if b.length - 3 < 1 + n then .error () else
  .ok { hdr := DcmiHeader.ofBytes b, periods := ((b.drop 4).take n).map rollingNs, contents := b.take (4 + n), payload := b.drop (4 + n) }

-- Get Power Reading ------------------------------------------------------------------------------------------------

/-- `GetPowerReadingRsp`. The method never assigns `BaseLayer.Contents` / `Payload`; they stay nil for the life of
    the receiver and are not fields of the model (the driver prints them empty). -/
structure PowerReading where
  instantaneous : Nat := 0
  min : Nat := 0
  max : Nat := 0
  avg : Nat := 0
  /-- `time.Unix(int64(uint32), 0)`: seconds since the epoch -/
  timestamp : Nat := 0
  /-- `time.Millisecond * time.Duration(uint32)`: nanoseconds (at most 4294967295000000, no int64 overflow) -/
  period : Nat := 0
  active : Bool := false
  deriving Repr, DecidableEq

def PowerReading.decodeGo (_prev : PowerReading) (d : GoSlice) : R PowerReading := do
  if d.len < 17 then R.err else
  let i ← d.slice 0 2
  let mn ← d.slice 2 4
  let mx ← d.slice 4 6
  let av ← d.slice 6 8
  let ts ← d.slice 8 12
  let pd ← d.slice 12 16
  let st ← d.idx 16
  pure { instantaneous := le16 i.vis, min := le16 mn.vis, max := le16 mx.vis, avg := le16 av.vis
         timestamp := le32 ts.vis, period := 1000000 * le32 pd.vis, active := st &&& 0x40 != 0 }

def PowerReading.decode (b : Bytes) : Except Unit PowerReading :=
  if b.length < 17 then .error () else
  .ok { instantaneous := le16 b, min := le16 (b.drop 2), max := le16 (b.drop 4), avg := le16 (b.drop 6)
        timestamp := le32 (b.drop 8), period := 1000000 * le32 (b.drop 12), active := b.getD 16 0 &&& 0x40 != 0 }

-- Get DCMI Sensor Info ---------------------------------------------------------------------------------------------

/-- a Go `[]ipmi.RecordID`: `buf` is the backing array from the slice start to its capacity, `len` the length -/
structure U16Slice where
  buf : List Nat := []
  len : Nat := 0
  deriving Repr, DecidableEq

namespace U16Slice
/-- the elements the slice denotes -/
def vis (s : U16Slice) : List Nat := s.buf.take s.len
/-- `s[:0]` — always legal (0 ≤ cap); keeps the backing array -/
def reset (s : U16Slice) : U16Slice := { s with len := 0 }
/-- `append(s, x)`: written in place while the capacity allows, otherwise into a new array (Go over-allocates
    the new array; how much is not observable through the slice, the model allocates exactly `len + 1`) -/
def append (s : U16Slice) (x : Nat) : U16Slice :=
  if s.len < s.buf.length then { buf := s.buf.set s.len x, len := s.len + 1 }
  else { buf := s.vis ++ [x], len := s.len + 1 }
/-- `len ≤ cap` -/
def Inv (s : U16Slice) : Prop := s.len ≤ s.buf.length
end U16Slice

/-- the receiver: `RecordIDs` is a slice whose backing array survives from decode to decode -/
structure SensorInfo where
  instances : UInt8 := 0
  recordIDs : U16Slice := {}
  contents : Bytes := []
  payload : Bytes := []
  deriving Repr, DecidableEq

/-- what a caller can see of the receiver -/
structure SensorInfoView where
  instances : UInt8 := 0
  recordIDs : List Nat := []
  contents : Bytes := []
  payload : Bytes := []
  deriving Repr, DecidableEq

def SensorInfo.view (s : SensorInfo) : SensorInfoView :=
  { instances := s.instances, recordIDs := s.recordIDs.vis, contents := s.contents, payload := s.payload }

/-- the loop `for i … { offset := 2 + i*2; id := binary.LittleEndian.Uint16(data[offset:]); ids = append(ids, id) }`;
    `Uint16` begins with `_ = b[1]`, a panic on a slice shorter than 2 -/
def SensorInfo.readIDs (d : GoSlice) : List Nat → U16Slice → R U16Slice
  | [], acc => .ok acc
  | i :: is, acc => do
    let t ← d.sliceFrom (2 + i * 2)
    if t.len < 2 then R.panic else
    SensorInfo.readIDs d is (acc.append (le16 t.vis))

def SensorInfo.decodeGo (prev : SensorInfo) (d : GoSlice) : R SensorInfo := do
  if d.len < 2 then R.err else
  let b0 ← d.idx 0
  let b1 ← d.idx 1
  let n := b1.toNat
  let expect := 2 + n * 2
  if d.len < expect then R.err else
  let c ← d.slice 0 expect
  let p ← d.sliceFrom expect
  let ids ← SensorInfo.readIDs d (List.range n) prev.recordIDs.reset
  pure { instances := b0, recordIDs := ids, contents := c.vis, payload := p.vis }

def SensorInfoView.decode (b : Bytes) : Except Unit SensorInfoView :=
  if b.length < 2 then .error () else
  let n := (b.getD 1 0).toNat
  if b.length < 2 + n * 2 then .error () else
  .ok { instances := b.getD 0 0, recordIDs := (List.range n).map (fun i => le16 (b.drop (2 + i * 2)))
        contents := b.take (2 + n * 2), payload := b.drop (2 + n * 2) }

/-- reuse of the backing array: after 3 record IDs then 1, the slice shows the one new ID only; the two old ones
    are still in the array beyond `len` (reachable only by re-slicing up to `cap`, which no caller does) -/
example :
    let r1 := SensorInfo.decodeGo {} (GoSlice.ofBytes [3, 3, 0x11, 0x11, 0x22, 0x22, 0x33, 0x33])
    (match r1 with
     | .ok v => (SensorInfo.decodeGo v (GoSlice.ofBytes [1, 1, 0x44, 0x44])).map (fun s => (s.view.recordIDs, s.recordIDs.buf))
     | _ => R.err) = R.ok ([0x4444], [0x4444, 0x2222, 0x3333]) := by
  decide

end Bmc.Wire
