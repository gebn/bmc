import Bmc.Basic.Go
import Bmc.Wire.Simple
/-! Model of `ipmi.GetSessionInfoRsp.DecodeFromBytes` (pkg/ipmi/get_session_info.go).
    The other layers of this group (`AuthCapsRsp`, `CipherSuitesRsp`, `SetPrivRsp`, `GUIDRsp`) are modelled in
    `Wire/Simple.lean`, `GetChassisStatusRsp` in `Wire/Chassis.lean`. -/
namespace Bmc.Wire
open Bmc

structure SessionInfoRsp where
  handle : UInt8 := 0
  max : UInt8 := 0             -- data[1] as is (the library does not mask the two reserved bits)
  active : UInt8 := 0          -- data[2] as is
  userID : UInt8 := 0          -- data[3] & 0x3f
  privilegeLevel : UInt8 := 0  -- data[4] & 0xf
  isIPMIv2 : Bool := false     -- (data[5] & 0xf0) >> 4 == 1
  channel : UInt8 := 0         -- data[5] & 0xf
  ip : Bytes := []             -- net.IP: nil, or the 16-byte IPv4-mapped form
  mac : Bytes := []            -- net.HardwareAddr: nil, or 6 bytes
  port : Nat := 0
  contents : Bytes := []
  payload : Bytes := []
  deriving Repr, DecidableEq

/-- the first twelve bytes of `ip := [16]byte{0, 0, 0, 0, 0, 0, 0, 0, 0, 0, 0xff, 0xff}` -/
def v4Prefix : Bytes := [0, 0, 0, 0, 0, 0, 0, 0, 0, 0, 0xff, 0xff]

/-- Statement by statement: the three guards (`< 3`, `handle == 0 && len == 3`, `< 6`, `< 18`), the index
    expressions, the slice expressions `data[6:10]`, `data[10:16]`, `data[16:18]`, `data[:n]`, `data[n:]`.
    Every success path of the Go method assigns every field (the two short paths reset the tail fields
    explicitly), which is why `prev` survives in no field; `{ prev with … }` keeps that visible. -/
def SessionInfoRsp.decodeGo (prev : SessionInfoRsp) (d : GoSlice) : R SessionInfoRsp := do
  if d.len < 3 then R.err else
  let b0 ← d.idx 0; let b1 ← d.idx 1; let b2 ← d.idx 2
  let g : SessionInfoRsp := { prev with handle := b0, max := b1, active := b2 }
  if g.handle == 0 && d.len == 3 then
    let c ← d.slice 0 3
    let p ← d.sliceFrom 3
    pure { g with userID := 0, privilegeLevel := 0, isIPMIv2 := false, channel := 0, ip := [], mac := [], port := 0
                  contents := c.vis, payload := p.vis }
  else
  if d.len < 6 then R.err else
  let b3 ← d.idx 3; let b4 ← d.idx 4; let b5 ← d.idx 5
  let g : SessionInfoRsp := { g with userID := b3 &&& 0x3f, privilegeLevel := b4 &&& 0xf
                                     isIPMIv2 := (b5 &&& 0xf0) >>> 4 == 1, channel := b5 &&& 0xf }
  if d.len < 18 then
    let c ← d.slice 0 6
    let p ← d.sliceFrom 6
    pure { g with ip := [], mac := [], port := 0, contents := c.vis, payload := p.vis }
  else
  let ip4 ← d.slice 6 10
  let mac ← d.slice 10 16
  let pt ← d.slice 16 18
  let c ← d.slice 0 18
  let p ← d.sliceFrom 18
  pure { g with ip := v4Prefix ++ ip4.vis, mac := mac.vis, port := le16 pt.vis, contents := c.vis, payload := p.vis }

/-- the decoder on a fresh receiver and an exact-capacity slice -/
def SessionInfoRsp.decode (b : Bytes) : R SessionInfoRsp := SessionInfoRsp.decodeGo {} (GoSlice.ofBytes b)

end Bmc.Wire
