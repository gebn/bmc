import Bmc.Basic.Go
import Bmc.Wire.V2Session
/-! Model of `ipmi.RAKPMessage4.DecodeFromBytes` (pkg/ipmi/rakp_message_4.go).
    (`Wire.RAKP4` of `Wire/Setup.lean` is this decoder without `Contents`, as the handshake model uses it:
    `Lemmas.SetupBridge.rakp4_bridge`.) -/
namespace Bmc.Wire.Setup
open Bmc Bmc.Wire

structure RAKP4 where
  tag : UInt8 := 0
  status : UInt8 := 0
  consoleSID : Nat := 0          -- RemoteConsoleSessionID
  icv : Bytes := []
  contents : Bytes := []         -- BaseLayer.Contents = data; BaseLayer.Payload is never assigned
  deriving Repr, DecidableEq

def RAKP4.decodeGo (_prev : RAKP4) (d : GoSlice) : R RAKP4 := do
  if d.len < 8 then R.err else
  let t ← d.idx 0
  let s ← d.idx 1
  let sid ← d.slice 4 8
  let icv ← if s == 0 && d.len > 8 then (do let x ← d.sliceFrom 8; pure x.vis) else pure []
  pure { tag := t, status := s, consoleSID := le32 sid.vis, icv := icv, contents := d.vis }

def RAKP4.decode (b : Bytes) : Except Unit RAKP4 :=
  if b.length < 8 then .error () else
  .ok { tag := b.getD 0 0, status := b.getD 1 0, consoleSID := le32 (b.drop 4)
        icv := if b.getD 1 0 == 0 then b.drop 8 else [], contents := b }

theorem RAKP4.decodeGo_refines (prev : RAKP4) (d : GoSlice) :
    RAKP4.decodeGo prev d = R.ofExcept (RAKP4.decode d.vis) := by
  unfold RAKP4.decodeGo RAKP4.decode
  simp only [GoSlice.vis_length]
  refine R.guard_ofExcept fun h => ?_
  have hn : 8 ≤ d.len := Nat.le_of_not_lt h
  go_reads hn [Nat.le_refl, GoSlice.take_len_drop_vis, le32_take]
  -- a status other than 0, or nothing after the eighth byte: no ICV
  cases hs : (List.getD d.vis 1 0 == 0) <;> by_cases h8 : d.len > 8 <;>
    simp only [h8, Bool.false_and, Bool.true_and, decide_true, decide_false, Bool.false_eq_true, if_true, if_false,
      R.ofExcept_ok]
  rw [GoSlice.drop_vis_of_le (by omega : d.len ≤ 8)]

end Bmc.Wire.Setup
