import Bmc.Basic.Go
import Bmc.Wire.V2Session
/-! Model of `ipmi.V1Session.DecodeFromBytes`. -/
namespace Bmc.Wire
open Bmc

structure V1Session where
  authType : UInt8 := 0
  sequence : Nat := 0
  id : Nat := 0
  authCode : Bytes := List.replicate 16 0
  length : UInt8 := 0
  contents : Bytes := []
  payload : Bytes := []
  deriving Repr, DecidableEq

/-- `resetAuthCode = false` is the pinned tree: `AuthCode` keeps its previous value when the auth type is none -/
def V1Session.decodeGo (resetAuthCode : Bool) (prev : V1Session) (d : GoSlice) : R V1Session := do
  if d.len < 10 then R.err else
  let at_ ← d.idx 0
  let sSeq ← d.slice 1 5
  let sId ← d.slice 5 9
  if at_ == 0 then
    let c ← d.slice 0 10
    let p ← d.sliceFrom 10
    let l ← d.idx 9
    pure { authType := at_, sequence := le32 sSeq.vis, id := le32 sId.vis
           authCode := if resetAuthCode then List.replicate 16 0 else prev.authCode
           length := l, contents := c.vis, payload := p.vis }
  else
    if d.len < 26 then R.err else
    let c ← d.slice 0 26
    let p ← d.sliceFrom 26
    let ac ← d.slice 9 25
    let l ← d.idx 25
    pure { authType := at_, sequence := le32 sSeq.vis, id := le32 sId.vis, authCode := ac.vis
           length := l, contents := c.vis, payload := p.vis }

def V1Session.decode (b : Bytes) : Except Unit V1Session :=
  if b.length < 10 then .error () else
  if b.getD 0 0 == 0 then
    .ok { authType := b.getD 0 0, sequence := le32 (b.drop 1), id := le32 (b.drop 5)
          authCode := List.replicate 16 0, length := b.getD 9 0, contents := b.take 10, payload := b.drop 10 }
  else if b.length < 26 then .error () else
    .ok { authType := b.getD 0 0, sequence := le32 (b.drop 1), id := le32 (b.drop 5)
          authCode := (b.drop 9).take 16, length := b.getD 25 0, contents := b.take 26, payload := b.drop 26 }

/-- PINNED TREE (finding 12b): the AuthCode of an earlier authenticated packet survives -/
example :
    let p : V1Session := { authCode := List.replicate 16 0xEE }
    (V1Session.decodeGo false p (GoSlice.ofBytes (List.replicate 12 0))).map (·.authCode) = R.ok (List.replicate 16 0xEE) := by
  decide

end Bmc.Wire
