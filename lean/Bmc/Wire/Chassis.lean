import Bmc.Basic.Go
/-! Model of `ipmi.GetChassisStatusRsp.DecodeFromBytes`. -/
namespace Bmc.Wire
open Bmc

structure GetChassisStatusRsp where
  powerRestorePolicy : UInt8 := 0
  flags0 : UInt8 := 0          -- PowerControlFault, PowerFault, Interlock, PowerOverload, PoweredOn (bits 4..0 of byte 0)
  flags1 : UInt8 := 0          -- PoweredOnByIPMI, LastPowerDown{Fault,Interlock,Overload,SupplyFailure} (bits 4..0 of byte 1)
  identifyState : UInt8 := 0   -- 0..3, or 0xff when unsupported
  flags2 : UInt8 := 0          -- CoolingFault, DriveFault, Lockout, Intrusion (bits 3..0 of byte 2)
  frontPanel : UInt8 := 0      -- the eight button flags; reset to 0 when byte 3 is absent
  contents : Bytes := []
  payload : Bytes := []
  deriving Repr, DecidableEq

/-- `resetTail = false` would be a tree where the else-branch resetting the button flags is missing -/
def GetChassisStatusRsp.decodeGo (resetTail : Bool) (prev : GetChassisStatusRsp) (d : GoSlice) : R GetChassisStatusRsp := do
  if d.len < 3 then R.err else
  let b0 ← d.idx 0; let b1 ← d.idx 1; let b2 ← d.idx 2
  let ident := if b2 &&& 0x40 != 0 then (b2 &&& 0x30) >>> 4 else 0xff
  if d.len > 3 then
    let b3 ← d.idx 3
    let c ← d.slice 0 4
    let p ← d.sliceFrom 4
    pure { powerRestorePolicy := (b0 &&& 0x60) >>> 5, flags0 := b0 &&& 0x1f, flags1 := b1 &&& 0x1f
           identifyState := ident, flags2 := b2 &&& 0x0f, frontPanel := b3, contents := c.vis, payload := p.vis }
  else
    let c ← d.slice 0 3
    let p ← d.sliceFrom 3
    pure { powerRestorePolicy := (b0 &&& 0x60) >>> 5, flags0 := b0 &&& 0x1f, flags1 := b1 &&& 0x1f
           identifyState := ident, flags2 := b2 &&& 0x0f
           frontPanel := if resetTail then 0 else prev.frontPanel, contents := c.vis, payload := p.vis }

def GetChassisStatusRsp.decode (b : Bytes) : R GetChassisStatusRsp :=
  GetChassisStatusRsp.decodeGo true {} (GoSlice.ofBytes b)

/-- C05 + C17 in one statement: the outcome never is a panic or an over-read, and does not depend on the
    receiver's previous contents nor on capacity / bytes beyond `len` -/
theorem GetChassisStatusRsp.decodeGo_canon (prev : GetChassisStatusRsp) (d : GoSlice) :
    GetChassisStatusRsp.decodeGo true prev d = GetChassisStatusRsp.decode d.vis ∧
    (GetChassisStatusRsp.decodeGo true prev d).bad = false := by
  unfold GetChassisStatusRsp.decode GetChassisStatusRsp.decodeGo
  simp only [GoSlice.len_ofBytes, GoSlice.vis_length]
  refine R.guard_canon fun h => ?_
  have hn : 3 ≤ d.len := Nat.le_of_not_lt h
  by_cases h3 : d.len > 3
  case' pos => replace hn : 4 ≤ d.len := h3
  all_goals
    go_reads hn [h3, Nat.le_refl, GoSlice.vis_length]
    exact ⟨trivial, rfl⟩
#print axioms GetChassisStatusRsp.decodeGo_canon

/-- the (hypothetical) tree without the else-branch leaks the previous button flags -/
example :
    (GetChassisStatusRsp.decodeGo false { frontPanel := 0xAB } (GoSlice.ofBytes [1, 2, 3])).map (·.frontPanel) = R.ok 0xAB := by
  decide
end Bmc.Wire
