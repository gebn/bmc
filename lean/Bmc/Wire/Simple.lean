import Bmc.Basic.Go
import Bmc.Wire.V2Session
/-! Models of the small response layers of pkg/ipmi. Each `decodeGo` mirrors the Go method; `decode` is the same
    function on a fresh receiver and an exact-capacity slice; `decodeGo_canon` is the C05+C17 statement. -/
namespace Bmc.Wire
open Bmc

structure AuthCapsRsp where
  channel : UInt8 := 0
  authTypes : UInt8 := 0      -- byte 1 as is (bit 7 extended, 5 OEM, 4 password, 2 MD5, 1 MD2, 0 none)
  status : UInt8 := 0         -- byte 2 bits 5..0
  versions : UInt8 := 0       -- byte 3 bits 1..0
  oem : Nat := 0
  oemData : UInt8 := 0
  contents : Bytes := []
  payload : Bytes := []
  deriving Repr, DecidableEq

/-- `GetChannelAuthenticationCapabilitiesRsp.DecodeFromBytes` (get_channel_authentication_capabilities.go) -/
def AuthCapsRsp.decodeGo (_prev : AuthCapsRsp) (d : GoSlice) : R AuthCapsRsp := do
  if d.len < 8 then R.err else
  let c ← d.slice 0 8
  let p ← d.sliceFrom 8
  let b0 ← d.idx 0; let b1 ← d.idx 1; let b2 ← d.idx 2; let b3 ← d.idx 3
  let b4 ← d.idx 4; let b5 ← d.idx 5; let b6 ← d.idx 6; let b7 ← d.idx 7
  pure { channel := b0, authTypes := b1 &&& 0xb7, status := b2 &&& 0x3f, versions := b3 &&& 3
         oem := b4.toNat + 256 * b5.toNat + 65536 * b6.toNat, oemData := b7, contents := c.vis, payload := p.vis }
def AuthCapsRsp.decode (b : Bytes) : R AuthCapsRsp := AuthCapsRsp.decodeGo {} (GoSlice.ofBytes b)
theorem AuthCapsRsp.decodeGo_canon (prev : AuthCapsRsp) (d : GoSlice) :
    AuthCapsRsp.decodeGo prev d = AuthCapsRsp.decode d.vis ∧ (AuthCapsRsp.decodeGo prev d).bad = false := by
  unfold AuthCapsRsp.decode AuthCapsRsp.decodeGo
  simp only [GoSlice.len_ofBytes, GoSlice.vis_length]
  refine R.guard_canon fun h => ?_
  have hn : 8 ≤ d.len := Nat.le_of_not_lt h
  go_reads hn [Nat.le_refl, GoSlice.vis_length]
  exact ⟨trivial, rfl⟩

structure CipherSuitesRsp where
  channel : UInt8 := 0
  chunk : Bytes := []
  contents : Bytes := []
  payload : Bytes := []
  deriving Repr, DecidableEq

/-- `GetChannelCipherSuitesRsp.DecodeFromBytes` (get_channel_cipher_suites.go) -/
def CipherSuitesRsp.decodeGo (_prev : CipherSuitesRsp) (d : GoSlice) : R CipherSuitesRsp := do
  if d.len < 1 then R.err else
  let e := if d.len > 17 then 17 else d.len
  let c ← d.slice 0 e
  let p ← d.sliceFrom e
  let b0 ← d.idx 0
  let ch ← d.slice 1 e
  pure { channel := b0, chunk := ch.vis, contents := c.vis, payload := p.vis }
def CipherSuitesRsp.decode (b : Bytes) : R CipherSuitesRsp := CipherSuitesRsp.decodeGo {} (GoSlice.ofBytes b)
theorem CipherSuitesRsp.decodeGo_canon (prev : CipherSuitesRsp) (d : GoSlice) :
    CipherSuitesRsp.decodeGo prev d = CipherSuitesRsp.decode d.vis ∧ (CipherSuitesRsp.decodeGo prev d).bad = false := by
  unfold CipherSuitesRsp.decode CipherSuitesRsp.decodeGo
  simp only [GoSlice.len_ofBytes, GoSlice.vis_length]
  refine R.guard_canon fun h => ?_
  have h1 : 1 ≤ d.len := Nat.le_of_not_lt h
  -- the chunk ends at 17 or at `len`, whichever is smaller: either way every read is below a known bound
  by_cases h17 : d.len > 17
  · have hn : 18 ≤ d.len := h17
    go_reads hn [h17, GoSlice.vis_length]
    exact ⟨trivial, rfl⟩
  · have hn := Nat.le_refl d.len
    go_reads hn [h17, GoSlice.idx_of_le h1, GoSlice.idx_of_le (GoSlice.le_len_ofBytes_vis h1), Nat.le_refl, Nat.zero_le, h1,
      GoSlice.vis_length]
    exact ⟨trivial, rfl⟩

structure SetPrivRsp where
  level : UInt8 := 0
  deriving Repr, DecidableEq
/-- `SetSessionPrivilegeLevelRsp.DecodeFromBytes` (set_session_privilege_level.go) -/
def SetPrivRsp.decodeGo (_prev : SetPrivRsp) (d : GoSlice) : R SetPrivRsp := do
  if d.len != 1 then R.err else
  let b ← d.idx 0
  pure { level := b &&& 0xF }
def SetPrivRsp.decode (b : Bytes) : R SetPrivRsp := SetPrivRsp.decodeGo {} (GoSlice.ofBytes b)
theorem SetPrivRsp.decodeGo_canon (prev : SetPrivRsp) (d : GoSlice) :
    SetPrivRsp.decodeGo prev d = SetPrivRsp.decode d.vis ∧ (SetPrivRsp.decodeGo prev d).bad = false := by
  unfold SetPrivRsp.decode SetPrivRsp.decodeGo
  simp only [GoSlice.len_ofBytes, GoSlice.vis_length]
  refine R.guard_canon fun h => ?_
  have hn : 1 ≤ d.len := by simp at h; omega
  go_reads hn []
  exact ⟨trivial, rfl⟩

structure GUIDRsp where
  guid : Bytes := List.replicate 16 0
  contents : Bytes := []
  deriving Repr, DecidableEq
/-- `GetSystemGUIDRsp.DecodeFromBytes` (get_system_guid.go) -/
def GUIDRsp.decodeGo (_prev : GUIDRsp) (d : GoSlice) : R GUIDRsp := do
  if d.len < 16 then R.err else
  let c ← d.slice 0 16
  pure { guid := c.vis, contents := c.vis }
def GUIDRsp.decode (b : Bytes) : R GUIDRsp := GUIDRsp.decodeGo {} (GoSlice.ofBytes b)
theorem GUIDRsp.decodeGo_canon (prev : GUIDRsp) (d : GoSlice) :
    GUIDRsp.decodeGo prev d = GUIDRsp.decode d.vis ∧ (GUIDRsp.decodeGo prev d).bad = false := by
  unfold GUIDRsp.decode GUIDRsp.decodeGo
  simp only [GoSlice.len_ofBytes, GoSlice.vis_length]
  refine R.guard_canon fun h => ?_
  have hn : 16 ≤ d.len := Nat.le_of_not_lt h
  go_reads hn [Nat.le_refl]
  exact ⟨trivial, rfl⟩

structure ReserveRsp where
  reservationID : Nat := 0
  contents : Bytes := []
  deriving Repr, DecidableEq
/-- `ReserveSDRRepositoryRsp.DecodeFromBytes` (reserve_sdr_repository.go) -/
def ReserveRsp.decodeGo (_prev : ReserveRsp) (d : GoSlice) : R ReserveRsp := do
  if d.len < 2 then R.err else
  let c ← d.slice 0 2
  pure { reservationID := le16 c.vis, contents := c.vis }
def ReserveRsp.decode (b : Bytes) : R ReserveRsp := ReserveRsp.decodeGo {} (GoSlice.ofBytes b)
theorem ReserveRsp.decodeGo_canon (prev : ReserveRsp) (d : GoSlice) :
    ReserveRsp.decodeGo prev d = ReserveRsp.decode d.vis ∧ (ReserveRsp.decodeGo prev d).bad = false := by
  unfold ReserveRsp.decode ReserveRsp.decodeGo
  simp only [GoSlice.len_ofBytes, GoSlice.vis_length]
  refine R.guard_canon fun h => ?_
  have hn : 2 ≤ d.len := Nat.le_of_not_lt h
  go_reads hn [Nat.le_refl]
  exact ⟨trivial, rfl⟩

structure GetSDRRsp where
  next : Nat := 0
  contents : Bytes := []
  payload : Bytes := []
  deriving Repr, DecidableEq
/-- `GetSDRRsp.DecodeFromBytes` (get_sdr.go) -/
def GetSDRRsp.decodeGo (_prev : GetSDRRsp) (d : GoSlice) : R GetSDRRsp := do
  if d.len < 2 then R.err else
  let c ← d.slice 0 2
  let p ← d.sliceFrom 2
  pure { next := le16 c.vis, contents := c.vis, payload := p.vis }
def GetSDRRsp.decode (b : Bytes) : R GetSDRRsp := GetSDRRsp.decodeGo {} (GoSlice.ofBytes b)
theorem GetSDRRsp.decodeGo_canon (prev : GetSDRRsp) (d : GoSlice) :
    GetSDRRsp.decodeGo prev d = GetSDRRsp.decode d.vis ∧ (GetSDRRsp.decodeGo prev d).bad = false := by
  unfold GetSDRRsp.decode GetSDRRsp.decodeGo
  simp only [GoSlice.len_ofBytes, GoSlice.vis_length]
  refine R.guard_canon fun h => ?_
  have hn : 2 ≤ d.len := Nat.le_of_not_lt h
  go_reads hn [Nat.le_refl, GoSlice.vis_length]
  exact ⟨trivial, rfl⟩

/-- `bcd.Decode` (internal/pkg/bcd/bcd.go); `bcdDecode` of `Wire/DeviceID.lean` is the same function -/
def bcd (b : UInt8) : UInt8 := ((b &&& 0xf0) >>> 4) * 10 + (b &&& 0x0f)

structure SDRHeader where
  id : Nat := 0
  version : UInt8 := 0
  typ : UInt8 := 0
  length : UInt8 := 0
  contents : Bytes := []
  payload : Bytes := []
  deriving Repr, DecidableEq
/-- `SDR.DecodeFromBytes` (sdr.go). The version byte has its major digit in the LOW nibble (51h is version 1.5):
    `bcd.Decode(data[2]&0xf)*10 + bcd.Decode(data[2]>>4)` -/
def SDRHeader.decodeGo (_prev : SDRHeader) (d : GoSlice) : R SDRHeader := do
  if d.len < 5 then R.err else
  let i ← d.slice 0 2
  let b2 ← d.idx 2; let b3 ← d.idx 3; let b4 ← d.idx 4
  let c ← d.slice 0 5
  let p ← d.sliceFrom 5
  pure { id := le16 i.vis, version := (bcd (b2 &&& (0xf : UInt8))) * (10 : UInt8) + bcd (b2 >>> (4 : UInt8)), typ := b3, length := b4
         contents := c.vis, payload := p.vis }
def SDRHeader.decode (b : Bytes) : R SDRHeader := SDRHeader.decodeGo {} (GoSlice.ofBytes b)
theorem SDRHeader.decodeGo_canon (prev : SDRHeader) (d : GoSlice) :
    SDRHeader.decodeGo prev d = SDRHeader.decode d.vis ∧ (SDRHeader.decodeGo prev d).bad = false := by
  unfold SDRHeader.decode SDRHeader.decodeGo
  simp only [GoSlice.len_ofBytes, GoSlice.vis_length]
  refine R.guard_canon fun h => ?_
  have hn : 5 ≤ d.len := Nat.le_of_not_lt h
  go_reads hn [Nat.le_refl, GoSlice.vis_length]
  exact ⟨trivial, rfl⟩

structure SensorReadingRsp where
  reading : UInt8 := 0
  eventMessagesEnabled : Bool := false
  scanningEnabled : Bool := false
  readingUnavailable : Bool := false
  contents : Bytes := []
  payload : Bytes := []
  deriving Repr, DecidableEq
/-- `GetSensorReadingRsp.DecodeFromBytes` (get_sensor_reading.go) -/
def SensorReadingRsp.decodeGo (_prev : SensorReadingRsp) (d : GoSlice) : R SensorReadingRsp := do
  if d.len < 3 then R.err else
  let b0 ← d.idx 0; let b1 ← d.idx 1
  let e := if d.len > 3 then 4 else 3
  let c ← d.slice 0 e
  let p ← d.sliceFrom e
  pure { reading := b0, eventMessagesEnabled := b1 &&& 0x80 != 0, scanningEnabled := b1 &&& 0x40 != 0
         readingUnavailable := b1 &&& 0x20 != 0, contents := c.vis, payload := p.vis }
def SensorReadingRsp.decode (b : Bytes) : R SensorReadingRsp := SensorReadingRsp.decodeGo {} (GoSlice.ofBytes b)
theorem SensorReadingRsp.decodeGo_canon (prev : SensorReadingRsp) (d : GoSlice) :
    SensorReadingRsp.decodeGo prev d = SensorReadingRsp.decode d.vis ∧ (SensorReadingRsp.decodeGo prev d).bad = false := by
  unfold SensorReadingRsp.decode SensorReadingRsp.decodeGo
  simp only [GoSlice.len_ofBytes, GoSlice.vis_length]
  refine R.guard_canon fun h => ?_
  have hn : 3 ≤ d.len := Nat.le_of_not_lt h
  by_cases h3 : d.len > 3
  case' pos => replace hn : 4 ≤ d.len := h3
  all_goals
    go_reads hn [h3, Nat.le_refl, GoSlice.vis_length]
    exact ⟨trivial, rfl⟩

end Bmc.Wire
