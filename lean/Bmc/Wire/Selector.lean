import Bmc.Basic.Go
/-! Model of `ipmi.SessionSelector.DecodeFromBytes` (pkg/ipmi/session_selector.go): a zero-length layer. -/
namespace Bmc.Wire.Setup
open Bmc

structure Selector where
  isRMCPPlus : Bool := false
  payload : Bytes := []          -- BaseLayer.Payload = data; BaseLayer.Contents is never assigned
  deriving Repr, DecidableEq

def Selector.decodeGo (_prev : Selector) (d : GoSlice) : R Selector := do
  if d.len < 1 then R.err else
  let b0 ← d.idx 0
  pure { isRMCPPlus := b0 == 6, payload := d.vis }

def Selector.decode (b : Bytes) : Except Unit Selector :=
  if b.length < 1 then .error () else .ok { isRMCPPlus := b.getD 0 0 == 6, payload := b }

theorem Selector.decodeGo_refines (prev : Selector) (d : GoSlice) :
    Selector.decodeGo prev d = R.ofExcept (Selector.decode d.vis) := by
  unfold Selector.decodeGo Selector.decode
  simp only [GoSlice.vis_length]
  refine R.guard_ofExcept fun h => ?_
  simp only [GoSlice.idx_of_le (Nat.le_of_not_lt h), Nat.reduceLT, R.bind_ok]
  rfl

end Bmc.Wire.Setup
