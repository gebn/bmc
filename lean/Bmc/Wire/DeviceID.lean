import Bmc.Basic.Go
/-! Model of `ipmi.GetDeviceIDRsp.DecodeFromBytes`. -/
namespace Bmc.Wire
open Bmc

structure GetDeviceIDRsp where
  id : UInt8 := 0
  providesSDRs : Bool := false
  revision : UInt8 := 0
  available : Bool := false
  majorFirmwareRevision : UInt8 := 0
  minorFirmwareRevision : UInt8 := 0     -- bcd.Decode(data[3])
  majorIPMIVersion : UInt8 := 0
  minorIPMIVersion : UInt8 := 0
  support : UInt8 := 0                    -- the eight Supports* flags, bit i = flag i
  manufacturer : Nat := 0
  product : Nat := 0
  aux : Bytes := [0, 0, 0, 0]            -- [4]byte
  contents : Bytes := []
  deriving Repr, DecidableEq

/-- `bcd.Decode` (internal/pkg/bcd/bcd.go) -/
def bcdDecode (b : UInt8) : UInt8 := ((b &&& 0xf0) >>> 4) * 10 + (b &&& 0x0f)

/-- Go's `copy(dst[:], src)` into a 4-byte array (`GoDec.copyArr 4`) -/
def copy4 (dst src : Bytes) : Bytes := (src.take 4) ++ (dst.drop (min 4 src.length)).take (4 - min 4 src.length)

/-- `zeroFirst = false` is the pinned tree: `copy(g.AuxiliaryFirmwareRevision[:], data[11:])` onto the
    previous contents when `len(data) > 11` -/
def GetDeviceIDRsp.decodeGo (zeroFirst : Bool) (prev : GetDeviceIDRsp) (d : GoSlice) : R GetDeviceIDRsp := do
  if d.len < 11 then R.err else
  let b0 ← d.idx 0; let b1 ← d.idx 1; let b2 ← d.idx 2; let b3 ← d.idx 3; let b4 ← d.idx 4; let b5 ← d.idx 5
  let b6 ← d.idx 6; let b7 ← d.idx 7; let b8 ← d.idx 8
  let p ← d.slice 9 11
  let aux ← if d.len > 11 then (do
      let t ← d.sliceFrom 11
      pure (copy4 (if zeroFirst then [0, 0, 0, 0] else prev.aux) t.vis))
    else pure [0, 0, 0, 0]
  pure { id := b0, providesSDRs := b1 &&& 0x80 != 0, revision := b1 &&& 0x0f
         available := b2 &&& 0x80 == 0, majorFirmwareRevision := b2 &&& 0x7f
         minorFirmwareRevision := bcdDecode b3
         majorIPMIVersion := b4 &&& 0xf, minorIPMIVersion := b4 >>> 4, support := b5
         manufacturer := b6.toNat + 256 * b7.toNat + 65536 * b8.toNat
         product := (p.vis.getD 0 0).toNat + 256 * (p.vis.getD 1 0).toNat
         aux := aux, contents := d.vis }

def GetDeviceIDRsp.decode (b : Bytes) : Except Unit GetDeviceIDRsp :=
  if b.length < 11 then .error () else
  .ok { id := b.getD 0 0, providesSDRs := b.getD 1 0 &&& 0x80 != 0, revision := b.getD 1 0 &&& 0x0f
        available := b.getD 2 0 &&& 0x80 == 0, majorFirmwareRevision := b.getD 2 0 &&& 0x7f
        minorFirmwareRevision := bcdDecode (b.getD 3 0)
        majorIPMIVersion := b.getD 4 0 &&& 0xf, minorIPMIVersion := b.getD 4 0 >>> 4, support := b.getD 5 0
        manufacturer := (b.getD 6 0).toNat + 256 * (b.getD 7 0).toNat + 65536 * (b.getD 8 0).toNat
        product := (b.getD 9 0).toNat + 256 * (b.getD 10 0).toNat
        aux := copy4 [0, 0, 0, 0] (b.drop 11), contents := b }

/-- PINNED TREE (finding 12): a 13-byte body decoded after a 15-byte one keeps two stale bytes -/
example :
    let long : Bytes := [0x20, 0x81, 0x02, 0x15, 0x02, 0xbf, 0x57, 0x01, 0x00, 0x34, 0x12, 0xAA, 0xBB, 0xCC, 0xDD]
    let r1 := GetDeviceIDRsp.decodeGo false {} (GoSlice.ofBytes long)
    (match r1 with
     | .ok v => (GetDeviceIDRsp.decodeGo false v (GoSlice.ofBytes (long.take 13))).map (·.aux)
     | _ => R.err) = R.ok [0xAA, 0xBB, 0xCC, 0xDD]
    ∧ (GetDeviceIDRsp.decodeGo false {} (GoSlice.ofBytes (long.take 13))).map (·.aux) = R.ok [0xAA, 0xBB, 0, 0] := by
  decide

theorem GetDeviceIDRsp.decodeGo_refines (prev : GetDeviceIDRsp) (d : GoSlice) :
    GetDeviceIDRsp.decodeGo true prev d = R.ofExcept (GetDeviceIDRsp.decode d.vis) := by
  unfold GetDeviceIDRsp.decodeGo GetDeviceIDRsp.decode
  simp only [GoSlice.vis_length]
  refine R.guard_ofExcept fun h => ?_
  have hn : 11 ≤ d.len := Nat.le_of_not_lt h
  go_reads hn [Nat.le_refl, GoSlice.take_len_drop_vis, getD_take, getD_drop, Nat.reduceSub, Nat.reduceAdd]
  split
  · rfl
  · -- exactly 11 bytes: nothing is copied over the zeroed auxiliary revision
    rw [GoSlice.drop_vis_of_le (by omega : d.len ≤ 11)]
    rfl
#print axioms GetDeviceIDRsp.decodeGo_refines
