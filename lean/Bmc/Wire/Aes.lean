import Bmc.Basic.Go
import Bmc.Crypto.Toy
/-! Model of `ipmi.AES128CBC` (pkg/ipmi/aes_128_cbc.go): SerializeTo and DecodeFromBytes. -/
namespace Bmc.Wire
open Bmc Bmc.Crypto

structure AESLayer where
  contents : Bytes := []      -- the IV
  payload : Bytes := []       -- decrypted message
  deriving Repr, DecidableEq

/-- confidentiality trailer: 01, 02, …, n, then n -/
def confPad (n : Nat) : Bytes := (List.range n).map (fun i => UInt8.ofNat (i + 1)) ++ [UInt8.ofNat n]

def padLen (msgLen : Nat) : Nat := 15 - msgLen % 16

/-- `AES128CBC.SerializeTo` with the IV drawn from the entropy stream -/
def AESLayer.encode (C : Ops) (key iv msg : Bytes) : Bytes :=
  let pt := msg ++ confPad (padLen msg.length)
  iv ++ cbcEnc C key (pt.length / 16) iv pt

/-- the pad-checking loop: `data[padStart+i] == i+1` for i < padBytes -/
def padOk (pad : Bytes) : Bool := pad == (List.range pad.length).map (fun i => UInt8.ofNat (i + 1))

/-- `AES128CBC.DecodeFromBytes`. The in-place decryption is modelled by computing the plaintext from the
    visible bytes; afterwards the Go code only indexes `data` (never beyond `len`) except for the final
    `data[16:padStart]`. `guardStart = false` is the pinned tree. -/
def AESLayer.decodeGo (C : Ops) (key : Bytes) (guardStart : Bool) (_prev : AESLayer) (d : GoSlice) : R AESLayer := do
  if d.len < 17 || d.len % 16 != 0 then R.err else
  let iv ← d.slice 0 16
  let ct ← d.sliceFrom 16
  let pt := cbcDec C key (ct.len / 16) iv.vis ct.vis
  let data' := GoSlice.ofBytes (iv.vis ++ pt)        -- what `data` holds after CryptBlocks
  let padBytes ← data'.idx (d.len - 1)
  if padBytes > 16 then R.err else
  let padStart := d.len - padBytes.toNat - 1
  let pad ← data'.slice padStart (padStart + padBytes.toNat)
  if !padOk pad.vis then R.err else
  if guardStart && padStart < 16 then R.err else
  let p ← data'.slice 16 padStart
  pure { contents := iv.vis, payload := p.vis }

def AESLayer.decode (C : Ops) (key : Bytes) (b : Bytes) : Except Unit AESLayer :=
  if b.length < 17 || b.length % 16 != 0 then .error () else
  let iv := b.take 16
  let pt := cbcDec C key ((b.length - 16) / 16) iv (b.drop 16)
  let data' := iv ++ pt
  let padBytes := data'.getD (b.length - 1) 0
  if padBytes > 16 then .error () else
  let padStart := b.length - padBytes.toNat - 1
  if !padOk ((data'.drop padStart).take padBytes.toNat) then .error () else
  if padStart < 16 then .error () else
  .ok { contents := iv, payload := (data'.drop 16).take (padStart - 16) }

/-- PINNED TREE (finding 3): one ciphertext block whose plaintext is 02,…,10h followed by pad length 10h,
    with IV[15] = 01, passes the pad check and panics at `data[16:15]` (toy cipher, zero key = identity) -/
example :
    let iv : Bytes := List.replicate 15 0 ++ [1]
    let pt : Bytes := (List.range 15).map (fun i => UInt8.ofNat (i + 2)) ++ [16]
    AESLayer.decodeGo toy (List.replicate 16 0) false {} (GoSlice.ofBytes (iv ++ cbcEnc toy (List.replicate 16 0) 1 iv pt))
      = R.panic := by
  decide

end Bmc.Wire
