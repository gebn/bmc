import Bmc.Basic.Go
import Bmc.Wire.V2Session
/-! Model of `ipmi.RAKPMessage1.DecodeFromBytes` (pkg/ipmi/rakp_message_1.go). -/
namespace Bmc.Wire.Setup
open Bmc Bmc.Wire

structure RAKP1 where
  tag : UInt8 := 0
  bmcSID : Nat := 0                            -- ManagedSystemSessionID
  consoleRandom : Bytes := List.replicate 16 0 -- RemoteConsoleRandom [16]byte
  lookup : Bool := false                       -- PrivilegeLevelLookup
  maxPriv : UInt8 := 0
  username : Bytes := []                       -- Go string, as bytes
  contents : Bytes := []                       -- BaseLayer.Contents = data; BaseLayer.Payload is never assigned
  deriving Repr, DecidableEq

def RAKP1.decodeGo (_prev : RAKP1) (d : GoSlice) : R RAKP1 := do
  if d.len < 28 then R.err else
  let t ← d.idx 0
  let sid ← d.slice 4 8
  let rnd ← d.slice 8 24            -- copy(r.RemoteConsoleRandom[:], data[8:24]): all 16 bytes are overwritten
  let b24 ← d.idx 24
  let b24' ← d.idx 24
  let n ← d.idx 27                  -- lenUsername (uint8)
  if n > 16 then R.err else
  -- `28+lenUsername` is computed in uint8; with lenUsername ≤ 16 it cannot wrap
  if d.len < (28 + n).toNat then R.err else
  let u ← d.slice 28 (28 + n).toNat
  pure { tag := t, bmcSID := le32 sid.vis, consoleRandom := rnd.vis, lookup := (b24' &&& 0x10) == 0
         maxPriv := b24 &&& 0xF, username := u.vis, contents := d.vis }

def RAKP1.decode (b : Bytes) : Except Unit RAKP1 :=
  if b.length < 28 then .error () else
  let n := (b.getD 27 0).toNat
  if n > 16 then .error () else
  if b.length < 28 + n then .error () else
  .ok { tag := b.getD 0 0, bmcSID := le32 (b.drop 4), consoleRandom := (b.drop 8).take 16
        lookup := (b.getD 24 0 &&& 0x10) == 0, maxPriv := b.getD 24 0 &&& 0xF
        username := (b.drop 28).take n, contents := b }

end Bmc.Wire.Setup
