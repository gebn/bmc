import Bmc.Basic.Go
import Bmc.Wire.V2Session
/-! Model of `ipmi.OpenSessionRsp.DecodeFromBytes` (pkg/ipmi/open_session.go) and of the three
    `{Authentication,Integrity,Confidentiality}Payload.Deserialise` methods it calls.
    (A partial model without `Contents` lives in `Wire/Setup.lean` for the handshake prototype; this is the
    complete one, kept in its own namespace.) -/
namespace Bmc.Wire.Setup
open Bmc Bmc.Wire

/-- `ipmi.AuthenticationPayload` / `IntegrityPayload` / `ConfidentialityPayload`: the same two fields -/
structure AlgPayload where
  wildcard : Bool := false
  algorithm : UInt8 := 0
  deriving Repr, DecidableEq

structure OpenSessionRsp where
  tag : UInt8 := 0
  status : UInt8 := 0
  maxPriv : UInt8 := 0
  consoleSID : Nat := 0          -- RemoteConsoleSessionID
  bmcSID : Nat := 0              -- ManagedSystemSessionID
  auth : AlgPayload := {}
  integ : AlgPayload := {}
  conf : AlgPayload := {}
  contents : Bytes := []         -- BaseLayer.Contents; BaseLayer.Payload is never assigned
  deriving Repr, DecidableEq

/-- `X.Deserialise(d, df)` for the payload type byte `typ`; the remaining bytes `d[8:]` it returns are
    discarded by the caller -/
def deserialiseAlg (typ : UInt8) (d : GoSlice) : R AlgPayload := do
  if d.len < 8 then R.err else
  let t ← d.idx 0
  if t != typ then R.err else
  let l ← d.idx 3
  let a ← d.idx 4
  if l == 0 && (a &&& 0x3f) != 0 then R.err else
  let _rest ← d.sliceFrom 8
  pure { wildcard := l == 0, algorithm := a &&& 0x3f }

/-- the second `if` statement of `DecodeFromBytes`, entered with the header fields already assigned to `o` -/
def OpenSessionRsp.tailGo (o : OpenSessionRsp) (d : GoSlice) : R OpenSessionRsp := do
  if o.status == 0 then
    if d.len != 36 then R.err else
    let mp ← d.idx 2
    let c ← d.slice 0 36
    let s1 ← d.slice 4 8
    let s2 ← d.slice 8 12
    let a ← d.slice 12 20
    let ap ← deserialiseAlg 0 a
    let i ← d.slice 20 28
    let ip ← deserialiseAlg 1 i
    let k ← d.slice 28 36
    let kp ← deserialiseAlg 2 k
    pure { o with maxPriv := mp, contents := c.vis, consoleSID := le32 s1.vis, bmcSID := le32 s2.vis
                  auth := ap, integ := ip, conf := kp }
  else
    pure { o with maxPriv := 0, bmcSID := 0, auth := {}, integ := {}, conf := {} }

/-- `OpenSessionRsp.DecodeFromBytes`: fields a path does not assign keep `prev`'s value -/
def OpenSessionRsp.decodeGo (prev : OpenSessionRsp) (d : GoSlice) : R OpenSessionRsp := do
  if d.len == 1 then
    let c ← d.slice 0 1
    let s ← d.idx 0
    OpenSessionRsp.tailGo { prev with contents := c.vis, tag := 0, status := s, consoleSID := 0 } d
  else if d.len < 7 then R.err
  else
    let c ← d.slice 0 7
    let t ← d.idx 0
    let s ← d.idx 1
    let sid ← d.slice 3 7
    OpenSessionRsp.tailGo { prev with contents := c.vis, tag := t, status := s, consoleSID := le32 sid.vis } d

/-- one 8-byte algorithm payload at the head of `b` -/
def algOf (typ : UInt8) (b : Bytes) : Except Unit AlgPayload :=
  if b.getD 0 0 != typ then .error () else
  if b.getD 3 0 == 0 && (b.getD 4 0 &&& 0x3f) != 0 then .error () else
  .ok { wildcard := b.getD 3 0 == 0, algorithm := b.getD 4 0 &&& 0x3f }

/-- the pure decoder -/
def OpenSessionRsp.decode (b : Bytes) : Except Unit OpenSessionRsp :=
  if b.length = 1 then
    -- a lone status byte; a lone 00 would be "success" and is then rejected for not being 36 bytes long
    if b.getD 0 0 == 0 then .error () else .ok { status := b.getD 0 0, contents := b.take 1 }
  else if b.length < 7 then .error ()
  else if b.getD 1 0 == 0 then
    if b.length ≠ 36 then .error () else
    match algOf 0 (b.drop 12), algOf 1 (b.drop 20), algOf 2 (b.drop 28) with
    | .ok a, .ok i, .ok k =>
      .ok { tag := b.getD 0 0, status := b.getD 1 0, maxPriv := b.getD 2 0, consoleSID := le32 (b.drop 4)
            bmcSID := le32 (b.drop 8), auth := a, integ := i, conf := k, contents := b.take 36 }
    | _, _, _ => .error ()
  else
    -- the library's (test-pinned) reading of the error form: tag, status, one reserved byte, console session ID
    .ok { tag := b.getD 0 0, status := b.getD 1 0, consoleSID := le32 (b.drop 3), contents := b.take 7 }

end Bmc.Wire.Setup
