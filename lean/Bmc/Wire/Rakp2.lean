import Bmc.Basic.Go
import Bmc.Wire.V2Session
/-! Model of `ipmi.RAKPMessage2.DecodeFromBytes`. -/
namespace Bmc.Wire
open Bmc

structure RAKP2 where
  tag : UInt8 := 0
  status : UInt8 := 0
  consoleSessionID : Nat := 0
  bmcRandom : Bytes := List.replicate 16 0
  bmcGUID : Bytes := List.replicate 16 0
  authCode : Bytes := []
  contents : Bytes := []
  deriving Repr, DecidableEq

/-- `guard40 = false` is the pinned tree (no length check before `data[8:24]`, `data[24:40]`) -/
def RAKP2.decodeGo (guard40 : Bool) (_prev : RAKP2) (d : GoSlice) : R RAKP2 := do
  if d.len < 8 then R.err else
  let tag ← d.idx 0
  let st ← d.idx 1
  let sid ← d.slice 4 8
  if st == 0 then
    if guard40 && d.len < 40 then R.err else
    let rnd ← d.slice 8 24
    let guid ← d.slice 24 40
    let ac ← if d.len > 40 then (do let s ← d.sliceFrom 40; pure s.vis) else pure []
    pure { tag := tag, status := st, consoleSessionID := le32 sid.vis, bmcRandom := rnd.vis, bmcGUID := guid.vis
           authCode := ac, contents := d.vis }
  else
    pure { tag := tag, status := st, consoleSessionID := le32 sid.vis
           bmcRandom := List.replicate 16 0, bmcGUID := List.replicate 16 0, authCode := [], contents := d.vis }

def RAKP2.decode (b : Bytes) : Except Unit RAKP2 :=
  if b.length < 8 then .error () else
  let st := b.getD 1 0
  if st == 0 then
    if b.length < 40 then .error () else
    .ok { tag := b.getD 0 0, status := st, consoleSessionID := le32 (b.drop 4)
          bmcRandom := (b.drop 8).take 16, bmcGUID := (b.drop 24).take 16, authCode := b.drop 40, contents := b }
  else
    .ok { tag := b.getD 0 0, status := st, consoleSessionID := le32 (b.drop 4)
          bmcRandom := List.replicate 16 0, bmcGUID := List.replicate 16 0, authCode := [], contents := b }

/-- PINNED TREE (finding 2): a 10-byte status-OK RAKP 2 panics on an exact-capacity slice … -/
example : RAKP2.decodeGo false {} (GoSlice.ofBytes (List.replicate 10 0)) = R.panic := by decide
/-- … and reads beyond the datagram when it is a window into the receive buffer -/
example : RAKP2.decodeGo false {} (GoSlice.window (List.replicate 10 0) (List.replicate 40 0xAA)) = R.overread := by
  decide

end Bmc.Wire
