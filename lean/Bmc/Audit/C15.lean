import Bmc.Proofs.C15
import Bmc.Proofs.C15Float
import Bmc.Proofs.C15Source
#print axioms Bmc.Proofs.C15.convert_exact
#print axioms Bmc.Proofs.C15.printed_value
#print axioms Bmc.Proofs.C15.printed_canonical
#print axioms Bmc.Proofs.C15.raw_interpretation
#print axioms Bmc.Proofs.C15.lineariser_table
#print axioms Bmc.Proofs.C15.reader_selection
#print axioms Bmc.Proofs.C15.reader_refused_iff
#print axioms Bmc.Proofs.C15.lineariser_defined
#print axioms Bmc.Proofs.C15.flags
#print axioms Bmc.Proofs.C15.flags_iff
#print axioms Bmc.Proofs.C15.read_error
#print axioms Bmc.Proofs.C15.view_read
#print axioms Bmc.Proofs.C15.sensor_reading_spec
#print axioms Bmc.Proofs.C15.convertReading_source
#print axioms Bmc.Proofs.C15.ab_pow10
#print axioms Bmc.Proofs.C15.convert_approx
#print axioms Bmc.Proofs.C15.convert_error
#print axioms Bmc.Proofs.C15.five_roundings
#print axioms Bmc.Proofs.C15.convert_within_6u
#print axioms Bmc.Proofs.C15.convert_binary64_within_6u
#print axioms Bmc.Proofs.C15.binary64_is_rounding_to_53_bits
#print axioms Bmc.Proofs.C15.sqrt64_is_correctly_rounded
#print axioms Bmc.Proofs.C15.driver_prints_convertFloat
#print axioms Bmc.Proofs.C15.convert_exact_rounding
#print axioms Bmc.Proofs.C15.lineariser_table_source
#print axioms Bmc.Proofs.C15.parser_table_source
#print axioms Bmc.Proofs.C15.sensor_reader_source
#print axioms Bmc.Proofs.C15.lineariser_table_keys
