import Bmc.Proofs.C18
import Bmc.Proofs.GenLoops.BuildAndSend
import Bmc.Proofs.GenLoops.BuildAndSendCommand
import Bmc.Proofs.EndToEnd.MetricsC18
#print axioms Bmc.Proofs.C18.cnt_bump
#print axioms Bmc.Proofs.C18.loop_laws
#print axioms Bmc.Proofs.C18.command_laws
#print axioms Bmc.Proofs.C18.step_laws
#print axioms Bmc.Proofs.C18.conservation
#print axioms Bmc.Proofs.C18.gauges_do_not_drift
#print axioms Bmc.Proofs.C18.wire_accounting
#print axioms Bmc.Proofs.C18.instrumentation_sites
#print axioms Bmc.Proofs.GenLoops.V2Session_buildAndSend_gen_eq
#print axioms Bmc.Proofs.GenLoops.V2Session_buildAndSend_events_eq
#print axioms Bmc.Proofs.GenLoops.V2Session_buildAndSend_expired_context
#print axioms Bmc.Proofs.GenLoops.V2Session_SendCommand_gen_eq
#print axioms Bmc.Proofs.GenLoops.V2Session_SendCommand_events_eq
#print axioms Bmc.Proofs.GenLoops.V2Sessionless_buildAndSendCommand_gen_eq
#print axioms Bmc.Proofs.GenLoops.V2Sessionless_buildAndSendCommand_events_eq
#print axioms Bmc.Proofs.GenLoops.V2Sessionless_SendCommand_gen_eq
#print axioms Bmc.Proofs.GenLoops.V2Sessionless_SendCommand_events_eq
#print axioms Bmc.Proofs.EndToEnd.generated_session_SendCommand_accounting
#print axioms Bmc.Proofs.EndToEnd.generated_sessionless_SendCommand_accounting
#print axioms Bmc.Proofs.EndToEnd.generatedRun_metrics
#print axioms Bmc.Proofs.EndToEnd.generated_history_conservation
