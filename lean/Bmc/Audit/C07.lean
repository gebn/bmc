import Bmc.Proofs.C07.Basic
import Bmc.Proofs.C07.Core
import Bmc.Proofs.C07.Sess
import Bmc.Proofs.C07.Sdr
import Bmc.Proofs.C07.Setup
import Bmc.Proofs.C07.Dcmi
import Bmc.Proofs.C07.Api
import Bmc.Proofs.GenDec.TranslatedOk
import Bmc.Proofs.GenDec.ReserveSDRRepositoryRsp
import Bmc.Proofs.GenDec.GetSystemGUIDRsp
import Bmc.Proofs.GenDec.SetSessionPrivilegeLevelRsp
import Bmc.Proofs.GenDec.GetSDRRsp
import Bmc.Proofs.GenDec.SDR
import Bmc.Proofs.GenDec.GetSensorReadingRsp
import Bmc.Proofs.GenDec.GetChannelCipherSuitesRsp
import Bmc.Proofs.GenDec.GetChannelAuthenticationCapabilitiesRsp
import Bmc.Proofs.GenDec.GetSDRRepositoryInfoRsp
import Bmc.Proofs.GenDec.GetPowerReadingRsp
import Bmc.Proofs.GenDec.GetChassisStatusRsp
import Bmc.Proofs.GenDec.GetDeviceIDRsp
import Bmc.Proofs.GenDec.RAKPMessage4
import Bmc.Proofs.GenDec.RAKPMessage2
import Bmc.Proofs.GenDec.RAKPMessage1
import Bmc.Proofs.GenDec.V1Session
import Bmc.Proofs.GenDec.GetSessionInfoRsp
import Bmc.Proofs.GenDec.OpenSessionRsp
import Bmc.Proofs.GenDec.GetDCMICapabilitiesInfoManageabilityAccessAttrsRsp
import Bmc.Proofs.GenDec.GetDCMICapabilitiesInfoOptionalPlatformAttrsRsp
import Bmc.Proofs.GenDec.GetDCMICapabilitiesInfoSupportedCapabilitiesRsp
import Bmc.Proofs.GenDec.GetDCMICapabilitiesInfoMandatoryPlatformAttrsRsp
import Bmc.Proofs.GenDec.SessionSelector
import Bmc.Proofs.GenDec.Message
import Bmc.Proofs.GenDec.GetDCMICapabilitiesInfoEnhancedSystemPowerStatisticsAttrsRsp
import Bmc.Proofs.GenDec.GetDCMISensorInfoRsp
import Bmc.Proofs.GenDec.FullSensorRecord
import Bmc.Proofs.GenDec.V2Session
import Bmc.Proofs.GenDec.AES128CBC
import Bmc.Proofs.ApiWrappers
import Bmc.Proofs.EndToEnd.DecodeC07
import Bmc.Proofs.EndToEnd.DecodeSetupC07
#print axioms Bmc.Proofs.C07.deviceID_decode_spec
#print axioms Bmc.Proofs.C07.deviceID_short
#print axioms Bmc.Proofs.C07.message_decode_spec_response
#print axioms Bmc.Proofs.C07.message_bad_checksum1
#print axioms Bmc.Proofs.C07.message_bad_checksum2
#print axioms Bmc.Proofs.C07.message_short
#print axioms Bmc.Proofs.C07.v2_length_exceeds
#print axioms Bmc.Proofs.C07.v2_short
#print axioms Bmc.Proofs.C07.authCaps_decode_spec
#print axioms Bmc.Proofs.C07.authCaps_short
#print axioms Bmc.Proofs.C07.cipherSuites_decode_spec
#print axioms Bmc.Proofs.C07.cipherSuites_short
#print axioms Bmc.Proofs.C07.setPriv_decode_spec
#print axioms Bmc.Proofs.C07.setPriv_short
#print axioms Bmc.Proofs.C07.guid_decode_spec
#print axioms Bmc.Proofs.C07.guid_short
#print axioms Bmc.Proofs.C07.sessionInfo_decode_spec
#print axioms Bmc.Proofs.C07.sessionInfo_short
#print axioms Bmc.Proofs.C07.sessionInfo_short_active
#print axioms Bmc.Proofs.C07.chassis_decode_spec
#print axioms Bmc.Proofs.C07.chassis_short
#print axioms Bmc.Proofs.C07.sdrRepoInfo_decode_spec
#print axioms Bmc.Proofs.C07.sdrRepoInfo_short
#print axioms Bmc.Proofs.C07.reserveSDR_decode_spec
#print axioms Bmc.Proofs.C07.reserveSDR_short
#print axioms Bmc.Proofs.C07.getSDR_decode_spec
#print axioms Bmc.Proofs.C07.getSDR_short
#print axioms Bmc.Proofs.C07.sdrHeader_decode_spec
#print axioms Bmc.Proofs.C07.sdrHeader_short
#print axioms Bmc.Proofs.C07.sensorReading_decode_spec
#print axioms Bmc.Proofs.C07.sensorReading_short
#print axioms Bmc.Proofs.C07.fullSensor_decode_spec
#print axioms Bmc.Proofs.C07.fullSensor_decode_wire
#print axioms Bmc.Proofs.C07.fullSensor_short
#print axioms Bmc.Proofs.C07.fullSensor_truncated
#print axioms Bmc.Proofs.C07.algOf_spec
#print axioms Bmc.Proofs.C07.openSessionRsp_decode_spec
#print axioms Bmc.Proofs.C07.openSessionRsp_short
#print axioms Bmc.Proofs.C07.openSessionRsp_ok_exact
#print axioms Bmc.Proofs.C07.openSessionRsp_payload_type
#print axioms Bmc.Proofs.C07.openSessionRsp_wildcard_alg
#print axioms Bmc.Proofs.C07.rakp1_decode_spec
#print axioms Bmc.Proofs.C07.rakp1_short
#print axioms Bmc.Proofs.C07.rakp1_bad_username
#print axioms Bmc.Proofs.C07.rakp2_decode_spec
#print axioms Bmc.Proofs.C07.rakp2_short
#print axioms Bmc.Proofs.C07.rakp2_ok_short
#print axioms Bmc.Proofs.C07.rakp4_decode_spec
#print axioms Bmc.Proofs.C07.rakp4_short
#print axioms Bmc.Proofs.C07.selector_decode_spec
#print axioms Bmc.Proofs.C07.selector_short
#print axioms Bmc.Proofs.C07.v1_decode_spec
#print axioms Bmc.Proofs.C07.v1_short
#print axioms Bmc.Proofs.C07.v1_auth_short
#print axioms Bmc.Proofs.C07.handshake_openSessionRsp
#print axioms Bmc.Proofs.C07.handshake_rakp4
#print axioms Bmc.Proofs.C07.handshake_openSessionRsp_spec
#print axioms Bmc.Proofs.C07.cap1_decode_spec
#print axioms Bmc.Proofs.C07.cap1_short
#print axioms Bmc.Proofs.C07.cap2_decode_spec
#print axioms Bmc.Proofs.C07.cap2_four_byte_body
#print axioms Bmc.Proofs.C07.cap2_short
#print axioms Bmc.Proofs.C07.cap3_decode_spec
#print axioms Bmc.Proofs.C07.cap3_short
#print axioms Bmc.Proofs.C07.cap4_decode_spec
#print axioms Bmc.Proofs.C07.cap4_short
#print axioms Bmc.Proofs.C07.cap5_decode_spec
#print axioms Bmc.Proofs.C07.cap5_short
#print axioms Bmc.Proofs.C07.cap5_truncated
#print axioms Bmc.Proofs.C07.powerReading_decode_spec
#print axioms Bmc.Proofs.C07.powerReading_short
#print axioms Bmc.Proofs.C07.sensorInfo_decode_spec
#print axioms Bmc.Proofs.C07.sensorInfo_short
#print axioms Bmc.Proofs.C07.sensorInfo_truncated
#print axioms Bmc.Proofs.C07.call_returns_decoded
#print axioms Bmc.Proofs.C07.nonzero_code_is_error
#print axioms Bmc.Proofs.C07.finish_nonzero_code
#print axioms Bmc.Proofs.C07.value_only_from_code_zero
#print axioms Bmc.Proofs.C07.call_history_independent
#print axioms Bmc.Proofs.C07.finish_never_panics
#print axioms Bmc.Proofs.C07.callback_refused
#print axioms Bmc.Proofs.C07.operation_is_spec
#print axioms Bmc.Proofs.C07.request_is_the_call
#print axioms Bmc.Proofs.C07.sessionless_call_returns_decoded
#print axioms Bmc.Proofs.C07.sessionless_nonzero_code_is_error
#print axioms Bmc.Proofs.C07.sessionless_wrapper_fields_ignored
#print axioms Bmc.Proofs.C07.sessionless_value_only_from_code_zero
#print axioms Bmc.Proofs.C07.sessionless_request_is_the_call
#print axioms Bmc.Proofs.C07.getSystemGUID_returns
#print axioms Bmc.Proofs.C07.getSystemGUID_returns_sessionless
#print axioms Bmc.Proofs.C07.getChannelAuthenticationCapabilities_returns
#print axioms Bmc.Proofs.C07.getChannelAuthenticationCapabilities_returns_sessionless
#print axioms Bmc.Proofs.C07.getSessionInfo_returns
#print axioms Bmc.Proofs.C07.getDeviceID_returns
#print axioms Bmc.Proofs.C07.getChassisStatus_returns
#print axioms Bmc.Proofs.C07.chassisControl_returns
#print axioms Bmc.Proofs.C07.getSDRRepositoryInfo_returns
#print axioms Bmc.Proofs.C07.reserveSDRRepository_returns
#print axioms Bmc.Proofs.C07.getSensorReading_returns
#print axioms Bmc.Proofs.C07.getSessionPrivilegeLevel_returns
#print axioms Bmc.Proofs.C07.setSessionPrivilegeLevel_returns
#print axioms Bmc.Proofs.C07.close_returns
#print axioms Bmc.Proofs.C07.getPowerReading_returns
#print axioms Bmc.Proofs.C07.getDCMISensorInfo_returns
#print axioms Bmc.Proofs.C07.dcmiSupportedCapabilities_returns
#print axioms Bmc.Proofs.C07.dcmiSupportedCapabilities_returns_sessionless
#print axioms Bmc.Proofs.C07.dcmiMandatoryPlatformAttrs_returns
#print axioms Bmc.Proofs.C07.dcmiMandatoryPlatformAttrs_returns_sessionless
#print axioms Bmc.Proofs.C07.dcmiOptionalPlatformAttrs_returns
#print axioms Bmc.Proofs.C07.dcmiOptionalPlatformAttrs_returns_sessionless
#print axioms Bmc.Proofs.C07.dcmiManageabilityAccessAttrs_returns
#print axioms Bmc.Proofs.C07.dcmiManageabilityAccessAttrs_returns_sessionless
#print axioms Bmc.Proofs.C07.dcmiEnhancedSystemPowerStatisticsAttrs_returns
#print axioms Bmc.Proofs.C07.dcmiEnhancedSystemPowerStatisticsAttrs_returns_sessionless
#print axioms Bmc.Proofs.GenDec.translated_ok
#print axioms Bmc.Proofs.GenDec.ReserveSDRRepositoryRsp_gen_eq
#print axioms Bmc.Proofs.GenDec.GetSystemGUIDRsp_gen_eq
#print axioms Bmc.Proofs.GenDec.SetSessionPrivilegeLevelRsp_gen_eq
#print axioms Bmc.Proofs.GenDec.GetSDRRsp_gen_eq
#print axioms Bmc.Proofs.GenDec.SDR_gen_eq
#print axioms Bmc.Proofs.GenDec.GetSensorReadingRsp_gen_eq
#print axioms Bmc.Proofs.GenDec.GetChannelCipherSuitesRsp_gen_eq
#print axioms Bmc.Proofs.GenDec.GetChannelAuthenticationCapabilitiesRsp_gen_eq
#print axioms Bmc.Proofs.GenDec.GetSDRRepositoryInfoRsp_gen_eq
#print axioms Bmc.Proofs.GenDec.GetPowerReadingRsp_gen_eq
#print axioms Bmc.Proofs.GenDec.GetChassisStatusRsp_gen_eq
#print axioms Bmc.Proofs.GenDec.GetDeviceIDRsp_gen_eq
#print axioms Bmc.Proofs.GenDec.RAKPMessage4_gen_eq
#print axioms Bmc.Proofs.GenDec.RAKPMessage2_gen_eq
#print axioms Bmc.Proofs.GenDec.RAKPMessage1_gen_eq
#print axioms Bmc.Proofs.GenDec.V1Session_gen_eq
#print axioms Bmc.Proofs.GenDec.GetSessionInfoRsp_gen_eq
#print axioms Bmc.Proofs.GenDec.OpenSessionRsp_gen_eq
#print axioms Bmc.Proofs.GenDec.GetDCMICapabilitiesInfoManageabilityAccessAttrsRsp_gen_eq
#print axioms Bmc.Proofs.GenDec.GetDCMICapabilitiesInfoOptionalPlatformAttrsRsp_gen_eq
#print axioms Bmc.Proofs.GenDec.GetDCMICapabilitiesInfoSupportedCapabilitiesRsp_gen_eq
#print axioms Bmc.Proofs.GenDec.GetDCMICapabilitiesInfoMandatoryPlatformAttrsRsp_gen_eq
#print axioms Bmc.Proofs.GenDec.SessionSelector_gen_eq
#print axioms Bmc.Proofs.GenDec.Message_gen_eq
#print axioms Bmc.Proofs.GenDec.GetDCMICapabilitiesInfoEnhancedSystemPowerStatisticsAttrsRsp_gen_eq
#print axioms Bmc.Proofs.GenDec.GetDCMISensorInfoRsp_gen_eq
#print axioms Bmc.Proofs.GenDec.FullSensorRecord_gen_eq
#print axioms Bmc.Proofs.GenDec.V2Session_gen_eq
#print axioms Bmc.Proofs.GenDec.AES128CBC_gen_eq
#print axioms Bmc.Proofs.ApiWrappers.api_wrappers
#print axioms Bmc.Proofs.ApiWrappers.api_other_senders
#print axioms Bmc.Proofs.ApiWrappers.api_cmd_constructors
#print axioms Bmc.Proofs.ApiWrappers.validate_response
#print axioms Bmc.Proofs.EndToEnd.generated_GetDeviceIDRsp_decodes
#print axioms Bmc.Proofs.EndToEnd.generated_AuthCapsRsp_decodes
#print axioms Bmc.Proofs.EndToEnd.generated_CipherSuitesRsp_decodes
#print axioms Bmc.Proofs.EndToEnd.generated_SetPrivRsp_decodes
#print axioms Bmc.Proofs.EndToEnd.generated_GUIDRsp_decodes
#print axioms Bmc.Proofs.EndToEnd.generated_SessionInfoRsp_decodes
#print axioms Bmc.Proofs.EndToEnd.generated_ChassisStatusRsp_decodes
#print axioms Bmc.Proofs.EndToEnd.generated_SDRRepoInfoRsp_decodes
#print axioms Bmc.Proofs.EndToEnd.generated_ReserveRsp_decodes
#print axioms Bmc.Proofs.EndToEnd.generated_GetSDRRsp_decodes
#print axioms Bmc.Proofs.EndToEnd.generated_FullSensorRecord_decodes
#print axioms Bmc.Proofs.EndToEnd.generated_PowerReadingRsp_decodes
#print axioms Bmc.Proofs.EndToEnd.generated_SDRHeader_decodes
#print axioms Bmc.Proofs.EndToEnd.generated_SensorReadingRsp_decodes
#print axioms Bmc.Proofs.EndToEnd.generated_SensorInfoRsp_decodes
#print axioms Bmc.Proofs.EndToEnd.generated_Cap1_decodes
#print axioms Bmc.Proofs.EndToEnd.generated_Cap2_decodes
#print axioms Bmc.Proofs.EndToEnd.generated_Cap3_decodes
#print axioms Bmc.Proofs.EndToEnd.generated_Cap4_decodes
#print axioms Bmc.Proofs.EndToEnd.generated_Cap5_decodes
#print axioms Bmc.Proofs.EndToEnd.generated_OpenSessionRsp_decodes
#print axioms Bmc.Proofs.EndToEnd.generated_RAKPMessage1_decodes
#print axioms Bmc.Proofs.EndToEnd.generated_RAKPMessage2_decodes
#print axioms Bmc.Proofs.EndToEnd.generated_RAKPMessage4_decodes
#print axioms Bmc.Proofs.EndToEnd.generated_SessionSelector_decodes
#print axioms Bmc.Proofs.EndToEnd.generated_V1Session_decodes
