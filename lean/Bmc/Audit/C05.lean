import Bmc.Proofs.C05.Basic
import Bmc.Proofs.C05.Core
import Bmc.Proofs.C05.Sess
import Bmc.Proofs.C05.Sdr
import Bmc.Proofs.C05.Setup
import Bmc.Proofs.C05.Dcmi
import Bmc.Proofs.C05.Calls
import Bmc.Proofs.GenDec.TranslatedOk
import Bmc.Proofs.GenDec.ReserveSDRRepositoryRsp
import Bmc.Proofs.GenDec.GetSystemGUIDRsp
import Bmc.Proofs.GenDec.SetSessionPrivilegeLevelRsp
import Bmc.Proofs.GenDec.GetSDRRsp
import Bmc.Proofs.GenDec.SDR
import Bmc.Proofs.GenDec.GetSensorReadingRsp
import Bmc.Proofs.GenDec.GetChannelCipherSuitesRsp
import Bmc.Proofs.GenDec.GetChannelAuthenticationCapabilitiesRsp
import Bmc.Proofs.GenDec.GetSDRRepositoryInfoRsp
import Bmc.Proofs.GenDec.GetPowerReadingRsp
import Bmc.Proofs.GenDec.GetChassisStatusRsp
import Bmc.Proofs.GenDec.GetDeviceIDRsp
import Bmc.Proofs.GenDec.RAKPMessage4
import Bmc.Proofs.GenDec.RAKPMessage2
import Bmc.Proofs.GenDec.RAKPMessage1
import Bmc.Proofs.GenDec.V1Session
import Bmc.Proofs.GenDec.GetSessionInfoRsp
import Bmc.Proofs.GenDec.OpenSessionRsp
import Bmc.Proofs.GenDec.GetDCMICapabilitiesInfoManageabilityAccessAttrsRsp
import Bmc.Proofs.GenDec.GetDCMICapabilitiesInfoOptionalPlatformAttrsRsp
import Bmc.Proofs.GenDec.GetDCMICapabilitiesInfoSupportedCapabilitiesRsp
import Bmc.Proofs.GenDec.GetDCMICapabilitiesInfoMandatoryPlatformAttrsRsp
import Bmc.Proofs.GenDec.SessionSelector
import Bmc.Proofs.GenDec.Message
import Bmc.Proofs.GenDec.GetDCMICapabilitiesInfoEnhancedSystemPowerStatisticsAttrsRsp
import Bmc.Proofs.GenDec.GetDCMISensorInfoRsp
import Bmc.Proofs.GenDec.FullSensorRecord
import Bmc.Proofs.GenDec.V2Session
import Bmc.Proofs.GenDec.AES128CBC
import Bmc.Proofs.EndToEnd.SafeC05
import Bmc.Proofs.C13Source
import Bmc.Proofs.SourcePins
import Bmc.Proofs.EndToEnd.HistoryC05
#print axioms Bmc.Proofs.C05.deviceID_total
#print axioms Bmc.Proofs.C05.deviceID_safe
#print axioms Bmc.Proofs.C05.chassis_total
#print axioms Bmc.Proofs.C05.message_total
#print axioms Bmc.Proofs.C05.message_safe
#print axioms Bmc.Proofs.C05.v2_total
#print axioms Bmc.Proofs.C05.v2_safe
#print axioms Bmc.Proofs.C05.aes_total
#print axioms Bmc.Proofs.C05.aes_safe
#print axioms Bmc.Proofs.C05.rmcp_safe
#print axioms Bmc.Proofs.C05.decodeChain_total
#print axioms Bmc.Proofs.C05.call_total
#print axioms Bmc.Proofs.C05.authCaps_total
#print axioms Bmc.Proofs.C05.cipherSuites_total
#print axioms Bmc.Proofs.C05.setPriv_total
#print axioms Bmc.Proofs.C05.guid_total
#print axioms Bmc.Proofs.C05.sessionInfo_total
#print axioms Bmc.Proofs.C05.sdrRepoInfo_total
#print axioms Bmc.Proofs.C05.reserveSDR_total
#print axioms Bmc.Proofs.C05.getSDR_total
#print axioms Bmc.Proofs.C05.sdrHeader_total
#print axioms Bmc.Proofs.C05.sensorReading_total
#print axioms Bmc.Proofs.C05.idString_total
#print axioms Bmc.Proofs.C05.idString_safe
#print axioms Bmc.Proofs.C05.fullSensor_total
#print axioms Bmc.Proofs.C05.fullSensor_safe
#print axioms Bmc.Proofs.C05.openSessionRsp_total
#print axioms Bmc.Proofs.C05.openSessionRsp_safe
#print axioms Bmc.Proofs.C05.rakp1_total
#print axioms Bmc.Proofs.C05.rakp1_safe
#print axioms Bmc.Proofs.C05.rakp2_total
#print axioms Bmc.Proofs.C05.rakp2_safe
#print axioms Bmc.Proofs.C05.rakp4_total
#print axioms Bmc.Proofs.C05.rakp4_safe
#print axioms Bmc.Proofs.C05.selector_total
#print axioms Bmc.Proofs.C05.selector_safe
#print axioms Bmc.Proofs.C05.v1_total
#print axioms Bmc.Proofs.C05.v1_safe
#print axioms Bmc.Proofs.C05.dcmiCap1_total
#print axioms Bmc.Proofs.C05.dcmiCap1_safe
#print axioms Bmc.Proofs.C05.dcmiCap2_total
#print axioms Bmc.Proofs.C05.dcmiCap2_safe
#print axioms Bmc.Proofs.C05.dcmiCap3_total
#print axioms Bmc.Proofs.C05.dcmiCap3_safe
#print axioms Bmc.Proofs.C05.dcmiCap4_total
#print axioms Bmc.Proofs.C05.dcmiCap4_safe
#print axioms Bmc.Proofs.C05.dcmiCap5_total
#print axioms Bmc.Proofs.C05.dcmiCap5_safe
#print axioms Bmc.Proofs.C05.powerReading_total
#print axioms Bmc.Proofs.C05.powerReading_safe
#print axioms Bmc.Proofs.C05.sensorInfo_total
#print axioms Bmc.Proofs.C05.sensorInfo_safe
#print axioms Bmc.Proofs.C05.slChain_total
#print axioms Bmc.Proofs.C05.sessionless_call_total
#print axioms Bmc.Proofs.C05.hsOpenSessionRsp_safe
#print axioms Bmc.Proofs.C05.hsRakp4_safe
#print axioms Bmc.Proofs.C05.payloadReply_total
#print axioms Bmc.Proofs.C05.exchange_total
#print axioms Bmc.Proofs.C05.exchangePayload_total
#print axioms Bmc.Proofs.C05.decoded_total
#print axioms Bmc.Proofs.C05.handshake_total
#print axioms Bmc.Proofs.GenDec.translated_ok
#print axioms Bmc.Proofs.GenDec.ReserveSDRRepositoryRsp_gen_eq
#print axioms Bmc.Proofs.GenDec.GetSystemGUIDRsp_gen_eq
#print axioms Bmc.Proofs.GenDec.SetSessionPrivilegeLevelRsp_gen_eq
#print axioms Bmc.Proofs.GenDec.GetSDRRsp_gen_eq
#print axioms Bmc.Proofs.GenDec.SDR_gen_eq
#print axioms Bmc.Proofs.GenDec.GetSensorReadingRsp_gen_eq
#print axioms Bmc.Proofs.GenDec.GetChannelCipherSuitesRsp_gen_eq
#print axioms Bmc.Proofs.GenDec.GetChannelAuthenticationCapabilitiesRsp_gen_eq
#print axioms Bmc.Proofs.GenDec.GetSDRRepositoryInfoRsp_gen_eq
#print axioms Bmc.Proofs.GenDec.GetPowerReadingRsp_gen_eq
#print axioms Bmc.Proofs.GenDec.GetChassisStatusRsp_gen_eq
#print axioms Bmc.Proofs.GenDec.GetDeviceIDRsp_gen_eq
#print axioms Bmc.Proofs.GenDec.RAKPMessage4_gen_eq
#print axioms Bmc.Proofs.GenDec.RAKPMessage2_gen_eq
#print axioms Bmc.Proofs.GenDec.RAKPMessage1_gen_eq
#print axioms Bmc.Proofs.GenDec.V1Session_gen_eq
#print axioms Bmc.Proofs.GenDec.GetSessionInfoRsp_gen_eq
#print axioms Bmc.Proofs.GenDec.OpenSessionRsp_gen_eq
#print axioms Bmc.Proofs.GenDec.GetDCMICapabilitiesInfoManageabilityAccessAttrsRsp_gen_eq
#print axioms Bmc.Proofs.GenDec.GetDCMICapabilitiesInfoOptionalPlatformAttrsRsp_gen_eq
#print axioms Bmc.Proofs.GenDec.GetDCMICapabilitiesInfoSupportedCapabilitiesRsp_gen_eq
#print axioms Bmc.Proofs.GenDec.GetDCMICapabilitiesInfoMandatoryPlatformAttrsRsp_gen_eq
#print axioms Bmc.Proofs.GenDec.SessionSelector_gen_eq
#print axioms Bmc.Proofs.GenDec.Message_gen_eq
#print axioms Bmc.Proofs.GenDec.GetDCMICapabilitiesInfoEnhancedSystemPowerStatisticsAttrsRsp_gen_eq
#print axioms Bmc.Proofs.GenDec.GetDCMISensorInfoRsp_gen_eq
#print axioms Bmc.Proofs.GenDec.FullSensorRecord_gen_eq
#print axioms Bmc.Proofs.GenDec.V2Session_gen_eq
#print axioms Bmc.Proofs.GenDec.AES128CBC_gen_eq
#print axioms Bmc.Proofs.EndToEnd.bad_of_map_eq
#print axioms Bmc.Proofs.EndToEnd.safe_of_map_eq_lift
#print axioms Bmc.Proofs.EndToEnd.generated_GetDeviceIDRsp_safe
#print axioms Bmc.Proofs.EndToEnd.generated_GetChassisStatusRsp_safe
#print axioms Bmc.Proofs.EndToEnd.generated_GetChannelAuthenticationCapabilitiesRsp_safe
#print axioms Bmc.Proofs.EndToEnd.generated_GetChannelCipherSuitesRsp_safe
#print axioms Bmc.Proofs.EndToEnd.generated_SetSessionPrivilegeLevelRsp_safe
#print axioms Bmc.Proofs.EndToEnd.generated_GetSystemGUIDRsp_safe
#print axioms Bmc.Proofs.EndToEnd.generated_GetSessionInfoRsp_safe
#print axioms Bmc.Proofs.EndToEnd.generated_GetSDRRepositoryInfoRsp_safe
#print axioms Bmc.Proofs.EndToEnd.generated_ReserveSDRRepositoryRsp_safe
#print axioms Bmc.Proofs.EndToEnd.generated_GetSDRRsp_safe
#print axioms Bmc.Proofs.EndToEnd.generated_SDR_safe
#print axioms Bmc.Proofs.EndToEnd.generated_GetSensorReadingRsp_safe
#print axioms Bmc.Proofs.EndToEnd.generated_FullSensorRecord_safe
#print axioms Bmc.Proofs.EndToEnd.generated_GetPowerReadingRsp_safe
#print axioms Bmc.Proofs.EndToEnd.generated_GetDCMICapabilitiesInfoSupportedCapabilitiesRsp_safe
#print axioms Bmc.Proofs.EndToEnd.generated_GetDCMICapabilitiesInfoMandatoryPlatformAttrsRsp_safe
#print axioms Bmc.Proofs.EndToEnd.generated_GetDCMICapabilitiesInfoOptionalPlatformAttrsRsp_safe
#print axioms Bmc.Proofs.EndToEnd.generated_GetDCMICapabilitiesInfoManageabilityAccessAttrsRsp_safe
#print axioms Bmc.Proofs.EndToEnd.generated_OpenSessionRsp_safe
#print axioms Bmc.Proofs.EndToEnd.generated_RAKPMessage1_safe
#print axioms Bmc.Proofs.EndToEnd.generated_RAKPMessage2_safe
#print axioms Bmc.Proofs.EndToEnd.generated_RAKPMessage4_safe
#print axioms Bmc.Proofs.EndToEnd.generated_SessionSelector_safe
#print axioms Bmc.Proofs.EndToEnd.generated_V1Session_safe
#print axioms Bmc.Proofs.EndToEnd.generated_Message_safe
#print axioms Bmc.Proofs.EndToEnd.generated_Cap5_safe
#print axioms Bmc.Proofs.EndToEnd.generated_GetDCMISensorInfoRsp_safe
#print axioms Bmc.Proofs.EndToEnd.generated_AES128CBC_safe
#print axioms Bmc.Proofs.EndToEnd.generated_V2Session_safe
#print axioms Bmc.Proofs.EndToEnd.generated_parseCipherSuiteRecordData_safe
#print axioms Bmc.Proofs.C13.transport_source
#print axioms Bmc.Proofs.SourcePins.pinned_sources
#print axioms Bmc.Proofs.EndToEnd.modelResults_no_panic
#print axioms Bmc.Proofs.EndToEnd.generated_history_never_panics
