import Bmc.Proofs.C16
import Bmc.Proofs.GenDec.CipherSuiteRecords
import Bmc.Proofs.GenOrch.GetEntityInstances
import Bmc.Proofs.GenOrch.GetSensorMap
import Bmc.Proofs.GenOrch.CountRecordIDs
import Bmc.Proofs.GenOrch.GetSensorInfo
import Bmc.Proofs.GenOrch.RetrieveSupportedCipherSuites
import Bmc.Proofs.EndToEnd.EnumC16
#print axioms Bmc.Proofs.C16.parse_encode
#print axioms Bmc.Proofs.C16.parse_total
#print axioms Bmc.Proofs.C16.parse_sound
#print axioms Bmc.Proofs.C16.parse_malformed
#print axioms Bmc.Proofs.C16.parse_fuel
#print axioms Bmc.Proofs.C16.parse_malformed_start
#print axioms Bmc.Proofs.C16.parse_malformed_stray
#print axioms Bmc.Proofs.C16.parse_malformed_truncated
#print axioms Bmc.Proofs.C16.chunks_fuel
#print axioms Bmc.Proofs.C16.chunks_reassemble
#print axioms Bmc.Proofs.C16.chunks_reassemble_max
#print axioms Bmc.Proofs.C16.chunks_reassemble_wire
#print axioms Bmc.Proofs.C16.retrieve_complete
#print axioms Bmc.Proofs.C16.retrieve_eq_parse
#print axioms Bmc.Proofs.C16.dcmi_fuel
#print axioms Bmc.Proofs.C16.dcmi_pages
#print axioms Bmc.Proofs.C16.dcmi_requests
#print axioms Bmc.Proofs.C16.dcmi_pages_wire
#print axioms Bmc.Proofs.C16.fallback_iff
#print axioms Bmc.Proofs.C16.sensorInfo_std
#print axioms Bmc.Proofs.C16.sensorInfo_dcmi
#print axioms Bmc.Proofs.C16.sensorInfo_err
#print axioms Bmc.Proofs.GenDec.parseCipherSuiteRecordData_gen_eq
#print axioms Bmc.Proofs.GenDec.parseCipherSuiteRecordData_fuel
#print axioms Bmc.Proofs.GenOrch.getEntityInstances_fuel_any
#print axioms Bmc.Proofs.GenOrch.getEntityInstances_gen_eq
#print axioms Bmc.Proofs.GenOrch.getEntityInstances_fuel
#print axioms Bmc.Proofs.GenOrch.getSensorMap_gen_eq
#print axioms Bmc.Proofs.GenOrch.getSensorMap_fuel_any
#print axioms Bmc.Proofs.GenOrch.CountRecordIDs_gen_eq
#print axioms Bmc.Proofs.GenOrch.ipmiSensorEntityIDs_gen_eq
#print axioms Bmc.Proofs.GenOrch.dcmiSensorEntityIDs_gen_eq
#print axioms Bmc.Proofs.GenOrch.GetSensorInfo_gen_eq
#print axioms Bmc.Proofs.GenOrch.GetSensorInfo_fuel_any
#print axioms Bmc.Proofs.GenOrch.GetSensorInfo_fuel
#print axioms Bmc.Proofs.GenOrch.RetrieveSupportedCipherSuites_fuel_any
#print axioms Bmc.Proofs.GenOrch.RetrieveSupportedCipherSuites_gen_eq
#print axioms Bmc.Proofs.GenOrch.RetrieveSupportedCipherSuites_fuel
#print axioms Bmc.Proofs.EndToEnd.generated_RetrieveSupportedCipherSuites_complete
#print axioms Bmc.Proofs.EndToEnd.instLoop_congr
#print axioms Bmc.Proofs.EndToEnd.generated_getEntityInstances_pages
#print axioms Bmc.Proofs.EndToEnd.sensorMapLoop_congr
#print axioms Bmc.Proofs.EndToEnd.getSensorInfo_congr
#print axioms Bmc.Proofs.EndToEnd.generated_GetSensorInfo_std
