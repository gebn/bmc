import Bmc.Lemmas.SessionSpec
import Bmc.Lemmas.SessionlessSpec
import Bmc.Lemmas.ResponseAccepted
/-! # C11 — a result always comes from a response to the command that was sent (property theorems only) -/
namespace Bmc.Proofs.C11
open Bmc Bmc.Wire Bmc.Crypto Bmc.Proto

/-- in-session: a completion code and body are only ever returned from a reply of the script whose decoded message
    has the request's network function + 1, its command number, its group-extension body code and OEM enterprise -/
theorem session_result_matches_request (C : Ops) (c : Cmd) (hf : c.reqFails = false) (s : Sess)
    (hs : s.inbound < 4294967296) (ivs : List Bytes) (script : List Outcome) (hl : script.length ≤ ivs.length)
    (cc : UInt8) (p : Bytes) (h : (sendLoop C c s ivs script).2.2 = .ok cc p) :
    ∃ d v2 msg, Outcome.reply d ∈ script ∧
      view (onReply C s.keys.sess (GoSlice.ofBytes d)) = (.message, some (v2, msg)) ∧
      msg.function = c.fn + 1 ∧ msg.command = c.cmd ∧ msg.body = c.body ∧ msg.enterprise = c.ent ∧
      msg.completionCode = cc ∧ msg.payload = p := by
  obtain ⟨d, v2, msg, hm, hv, hacc, -, hcc, hp⟩ := sendLoop_ok_inv C c hf s hs ivs script hl cc p h
  obtain ⟨-, -, hfields⟩ := accept_iff.mp hacc
  exact ⟨d, v2, msg, hm, hv, hfields.1, hfields.2.1, hfields.2.2.1, hfields.2.2.2, hcc, hp⟩

/-- a stray reply (to another command) is a retry: it is never the result and the command keeps waiting -/
theorem stray_is_retry (C : Ops) (k : Keys) (c : Cmd) (d : Bytes) (v2 : V2Session) (msg : Message)
    (hv : view (onReply C k.sess (GoSlice.ofBytes d)) = (.message, some (v2, msg)))
    (hstray : msg.function ≠ c.fn + 1 ∨ msg.command ≠ c.cmd) : classify C k c d = .retry := by
  have : accept k c v2 msg = false := Bool.eq_false_iff.mpr fun h => by
    obtain ⟨-, -, hf, hc, -⟩ := accept_iff.mp h
    exact hstray.elim (· hf) (· hc)
  rw [classify_of_view hv, this]; rfl

/-- session-less: the same -/
theorem sessionless_result_matches_request (c : Cmd) (hf : c.reqFails = false) (script : List Outcome)
    (cc : UInt8) (p : Bytes) (h : (slSend c script).2 = .ok cc p) :
    ∃ d msg, Outcome.reply d ∈ script ∧ slView (slOnReply {} (GoSlice.ofBytes d)) = (.message, some msg) ∧
      msg.function = c.fn + 1 ∧ msg.command = c.cmd ∧ msg.body = c.body ∧ msg.enterprise = c.ent ∧
      msg.completionCode = cc ∧ msg.payload = p := by
  obtain ⟨d, msg, hm, hv, hacc, -, hcc, hp⟩ := slSend_ok_inv c script cc p h
  simp only [slAcceptable, Bool.and_eq_true, beq_iff_eq] at hacc
  exact ⟨d, msg, hm, hv, hacc.1.1.1, hacc.1.1.2, hacc.1.2, hacc.2, hcc, hp⟩

/-- a conforming response (any operation) as the script sees it -/
structure Answer where
  to : Cmd              -- the operation it answers
  cc : UInt8
  data : Bytes
  seq : Nat
  iv : Bytes

def Answer.ok (C : Ops) (k : Keys) (a : Answer) : Prop :=
  a.iv.length = 16 ∧ (responseMsg a.to a.cc).WF ∧ a.seq < 4294967296 ∧ (responseAes C k a.to a.cc a.data a.iv).length < 65536

def Answer.datagram (C : Ops) (k : Keys) (a : Answer) : Outcome := .reply (responseDatagram C k a.to a.cc a.data a.seq a.iv)

/-- NO DESYNCHRONISATION: any number of authentic responses to OTHER operations — duplicates, delayed replies to earlier
    commands, unsolicited messages, with any completion codes and bodies — delivered before the response to the command
    that is pending are each skipped (one retransmission each), and the caller receives the pending command's own
    completion code and data; none of the strays'. For every lawful crypto, key set, counter and number of strays. -/
theorem strays_are_skipped (C : Ops) (hC : C.Lawful) (c : Cmd) (hf : c.reqFails = false) (s : Sess) (hs : s.inbound < 4294967296)
    (hid : s.localID < 4294967296) (strays : List Answer) (own : Answer) (rest : List Outcome) (ivs : List Bytes)
    (hstr : ∀ a ∈ strays, a.ok C s.keys ∧ sameOperation c a.to = false)
    (hown : own.ok C s.keys) (hto : own.to = c) (hnt : isTemp own.cc = false)
    (hl : strays.length + 1 + rest.length ≤ ivs.length) :
    (sendLoop C c s ivs (strays.map (Answer.datagram C s.keys) ++ own.datagram C s.keys :: rest)).2 =
      ((List.range (strays.length + 1)).map (fun i => datagramOf C s.keys c ((s.inbound + i) % 4294967296) (ivs.getD i [])),
       .ok own.cc own.data) := by
  subst hto
  obtain ⟨h1, h2, h3, h4⟩ := hown
  have hstrays : ∀ o ∈ strays.map (Answer.datagram C s.keys), ∃ d, o = .reply d ∧ classify C s.keys own.to d = .retry := by
    intro o ho
    obtain ⟨a, ha, rfl⟩ := List.mem_map.mp ho
    obtain ⟨⟨h1, h2, h3, h4⟩, hne⟩ := hstr a ha
    exact ⟨_, rfl, classify_stray C hC s.keys own.to a.to hne a.cc a.data a.seq a.iv h1 h2 hid h3 h4⟩
  have hfinal := classify_response C hC s.keys own.to own.cc own.data own.seq own.iv h1 h2 hid h3 h4
  rw [hnt] at hfinal
  exact (sendLoop_retries_then_final C own.to hf s hs ivs _ hstrays _ _ _ hfinal rest (by simpa using hl)).trans
    (by rw [List.length_map]; rfl)

end Bmc.Proofs.C11
