import Bmc.Lemmas.GenKeys
/-! `calculateRAKPMessage2AuthCode`: the bytes the function re-translated from the Go source on every run writes into its hash are
    the message of the model's `rakp2Code` (see `Proofs/GenKeys/SIK.lean` for the conventions). -/
namespace Bmc.Proofs.GenKeys
open Bmc Bmc.Wire Bmc.Crypto Bmc.Proto Bmc.Gen.Keys Bmc.Lemmas.GenKeys

/-- pins `Proto.rakp2Code`: the RAKP 2 code the model expects is the keyed hash, under the password, of exactly the bytes
    `calculateRAKPMessage2AuthCode` writes: SID_M ‖ SID_C ‖ R_M ‖ R_C ‖ GUID_C ‖ Role_M ‖ ULength_M ‖ UName_M (the 4-byte
    buffer is written, hashed, overwritten and hashed again) -/
theorem calculateRAKPMessage2AuthCode_input_eq (C : Ops) (h : HashAlg) (o : Opts) (rm : Bytes) (osr : OpenSessionRsp) (rk2 : RAKP2)
    (g1 : RAKPMessage1) (g2 : RAKPMessage2) (h1 : Rakp1Is g1 o rm osr) (h2 : Rakp2Is g2 rk2) :
    rakp2Code C h o rm osr rk2 = C.hmac h o.pass (calculateRAKPMessage2AuthCode_input g1 g2) := by
  simp only [rakp2Code, calculateRAKPMessage2AuthCode_input, h1.remoteConsoleRandom, h1.privilegeLevelLookup,
    h1.maxPrivilegeLevel, h1.username, h2.managedSystemRandom, h2.managedSystemGUID, role_eq, List.nil_append,
    List.append_assoc, List.cons_append, putUint32LE_eq _ _ (List.length_replicate ..), putUint32LE_eq _ _ (putLE32_length _),
    h1.managedSystemSessionID, h2.remoteConsoleSessionID]

example (C : Ops) (h : HashAlg) (o : Opts) (rm : Bytes) (osr : OpenSessionRsp) (rk2 : RAKP2)
    (hs : osr.bmcSessionID < 4294967296) (hc : rk2.consoleSessionID < 4294967296) :
    rakp2Code C h o rm osr rk2 = C.hmac h o.pass (calculateRAKPMessage2AuthCode_input (rakp1Of o rm osr) (rakp2Of rk2)) :=
  calculateRAKPMessage2AuthCode_input_eq C h o rm osr rk2 _ _ (rakp1Of_is o rm osr hs) (rakp2Of_is rk2 hc)

end Bmc.Proofs.GenKeys
