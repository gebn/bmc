import Bmc.Lemmas.GenKeys
/-! `algorithmCipher` (confidentiality.go), re-translated from the Go source on every run: the AES-128 key is the first 16 bytes of
    `g.K(2)` — as the session model takes it (`Proofs/C01.lean: k2 := k2.take 16`; `Proto/Session.lean: Sess.k2`) — and
    every confidentiality algorithm but AES-CBC-128 is refused, as in `Proto.stepRakp4`
    (see `Proofs/GenKeys/SIK.lean` for the conventions). -/
namespace Bmc.Proofs.GenKeys
open Bmc Bmc.Wire Bmc.Crypto Bmc.Proto Bmc.Gen.Keys Bmc.Lemmas.GenKeys

/-- over ALL 256 values of the algorithm byte: an error except for 1; there `ipmi.NewAES128CBC` receives the `[16]byte`
    that `copy(key[:], g.K(2))` leaves -/
theorem algorithmCipher_key (a : UInt8) (K : Int → Bytes) :
    algorithmCipher_k2 a K = if a = 1 then some (GoKeys.copyArr 16 (List.replicate 16 0) (K 2)) else none := by
  rw [cipher_table]; by_cases h : a = 1 <;> simp [h]

/-- … which is the first 16 bytes of K2 whenever K2 has them (every HMAC the library supports is at least 16 bytes long) -/
theorem algorithmCipher_key_is_take16 (K : Int → Bytes) (h : 16 ≤ (K 2).length) :
    algorithmCipher_k2 1 K = some ((K 2).take 16) := by
  rw [algorithmCipher_key, if_pos rfl, copyArr_full _ _ _ h]

end Bmc.Proofs.GenKeys
