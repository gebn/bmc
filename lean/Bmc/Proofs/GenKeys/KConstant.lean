import Bmc.Lemmas.GenKeys
import Bmc.Lemmas.HandshakeInv
/-! `additionalKeyMaterialGenerator.K`: the constant the method re-translated from the Go source on every run builds (and writes
    into its hash through `executeHash`) is the byte `n` twenty times — the message of the model's K1 / K2
    (`Proto.stepRakp4`) and of the specification's `Spec.k` (see `Proofs/GenKeys/SIK.lean` for the conventions). -/
namespace Bmc.Proofs.GenKeys
open Bmc Bmc.Wire Bmc.Crypto Bmc.Proto Bmc.Gen.Keys Bmc.Lemmas.GenKeys

/-- the loop `for i := 0; i < kConstantLength; i++ { constant[i] = uint8(n) }` over `make([]byte, kConstantLength)`:
    20 bytes, each `n` modulo 256, for EVERY int `n` -/
theorem K_constant_eq (n : Int) : K_constant n = List.replicate 20 (UInt8.ofNat (n % 256).toNat) := by
  simp only [K_constant]
  rw [fill _ 20 _ (by simp)]
  simp

/-- `executeHash(g.hash, constant)` writes exactly that constant -/
theorem K_input_eq (n : Int) : K_input n = List.replicate 20 (UInt8.ofNat (n % 256).toNat) := by
  simp only [K_input, executeHash_input, K_constant_eq, List.nil_append]

/-- pins the K1 / K2 of `Proto.stepRakp4` (hence of every session `Proto.newSession` returns): they are the keyed hash,
    under the SIK and the authentication algorithm's hash, of what `K(1)` / `K(2)` write — `algorithmHasher` asks for
    `g.K(1)`, `algorithmCipher` for `g.K(2)` (`Proofs/GenKeys/Integrity.lean`, `Cipher.lean`) -/
theorem session_k1_k2 (C : Ops) (o : Opts) (rm : Bytes) (script : List Outcome) (l r : Nat) (a i c : UInt8)
    (sik k1 k2 : Bytes) (h : (newSession C o rm script).2 = .ok l r a i c sik k1 k2) :
    ∃ hh, authHash a = some hh ∧ k1 = C.hmac hh sik (K_input 1) ∧ k2 = C.hmac hh sik (K_input 2) := by
  obtain ⟨osr, _, hh, _, _, _, _, _, _, _, _, _, A⟩ := newSession_ok h
  injection A.res with _ _ e3 _ _ e6 e7 e8
  subst e3 e6 e7 e8
  exact ⟨hh, A.hash, by rw [K_input_eq]; rfl, by rw [K_input_eq]; rfl⟩

/-- pins `Spec.k` (§13.32): the specification's K_n is the keyed hash of what `K(n)` writes, for every octet `n` -/
theorem spec_k_is_K_input (C : Ops) (h : HashAlg) (sik : Bytes) (n : UInt8) :
    Spec.k C h sik n = C.hmac h sik (K_input n.toNat) := by
  rw [K_input_eq, Spec.k]
  congr 2
  apply UInt8.toNat_inj.mp
  have := UInt8.toNat_lt n
  simp
  omega

end Bmc.Proofs.GenKeys
