import Bmc.Lemmas.GenKeys
/-! `calculateRAKPMessage3AuthCode`: the bytes the function re-translated from the Go source on every run writes into its hash are
    the message of the model's `rakp3Code` (see `Proofs/GenKeys/SIK.lean` for the conventions). -/
namespace Bmc.Proofs.GenKeys
open Bmc Bmc.Wire Bmc.Crypto Bmc.Proto Bmc.Gen.Keys Bmc.Lemmas.GenKeys

/-- pins `Proto.rakp3Code`: the RAKP 3 code the model transmits is the keyed hash, under the password, of exactly the bytes
    `calculateRAKPMessage3AuthCode` writes: R_C ‖ SID_M ‖ Role_M ‖ ULength_M ‖ UName_M -/
theorem calculateRAKPMessage3AuthCode_input_eq (C : Ops) (h : HashAlg) (o : Opts) (rm : Bytes) (osr : OpenSessionRsp) (rk2 : RAKP2)
    (g1 : RAKPMessage1) (g2 : RAKPMessage2) (h1 : Rakp1Is g1 o rm osr) (h2 : Rakp2Is g2 rk2) :
    rakp3Code C h o rk2 = C.hmac h o.pass (calculateRAKPMessage3AuthCode_input g1 g2) := by
  simp only [rakp3Code, calculateRAKPMessage3AuthCode_input, h1.privilegeLevelLookup,
    h1.maxPrivilegeLevel, h1.username, h2.managedSystemRandom, role_eq, List.nil_append,
    List.append_assoc, List.cons_append, putUint32LE_eq _ _ (List.length_replicate ..), h2.remoteConsoleSessionID]

example (C : Ops) (h : HashAlg) (o : Opts) (rm : Bytes) (osr : OpenSessionRsp) (rk2 : RAKP2)
    (hs : osr.bmcSessionID < 4294967296) (hc : rk2.consoleSessionID < 4294967296) :
    rakp3Code C h o rk2 = C.hmac h o.pass (calculateRAKPMessage3AuthCode_input (rakp1Of o rm osr) (rakp2Of rk2)) :=
  calculateRAKPMessage3AuthCode_input_eq C h o rm osr rk2 _ _ (rakp1Of_is o rm osr hs) (rakp2Of_is rk2 hc)

end Bmc.Proofs.GenKeys
