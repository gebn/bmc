import Bmc.Gen.Keys
/-! Every function `Proofs/GenKeys/*` is about is among those `tools/keygen` translated on this run, and the hash each function of
    the Write…Sum(nil)/Reset shape is handed is the one the model assumes (see `Proofs/GenKeys/SIK.lean` for the conventions). -/
namespace Bmc.Proofs.GenKeys
open Bmc Bmc.Gen.Keys

/-- a function the translator no longer manages is a broken obligation -/
theorem translated_ok : ∀ n ∈ [
    "bmc.executeHash", "bmc.calculateSIK", "bmc.calculateRAKPMessage2AuthCode", "bmc.calculateRAKPMessage3AuthCode",
    "bmc.calculateRAKPMessage4ICV", "bmc.additionalKeyMaterialGenerator.K", "bmc.truncatedHash.Sum", "bmc.truncatedHash.Size",
    "bmc.authenticationAlgorithmParams.AuthCode", "bmc.authenticationAlgorithmParams.SIK",
    "bmc.authenticationAlgorithmParams.K", "bmc.authenticationAlgorithmParams.ICV",
    "bmc.algorithmAuthenticationHashGenerator", "bmc.algorithmHasher", "bmc.algorithmCipher",
    "bmc.newV2Session: rakpMessage1", "bmc: callers pass a reset hash"],
    n ∈ Bmc.Gen.Keys.translated := by decide +kernel

/-- CHECKED ON THE SOURCE by the translator (every non-test function of package bmc): each hash handed to a translated function
    arrives in the reset state, and it is the one the model's formulas assume — the RAKP 2 and RAKP 3 codes under
    `.AuthCode(opts.Password)` (`rakp2Code`, `rakp3Code`: key `o.pass`), the SIK under `.SIK(effectiveBMCKey)` (`sikOf`),
    the RAKP 4 value under `.ICV(sik)` (`icvOf`: truncated), K_n under `.K(sik)` (untruncated) -/
theorem hashOf_ok : Bmc.Gen.Keys.hashOf = [
    "calculateRAKPMessage2AuthCode ← AuthCode(opts.Password)",
    "calculateRAKPMessage3AuthCode ← AuthCode(opts.Password)",
    "calculateRAKPMessage4ICV ← ICV(sik)",
    "calculateSIK ← SIK(effectiveBMCKey)",
    "executeHash ← additionalKeyMaterialGenerator.hash ← K(sik)"] := rfl

end Bmc.Proofs.GenKeys
