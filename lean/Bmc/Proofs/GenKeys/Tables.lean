import Bmc.Lemmas.GenKeys
/-! `algorithmAuthenticationHashGenerator` and the constructors of `authenticationAlgorithmParams`, re-translated from the Go
    source on every run: which hash and which RAKP 4 truncation per authentication algorithm — the model's `authHash` and
    `icvLen`, over ALL 256 values of the algorithm byte (see `Proofs/GenKeys/SIK.lean` for the conventions). -/
namespace Bmc.Proofs.GenKeys
open Bmc Bmc.Wire Bmc.Crypto Bmc.Proto Bmc.Gen.Keys Bmc.Lemmas.GenKeys

/-- pins `Proto.authHash`: the table succeeds exactly on the algorithms the model knows, with the model's hash
    (`crypto/sha1.New` ↦ SHA-1, …: `Lemmas/GenKeys.lean: hashAlg`) -/
theorem authHash_is_table (a : UInt8) :
    (algorithmAuthenticationHashGenerator a).map (fun p => hashAlg p.hashGen) = authHash a := by
  unfold algorithmAuthenticationHashGenerator authHash
  by_cases h1 : a = 1
  · subst h1; rfl
  by_cases h3 : a = 3
  · subst h3; rfl
  by_cases h2 : a = 2
  · subst h2; rfl
  simp [h1, h2, h3]

/-- pins `Proto.icvLen`: the table's `icvLength` (0 = not truncated; also 0 where the table fails) -/
theorem icvLen_is_table (a : UInt8) :
    (match algorithmAuthenticationHashGenerator a with | some p => p.icvLength | none => 0) = (icvLen a : Int) := by
  unfold algorithmAuthenticationHashGenerator icvLen
  by_cases h1 : a = 1
  · subst h1; rfl
  by_cases h3 : a = 3
  · subst h3; rfl
  by_cases h2 : a = 2
  · subst h2; rfl
  simp [h1, h2, h3]

/-- the hashes `newV2Session` hands to `calculateRAKPMessage2AuthCode` / `…3AuthCode` (`.AuthCode(password)`), `calculateSIK`
    (`.SIK(key)`) and `executeHash` in `K(n)` (`.K(sik)`) — the pairing is `Gen.Keys.hashOf`, checked on the source — compute
    the model's `C.hmac` with the model's hash under the key given, untruncated, for every message -/
theorem constructors_are_hmac (C : Ops) (a : UInt8) (h : HashAlg) (ha : authHash a = some h) (key m : Bytes) :
    ∃ p, algorithmAuthenticationHashGenerator a = some p ∧
      mac C (authenticationAlgorithmParams_AuthCode p key) m = some (C.hmac h key m) ∧
      mac C (authenticationAlgorithmParams_SIK p key) m = some (C.hmac h key m) ∧
      mac C (authenticationAlgorithmParams_K p key) m = some (C.hmac h key m) := by
  rcases authHash_some ha with ⟨rfl, rfl⟩ | ⟨rfl, rfl⟩ | ⟨rfl, rfl⟩ <;> exact ⟨_, rfl, rfl, rfl, rfl⟩

/-- no caller of `Size()` is modelled (the library has none outside tests): this only breaks should the method's translation change -/
theorem truncatedHash_Size_eq (n : Int) : truncatedHash_Size n = n := rfl

end Bmc.Proofs.GenKeys
