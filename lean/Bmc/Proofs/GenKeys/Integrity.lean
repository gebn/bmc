import Bmc.Lemmas.GenKeys
/-! `algorithmHasher` (hasher.go), re-translated from the Go source on every run: which hash, which key and which truncation per
    integrity algorithm — the session model's `integMac` (`Proto/Session.lean`), over ALL 256 values of the algorithm byte
    (see `Proofs/GenKeys/SIK.lean` for the conventions). -/
namespace Bmc.Proofs.GenKeys
open Bmc Bmc.Wire Bmc.Crypto Bmc.Proto Bmc.Gen.Keys Bmc.Lemmas.GenKeys

/-- pins `Proto.integMac` (the AuthCode of every in-session packet) and the refusal in `Proto.stepRakp4`: `algorithmHasher`
    fails exactly outside {1, 2, 4} (None included); otherwise `Sum(nil)` of the hash it builds, after `m` was written, is
    `integMac` under the key `g.K(1)`: HMAC-SHA1 cut to 12 bytes, HMAC-MD5 whole, HMAC-SHA256 cut to 16.
    `hlen`: the HMAC has the digest's length (so that `sum[:length]` stays inside it). -/
theorem algorithmHasher_is_integMac (C : Ops) (hlen : ∀ a k m, (C.hmac a k m).length = a.size) (i : UInt8)
    (K : Int → Bytes) (m : Bytes) :
    (match algorithmHasher i K with | some hv => mac C hv m | none => none)
      = if i = 1 ∨ i = 2 ∨ i = 4 then some (integMac C i.toNat (K 1) m) else none := by
  unfold algorithmHasher
  by_cases h0 : i = 0
  · subst h0; rfl
  by_cases h1 : i = 1
  · subst h1; exact truncatedHash_Sum_nil _ 12 (by rw [hlen]; decide)
  by_cases h2 : i = 2
  · subst h2; rfl
  by_cases h4 : i = 4
  · subst h4; exact truncatedHash_Sum_nil _ 16 (by rw [hlen]; decide)
  simp [h0, h1, h2, h4]

end Bmc.Proofs.GenKeys
