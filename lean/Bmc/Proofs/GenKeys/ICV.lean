import Bmc.Lemmas.GenKeys
/-! `calculateRAKPMessage4ICV`: the bytes the function re-translated from the Go source on every run writes into its hash are
    the message of the model's `icvOf`, and the hash `newV2Session` hands it (`hashGenerator.ICV(sik)`, regenerated too)
    truncates as the model does (see `Proofs/GenKeys/SIK.lean` for the conventions). -/
namespace Bmc.Proofs.GenKeys
open Bmc Bmc.Wire Bmc.Crypto Bmc.Proto Bmc.Gen.Keys Bmc.Lemmas.GenKeys

/-- pins `Proto.icvOf`: the RAKP 4 integrity check value the model expects is the keyed hash, under the SIK, of exactly the
    bytes `calculateRAKPMessage4ICV` writes — R_M ‖ SID_C ‖ GUID_C — truncated to `icvLen` bytes -/
theorem calculateRAKPMessage4ICV_input_eq (C : Ops) (h : HashAlg) (a : UInt8) (sik : Bytes) (o : Opts) (rm : Bytes)
    (osr : OpenSessionRsp) (rk2 : RAKP2) (g1 : RAKPMessage1) (g2 : RAKPMessage2) (h1 : Rakp1Is g1 o rm osr) (h2 : Rakp2Is g2 rk2) :
    icvOf C h a sik rm osr rk2 =
      (let full := C.hmac h sik (calculateRAKPMessage4ICV_input g1 g2)
       if icvLen a == 0 then full else full.take (icvLen a)) := by
  simp only [icvOf, calculateRAKPMessage4ICV_input, h1.remoteConsoleRandom, h2.managedSystemGUID,
    List.nil_append, List.append_assoc, putUint32LE_eq _ _ (List.length_replicate ..), h1.managedSystemSessionID]

/-- the same through the REGENERATED constructors: for an authentication algorithm the model knows (`authHash a = some h`)
    `algorithmAuthenticationHashGenerator a` succeeds, and `Sum(nil)` of the hash `.ICV(sik)` builds (an HMAC, inside a
    `truncatedHash` unless `icvLength` is 0), after `calculateRAKPMessage4ICV` wrote into it, is the model's `icvOf`.
    `hlen`: the HMAC has the digest's length (so that `sum[:icvLength]` stays inside it). -/
theorem calculateRAKPMessage4ICV_mac (C : Ops) (h : HashAlg) (a : UInt8) (ha : authHash a = some h)
    (hlen : ∀ k m, (C.hmac h k m).length = h.size) (sik : Bytes) (o : Opts) (rm : Bytes)
    (osr : OpenSessionRsp) (rk2 : RAKP2) (g1 : RAKPMessage1) (g2 : RAKPMessage2) (h1 : Rakp1Is g1 o rm osr) (h2 : Rakp2Is g2 rk2) :
    ∃ p, algorithmAuthenticationHashGenerator a = some p ∧
      mac C (authenticationAlgorithmParams_ICV p sik) (calculateRAKPMessage4ICV_input g1 g2) = some (icvOf C h a sik rm osr rk2) := by
  rw [calculateRAKPMessage4ICV_input_eq C h a sik o rm osr rk2 g1 g2 h1 h2]
  generalize calculateRAKPMessage4ICV_input g1 g2 = m
  rcases authHash_some ha with ⟨rfl, rfl⟩ | ⟨rfl, rfl⟩ | ⟨rfl, rfl⟩
  · exact ⟨_, rfl, truncatedHash_Sum_nil _ 12 (by show 12 ≤ (C.hmac .sha1 sik m).length; rw [hlen]; decide)⟩
  · exact ⟨_, rfl, rfl⟩
  · exact ⟨_, rfl, truncatedHash_Sum_nil _ 16 (by show 16 ≤ (C.hmac .sha256 sik m).length; rw [hlen]; decide)⟩

example (C : Ops) (h : HashAlg) (a : UInt8) (sik : Bytes) (o : Opts) (rm : Bytes) (osr : OpenSessionRsp) (rk2 : RAKP2)
    (hs : osr.bmcSessionID < 4294967296) (hc : rk2.consoleSessionID < 4294967296) :
    icvOf C h a sik rm osr rk2 =
      (let full := C.hmac h sik (calculateRAKPMessage4ICV_input (rakp1Of o rm osr) (rakp2Of rk2))
       if icvLen a == 0 then full else full.take (icvLen a)) :=
  calculateRAKPMessage4ICV_input_eq C h a sik o rm osr rk2 _ _ (rakp1Of_is o rm osr hs) (rakp2Of_is rk2 hc)

end Bmc.Proofs.GenKeys
