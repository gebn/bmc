import Bmc.Proofs.C02
import Bmc.Proofs.C12
import Bmc.Proofs.C03
import Bmc.Lemmas.HandshakeLive
import Bmc.Lemmas.ResponseAccepted
import Bmc.Lemmas.BmcSessionLive
import Bmc.Lemmas.HandshakeLoss
import Bmc.Lemmas.TruncatedReply
import Bmc.Crypto.Toy
/-! # C01 — session establishment agrees on keys with every conforming BMC

Proved here:
* LIVENESS (`handshake_succeeds`, `transmits_spec_datagrams`, `keys_agree`): against the specification's BMC
  (`Spec/Bmc.lean`: the three replies of §13.18/13.21/13.23 as datagrams, written from Appendix H, and the BMC's own
  key derivation from the fields it RECEIVED) holding the same password and K_G, for EVERY supported suite, user name
  of at most 16 bytes, privilege nibble, lookup mode, password, K_G, console random, BMC session ID / random / GUID /
  reported privilege and EVERY hash function (no crypto law is used: both sides apply the same function; its outputs
  merely have to fit a datagram), `newSession` transmits exactly three datagrams — the Open Session Request, RAKP 1
  and RAKP 3 (with the specification's RAKP 3 code, the one the BMC expects) — and returns a session with console ID
  1, the BMC's ID, the proposed suite, and SIK / K1 / K2 EQUAL to the BMC's.
* SOUNDNESS (`keys_are_spec`, `session_ids`, `unsupported_refused`): whenever a session is returned — for EVERY
  credential, suite, random, GUID, session ID and reply script (lost, garbled, forged replies included) — its SIK, K1,
  K2 are the specification's functions of the exchanged values, its IDs are those of the Open Session Response. Suites
  without integrity or confidentiality are refused. A command sent under ANY key set is sealed under exactly that set's
  K1 / K2 (`commands_sealed_with_session_keys`, C03); the set a session carries is `sessionOf`.
Liveness is for the loss-free script (one conforming reply per exchange) and, in `handshake_succeeds_despite_loss`, for any
number of lost or undecodable replies before each of the three; what is retransmitted is C10's subject. -/
namespace Bmc.Proofs.C01
open Bmc Bmc.Wire Bmc.Crypto Bmc.Proto

/-- key agreement: SIK, K1 and K2 of a returned session are the specification's (§13.31, §13.32), under the caller's password /
    KG and the proposed authentication algorithm's hash, for the values exchanged with SOME Open Session Response and RAKP 2
    (the statement does not tie them to the script; `Proto.newSession_ok` does) -/
theorem keys_are_spec (C : Ops) (o : Opts) (rm : Bytes) (script : List Outcome) (l r : Nat) (a i c : UInt8)
    (sik k1 k2 : Bytes) (h : (newSession C o rm script).2 = .ok l r a i c sik k1 k2) :
    ∃ (osr : OpenSessionRsp) (rk2 : RAKP2) (hh : HashAlg), authHash o.auth = some hh ∧
      sik = Spec.sik C hh o.pass o.kg (C02.exchangeOf o rm osr rk2) ∧
      k1 = Spec.k C hh sik 1 ∧ k2 = Spec.k C hh sik 2 := by
  obtain ⟨osr, rk2, _, hh, _, _, _, ha, _, _, _, _, _, hs, _, hk1, hk2⟩ := C02.session_sound C o rm script l r a i c sik k1 k2 h
  exact ⟨osr, rk2, hh, ha, hs, hk1, hk2⟩

/-- the session's IDs are the ones the Open Session Response carried -/
theorem session_ids (C : Ops) (o : Opts) (rm : Bytes) (script : List Outcome) (l r : Nat) (a i c : UInt8)
    (sik k1 k2 : Bytes) (h : (newSession C o rm script).2 = .ok l r a i c sik k1 k2) :
    ∃ osr, stepOpen o script = .ok osr ∧ l = osr.consoleSessionID ∧ r = osr.bmcSessionID := by
  obtain ⟨osr, _, _, _, _, _, _, _, h1, _, _, _, A⟩ := newSession_ok h
  injection A.res with e1 e2
  exact ⟨osr, by rw [Lemmas.GenHs.stepOpen_eq, h1]; exact (Lemmas.GenHs.accepted_iff.1 A).1, e1, e2⟩

/-- suites with integrity None, with a confidentiality algorithm other than AES-CBC-128, or with authentication None or an
    unknown value are refused: never a session, for any BMC behaviour -/
theorem unsupported_refused (C : Ops) (o : Opts) (rm : Bytes) (script : List Outcome)
    (hbad : o.integ = 0 ∨ o.conf ≠ 1 ∨ authHash o.auth = none) (l r : Nat) (a i c : UInt8) (sik k1 k2 : Bytes) :
    (newSession C o rm script).2 ≠ .ok l r a i c sik k1 k2 := by
  intro h
  obtain ⟨ea, ei, ec, hc, hi, ha⟩ := C12.no_downgrade C o rm script l r a i c sik k1 k2 h
  rcases hbad with h0 | h0 | h0
  · subst ei; rw [h0] at hi; simp at hi
  · subst ec; exact h0 hc
  · subst ea; rcases ha with e | e | e <;> (rw [e] at h0; simp [authHash] at h0)

/-- the datagram of ANY command under ANY key set `k` is the RMCP header, a signed part, and the AuthCode: the keyed hash of the
    algorithm `k.integ` under `k.k1` (`integMac`) of exactly that part. What the signed part holds — the AES-CBC payload under
    `k.k2` — is `C03.datagram_shape`, of which this is the last clause; that `k` carries a handshake's K1 and first 16 bytes of K2
    is `sessionOf` in `session_then_commands`: neither is part of this statement. -/
theorem commands_sealed_with_session_keys (C : Ops) (k : Keys) (c : Cmd) (inb : Nat) (iv : Bytes) :
    ∃ signed, datagramOf C k c inb iv = [6, 0, 0xFF, 7] ++ signed ++ integMac C k.integ k.k1 signed :=
  ⟨_, C03.datagram_shape C k c inb iv⟩

/-- the values exchanged between a console with options `o` / random `rm` and the BMC `b`: console session ID 1 (the
    library always requests 1), the BMC's ID, both randoms, the GUID, the role byte and user name of RAKP 1 -/
def exchangeWith (o : Opts) (rm : Bytes) (b : Spec.BmcSide) : Spec.Exchange :=
  { sidm := Spec.le32 1, sidc := Spec.le32 b.sidc, rm := rm, rc := b.rc, guid := b.guid, role := roleByte o, uname := o.user }

/-- the BMC's three replies, each computed (Spec/Bmc.lean) from its own values and the fields it received
    (`received o rm` = tag 0, console session ID 1, the proposed suite, `rm`, the role byte, the user name — exactly
    the fields of the datagrams `transmits_spec_datagrams` shows are sent) -/
def honestScript (C : Ops) (h : HashAlg) (o : Opts) (rm : Bytes) (b : Spec.BmcSide) : List Outcome :=
  [.reply (b.openSessionReply (received o rm)), .reply (b.rakp2Reply C h (received o rm)), .reply (b.rakp4Reply C h (received o rm))]

/-- LIVENESS: the handshake with a conforming BMC that holds the same password and K_G succeeds, and the session
    carries console ID 1, the BMC's session ID, the proposed suite and the specification's SIK, K1, K2 for the values
    exchanged. `C` is ANY hash/cipher (lawful or not); `hfit` only says its outputs fit a datagram's 16-bit length
    (any real hash: `hfit_of_lawful`). `rm` is the 16-byte draw in the library; its length is not needed. -/
theorem handshake_succeeds (C : Ops) (o : Opts) (rm : Bytes) (b : Spec.BmcSide) (h : HashAlg)
    (hauth : authHash o.auth = some h) (hinteg : o.integ = 1 ∨ o.integ = 2 ∨ o.integ = 4) (hconf : o.conf = 1)
    (huser : o.user.length ≤ 16) (hpriv : o.priv.toNat < 16)
    (hb : b.wf) (hpass : b.kuid = o.pass) (hkg : b.kg = o.kg)
    (hfit : ∀ k m, (C.hmac h k m).length + 40 < 65536) :
    (newSession C o rm (honestScript C h o rm b)).2 =
      .ok 1 b.sidc o.auth o.integ o.conf
        (Spec.sik C h o.pass o.kg (exchangeWith o rm b))
        (Spec.k C h (Spec.sik C h o.pass o.kg (exchangeWith o rm b)) 1)
        (Spec.k C h (Spec.sik C h o.pass o.kg (exchangeWith o rm b)) 2) := by
  refine (congrArg Prod.snd (newSession_live C o rm b hb h hauth hinteg hconf huser hpriv hpass hkg hfit)).trans ?_
  simp only [Spec.BmcSide.sik, Spec.BmcSide.k1, Spec.BmcSide.k2, hpass, hkg]
  rfl

/-- KEY AGREEMENT: the keys of the returned session are the keys the BMC derives, independently, from the fields it
    received and its own values (`Spec.BmcSide.sik/k1/k2`) -/
theorem keys_agree (C : Ops) (o : Opts) (rm : Bytes) (b : Spec.BmcSide) (h : HashAlg)
    (hauth : authHash o.auth = some h) (hinteg : o.integ = 1 ∨ o.integ = 2 ∨ o.integ = 4) (hconf : o.conf = 1)
    (huser : o.user.length ≤ 16) (hpriv : o.priv.toNat < 16)
    (hb : b.wf) (hpass : b.kuid = o.pass) (hkg : b.kg = o.kg)
    (hfit : ∀ k m, (C.hmac h k m).length + 40 < 65536) :
    (newSession C o rm (honestScript C h o rm b)).2 =
      .ok 1 b.sidc o.auth o.integ o.conf (b.sik C h (received o rm)) (b.k1 C h (received o rm)) (b.k2 C h (received o rm)) :=
  congrArg Prod.snd (newSession_live C o rm b hb h hauth hinteg hconf huser hpriv hpass hkg hfit)

/-- exactly three datagrams are transmitted, and they are the specification's: Open Session Request (tag 0, the
    requested privilege, console session ID 1, the suite), RAKP 1 (the BMC's session ID, `rm`, role byte, user name)
    and RAKP 3 (status 00, the BMC's session ID, the specification's RAKP 3 code — the one the BMC expects), each in
    the null-session RMCP+ wrapper with payload types 10h, 12h, 14h -/
theorem transmits_spec_datagrams (C : Ops) (o : Opts) (rm : Bytes) (b : Spec.BmcSide) (h : HashAlg)
    (hauth : authHash o.auth = some h) (hinteg : o.integ = 1 ∨ o.integ = 2 ∨ o.integ = 4) (hconf : o.conf = 1)
    (huser : o.user.length ≤ 16) (hpriv : o.priv.toNat < 16)
    (hb : b.wf) (hpass : b.kuid = o.pass) (hkg : b.kg = o.kg)
    (hfit : ∀ k m, (C.hmac h k m).length + 40 < 65536) :
    (newSession C o rm (honestScript C h o rm b)).1 =
      [Spec.sessionless 0x10 (Spec.openSessionRequest 0 o.priv 1 o.auth o.integ o.conf),
       Spec.sessionless 0x12 (Spec.rakp1 0 b.sidc rm (roleByte o) o.user),
       Spec.sessionless 0x14 (Spec.rakp3 0 0 b.sidc (Spec.rakp3Code C h o.pass (exchangeWith o rm b)))] ∧
    Spec.rakp3Code C h o.pass (exchangeWith o rm b) = b.expectedRakp3 C h (received o rm) := by
  have e : Spec.rakp3Code C h o.pass (exchangeWith o rm b) = b.expectedRakp3 C h (received o rm) := by
    simp only [Spec.BmcSide.expectedRakp3, hpass]; rfl
  exact ⟨e ▸ congrArg Prod.fst (newSession_live C o rm b hb h hauth hinteg hconf huser hpriv hpass hkg hfit), e⟩

/-- every lawful hash (HMAC output = the algorithm's digest size) satisfies `hfit` -/
theorem hfit_of_lawful (C : Ops) (hC : C.Lawful) (h : HashAlg) : ∀ k m, (C.hmac h k m).length + 40 < 65536 :=
  hmac_fits C hC h

/-- the hypotheses are satisfiable (suite 17: SHA256 / SHA256-128 / AES; K_G set; name-only lookup; a 5-byte user) … -/
example :
    let o : Opts := { user := [0x61, 0x64, 0x6d, 0x69, 0x6e], pass := [0x70, 0x77], kg := [9, 9, 9], priv := 4, auth := 3, integ := 4, conf := 1 }
    let b : Spec.BmcSide := { kuid := [0x70, 0x77], kg := [9, 9, 9], sidc := 0xa0a2a3a4, rc := List.replicate 16 0xAB, guid := List.replicate 16 0x44 }
    authHash o.auth = some .sha256 ∧ (o.integ = 1 ∨ o.integ = 2 ∨ o.integ = 4) ∧ o.conf = 1 ∧ o.user.length ≤ 16 ∧
      o.priv.toNat < 16 ∧ b.wf ∧ b.kuid = o.pass ∧ b.kg = o.kg := by decide

/-- … by a lawful hash as well … -/
example : ∀ k m, (Crypto.toy.hmac .sha256 k m).length + 40 < 65536 := hfit_of_lawful _ Crypto.toy_lawful _

/-- … and the model, evaluated by the kernel on that instance (independently of the theorems above), does return the
    session after three transmissions -/
example :
    let o : Opts := { user := [0x61, 0x64, 0x6d, 0x69, 0x6e], pass := [0x70, 0x77], kg := [9, 9, 9], priv := 4, auth := 3, integ := 4, conf := 1 }
    let b : Spec.BmcSide := { kuid := [0x70, 0x77], kg := [9, 9, 9], sidc := 0xa0a2a3a4, rc := List.replicate 16 0xAB, guid := List.replicate 16 0x44 }
    let r := newSession Crypto.toy o (List.replicate 16 7) (honestScript Crypto.toy .sha256 o (List.replicate 16 7) b)
    r.1.length = 3 ∧ r.2 = .ok 1 0xa0a2a3a4 3 4 1 (List.replicate 32 0) (List.replicate 32 0) (List.replicate 32 0) := by
  decide +kernel

/-- a BMC holding ANOTHER password does not get a session (non-vacuity of `hpass`; toy hash keyed visibly) -/
example :
    let C : Ops := { Crypto.toy with hmac := fun _ k _ => k }
    let o : Opts := { user := [0x61], pass := [0x70, 0x77], priv := 4, auth := 1, integ := 1, conf := 1 }
    let b : Spec.BmcSide := { kuid := [0x70, 0x78], sidc := 5, rc := List.replicate 16 0xAB, guid := List.replicate 16 0x44 }
    (newSession C o (List.replicate 16 7) (honestScript C .sha1 o (List.replicate 16 7) b)).2 = .incorrectPassword := by
  decide +kernel

/-- RESPONSE RETURNED (last clause of C01): when the BMC answers a command with the specification's response datagram
    (`responseDatagram`: response message with the request's NetFn + 1, command, sequence and group / OEM prefix, any
    completion code `cc` other than the two temporary ones and any body `data`; AES-CBC under K2 with any 16-byte IV;
    wrapped for the console's session ID with any sequence number; AuthCode under K1) the command completes after ONE
    transmission and the caller receives exactly `cc` and `data` — for every lawful cipher/hash, key set, counter value, every
    command whose request serialises and whose response message is well-formed (`responseMsg_wf`) and fits a datagram, and
    whatever the script holds afterwards -/
theorem response_returned (C : Ops) (hC : C.Lawful) (c : Cmd) (hf : c.reqFails = false) (s : Sess)
    (iv : Bytes) (ivs : List Bytes) (cc : UInt8) (data : Bytes) (seq : Nat) (riv : Bytes) (rest : List Outcome)
    (hriv : riv.length = 16) (hm : (responseMsg c cc).WF) (hid : s.localID < 4294967296) (hseq : seq < 4294967296)
    (hlen : (responseAes C s.keys c cc data riv).length < 65536) (hnt : isTemp cc = false) :
    (sendLoop C c s (iv :: ivs) (.reply (responseDatagram C s.keys c cc data seq riv) :: rest)).2 =
      ([datagramOf C s.keys c s.inbound iv], .ok cc data) := by
  rw [sendLoop_reply C c hf, classify_response C hC s.keys c cc data seq riv hriv hm hid hseq hlen, hnt]
  simp only [Bool.false_eq_true, if_false, attempt_init_eq]

/-- the response message of every request the library can build is well-formed: the hypothesis `hm` above holds for
    every even (request) NetFn below 63, LUN below 4, enterprise number below 2^24, with the group body / enterprise
    fields used only by the group / OEM NetFns — which is how `requestMessage` fills them -/
theorem responseMsg_wf (c : Cmd) (cc : UInt8) (hfn : c.fn.toNat < 63) (heven : c.fn.toNat % 2 = 0) (hlun : c.lun.toNat < 4)
    (hent : c.ent < 16777216) (hb : isGroup (c.fn + 1) = false → c.body = 0) (he : isOEM (c.fn + 1) = false → c.ent = 0) :
    (responseMsg c cc).WF := by
  have h1 : (c.fn + 1).toNat = c.fn.toNat + 1 := by
    rw [UInt8.toNat_add]; simp; omega
  refine ⟨by show (c.fn + 1).toNat < 64; omega, by show (0 : UInt8).toNat < 4; decide, hlun, by show (1 : UInt8).toNat < 64; decide,
    hent, hb, he, fun h => ?_⟩
  exfalso
  have : isRequest (c.fn + 1) = false := by
    simp only [isRequest, beq_eq_false_iff_ne, ne_eq]
    intro h0
    have := congrArg UInt8.toNat h0
    rw [UInt8.toNat_mod, h1] at this
    simp at this
    omega
  simp [responseMsg, this] at h

/-- non-vacuity: Get Device ID answered with completion code 00 and an 11-byte body under the toy crypto -/
example :
    (sendLoop Crypto.toy { fn := 6, cmd := 1 } { localID := 7, remoteID := 9, integ := 1, k1 := [1], k2 := List.replicate 16 0 }
      [List.replicate 16 3] [.reply (responseDatagram Crypto.toy ⟨7, 9, 1, [1], List.replicate 16 0⟩ { fn := 6, cmd := 1 } 0
        [0x20, 1, 2, 3, 2, 0xbf, 0, 0, 0, 0, 0] 5 (List.replicate 16 4))]).2.2 = .ok 0 [0x20, 1, 2, 3, 2, 0xbf, 0, 0, 0, 0, 0] := by
  decide +kernel

/-- LIVENESS UNDER LOSS: the handshake with the conforming BMC still succeeds — same session, same keys — when any number
    of replies are lost, or arrive truncated / garbled so that they do not decode down to a session wrapper, before each
    of the BMC's three replies (the library retransmits; C10 `handshake_payload_retries` says what) -/
theorem handshake_succeeds_despite_loss (C : Ops) (o : Opts) (rm : Bytes) (b : Spec.BmcSide) (h : HashAlg)
    (hauth : authHash o.auth = some h) (hinteg : o.integ = 1 ∨ o.integ = 2 ∨ o.integ = 4) (hconf : o.conf = 1)
    (huser : o.user.length ≤ 16) (hpriv : o.priv.toNat < 16)
    (hb : b.wf) (hpass : b.kuid = o.pass) (hkg : b.kg = o.kg)
    (hfit : ∀ k m, (C.hmac h k m).length + 40 < 65536)
    (j1 j2 j3 tail : List Outcome) (h1 : ∀ x ∈ j1, Skipped x) (h2 : ∀ x ∈ j2, Skipped x) (h3 : ∀ x ∈ j3, Skipped x) :
    (newSession C o rm (j1 ++ .reply (b.openSessionReply (received o rm)) :: (j2 ++ .reply (b.rakp2Reply C h (received o rm)) ::
        (j3 ++ .reply (b.rakp4Reply C h (received o rm)) :: tail)))).2 =
      .ok 1 b.sidc o.auth o.integ o.conf (b.sik C h (received o rm)) (b.k1 C h (received o rm)) (b.k2 C h (received o rm)) := by
  obtain ⟨f2, f4⟩ := fits_of_bound C h hfit b.kuid (b.sik C h (received o rm)) (b.exchange (received o rm))
  rw [newSession_skips C o rm j1 j2 j3 _ _ _ tail h1 h2 h3 (got_not_retry (openReply_got b _))
    (got_not_retry (rakp2Reply_got C h b hb _ f2)) (got_not_retry (rakp4Reply_got C h b _ f4))]
  exact keys_agree C o rm b h hauth hinteg hconf huser hpriv hb hpass hkg hfit

/-- lost replies and truncated replies are among the skipped outcomes (non-vacuity of `Skipped`) -/
theorem lost_and_truncated_are_skipped (ptype : UInt8) (hpt : ptype.toNat < 64) (hoem : ptype ≠ 2) (payload : Bytes)
    (hlen : payload.length < 65536) (n : Nat) (hn : n < (Spec.sessionless ptype payload).length) :
    Skipped .lost ∧ Skipped (.reply ((Spec.sessionless ptype payload).take n)) :=
  ⟨Or.inl rfl, Or.inr ⟨_, rfl, truncated_setup_reply_is_retry ptype hpt hoem payload hlen n hn⟩⟩

open Bmc.Spec Bmc.Proofs.C03 in
/-- what makes one exchange well-posed: a 16-byte IV on both sides, a well-formed request (even NetFn < 63, LUN < 4, …)
    that fits a datagram, a BMC answer (completion code `cc`, data) that is not one of the two temporary codes and
    fits a datagram -/
structure Exchange (C : Ops) (k : Keys) (c : Cmd) (iv biv : Bytes) (cc : UInt8) (data : Bytes) : Prop where
  ser : c.reqFails = false
  ivLen : iv.length = 16
  bivLen : biv.length = 16
  req : (requestMessage c).WF
  isReq : isRequest c.fn = true
  fits : (aesPayload C k c iv).length < 65536
  rsp : (responseMsg c cc).WF
  rfits : (responseAes C k c cc data biv).length < 65536
  final : isTemp cc = false

open Bmc.Spec Bmc.Proofs.C03 in
/-- COMMAND ANSWERED: the console's datagram for ANY command passes the conforming BMC's integrity check, decryption
    and message checks; the BMC reads out of it exactly the caller's command (NetFn, number, prefix, LUN, body, with
    sequence number counter + 1); and the datagram the BMC sends back — whatever its handler answers — is accepted by
    the console, which returns the handler's completion code and data after ONE transmission. Every lawful crypto,
    key set, counter value, BMC sequence number and IVs. -/
theorem command_answered (C : Ops) (hC : C.Lawful) (c : Cmd) (s : Sess) (hid : s.localID < 4294967296)
    (hr : s.remoteID < 4294967296) (iv : Bytes) (ivs : List Bytes) (handler : BmcReq → UInt8 × Bytes) (bseq : Nat)
    (hb : bseq < 4294967296) (biv : Bytes) (rest : List Outcome)
    (hx : Exchange C s.keys c iv biv
            (handler ⟨(s.inbound + 1) % 4294967296, c.fn, c.cmd, c.body, c.ent, c.lun, c.req⟩).1
            (handler ⟨(s.inbound + 1) % 4294967296, c.fn, c.cmd, c.body, c.ent, c.lun, c.req⟩).2) :
    ∃ reply, bmcAnswer C s.keys handler bseq biv (datagramOf C s.keys c s.inbound iv) = some reply ∧
      (sendLoop C c s (iv :: ivs) (.reply reply :: rest)).2 =
        ([datagramOf C s.keys c s.inbound iv],
         .ok (handler ⟨(s.inbound + 1) % 4294967296, c.fn, c.cmd, c.body, c.ent, c.lun, c.req⟩).1
             (handler ⟨(s.inbound + 1) % 4294967296, c.fn, c.cmd, c.body, c.ent, c.lun, c.req⟩).2) := by
  have hopen := bmc_opens_request C hC s.keys hr c s.inbound iv hx.ivLen hx.req hx.isReq hx.fits
  refine ⟨_, by simp only [bmcAnswer, hopen, Option.map_some]; rfl, ?_⟩
  exact response_returned C hC c hx.ser s iv ivs _ _ bseq biv rest hx.bivLen hx.rsp hid hb hx.rfits hx.final

open Bmc.Spec Bmc.Proofs.C03 in
/-- the console and the conforming BMC in conversation: command after command on one session, each datagram handed
    to the BMC, the BMC's answer handed back (a packet the BMC drops ends the command with a transport error) -/
def converse (C : Ops) (handler : BmcReq → UInt8 × Bytes) : Sess → Nat → List (Cmd × Bytes × Bytes) → List Res
  | _, _, [] => []
  | s, bseq, (c, iv, biv) :: rest =>
    match bmcAnswer C s.keys handler bseq biv (datagramOf C s.keys c s.inbound iv) with
    | none => [.transportErr]
    | some reply =>
      let r := sendLoop C c s [iv] [.reply reply]
      r.2.2 :: converse C handler r.1 (bseq + 1) rest

open Bmc.Spec Bmc.Proofs.C03 in
/-- what the caller must receive: for each command in turn the BMC handler's answer to that very command, understood
    with the next sequence number (counter + 1, then + 2, …, modulo 2^32) -/
def answers (handler : BmcReq → UInt8 × Bytes) : Nat → List (Cmd × Bytes × Bytes) → List Res
  | _, [] => []
  | inb, (c, _, _) :: rest =>
    let q : BmcReq := ⟨(inb + 1) % 4294967296, c.fn, c.cmd, c.body, c.ent, c.lun, c.req⟩
    Res.ok (handler q).1 (handler q).2 :: answers handler ((inb + 1) % 4294967296) rest

open Bmc.Spec Bmc.Proofs.C03 in
/-- EVERY COMMAND OF A SESSION IS ANSWERED (C01, last sentence, for histories of any length): on a session whose keys
    both sides hold (`keys_agree`), every command of any sequence of well-posed commands passes the BMC's integrity
    check and decryption, is understood as the caller's command with the next sequence number, and the caller receives
    exactly the BMC handler's completion code and data for it — for every lawful crypto, any starting counter and BMC
    sequence number, any handler. -/
theorem all_commands_answered (C : Ops) (hC : C.Lawful) (handler : BmcReq → UInt8 × Bytes) (s : Sess)
    (hs : s.inbound < 4294967296) (hid : s.localID < 4294967296) (hr : s.remoteID < 4294967296) (bseq : Nat)
    (cmds : List (Cmd × Bytes × Bytes)) (hb : bseq + cmds.length < 4294967296)
    (hx : ∀ e ∈ cmds, ∀ q : Nat, Exchange C s.keys e.1 e.2.1 e.2.2
            (handler ⟨q, e.1.fn, e.1.cmd, e.1.body, e.1.ent, e.1.lun, e.1.req⟩).1
            (handler ⟨q, e.1.fn, e.1.cmd, e.1.body, e.1.ent, e.1.lun, e.1.req⟩).2) :
    converse C handler s bseq cmds = answers handler s.inbound cmds := by
  induction cmds generalizing s bseq with
  | nil => simp [converse, answers]
  | cons e rest ih =>
    obtain ⟨c, iv, biv⟩ := e
    have hx0 := hx (c, iv, biv) (by simp) ((s.inbound + 1) % 4294967296)
    obtain ⟨reply, hans, hsend⟩ := command_answered C hC c s hid hr iv [] handler bseq (by simp at hb; omega) biv [] hx0
    have hspec := sendLoop_spec C c hx0.ser s hs [iv] [.reply reply] (by simp)
    have hcls : (expected (classify C s.keys c) [.reply reply]).1 = 1 := by
      unfold expected; split <;> rfl
    have hk : (sendLoop C c s [iv] [.reply reply]).1.keys = s.keys := hspec.2.2.1
    have hi : (sendLoop C c s [iv] [.reply reply]).1.inbound = (s.inbound + 1) % 4294967296 := by
      rw [hspec.2.2.2, hcls]
    simp only [converse, hans, answers]
    have hrec := ih (sendLoop C c s [iv] [.reply reply]).1 (by rw [hi]; omega)
      (by have h := congrArg Keys.localID hk; simp only [Sess.keys] at h; rw [h]; exact hid)
      (by have h := congrArg Keys.remoteID hk; simp only [Sess.keys] at h; rw [h]; exact hr)
      (bseq + 1) (by simp at hb ⊢; omega)
      (fun e he q => by rw [hk]; exact hx e (by simp [he]) q)
    rw [hrec, hsend, hi]

open Bmc.Spec Bmc.Proofs.C03 in
/-- the session state `newV2Session` builds from a successful handshake: IDs, negotiated integrity algorithm, K1 for the
    integrity hash and the first 16 bytes of K2 for AES (hasher.go, confidentiality.go) -/
def sessionOf (l r : Nat) (i : UInt8) (k1 k2 : Bytes) : Sess :=
  { localID := l, remoteID := r, integ := i.toNat, k1 := k1, k2 := k2.take 16 }

open Bmc.Spec Bmc.Proofs.C03 in
/-- C01 END TO END: open a session against the conforming BMC holding the same credentials (`handshake_succeeds`), then
    issue ANY sequence of well-posed commands: the handshake returns the session with the BMC's keys, and every command
    is accepted by the BMC — which checks integrity and decrypts with ITS OWN K1 / K2 (`BmcSide.k1`, `k2`, derived from
    the fields it received) — and answered to the caller with the BMC handler's completion code and data. -/
theorem session_then_commands (C : Ops) (hC : C.Lawful) (o : Opts) (rm : Bytes) (b : Spec.BmcSide) (h : HashAlg)
    (hauth : authHash o.auth = some h) (hinteg : o.integ = 1 ∨ o.integ = 2 ∨ o.integ = 4) (hconf : o.conf = 1)
    (huser : o.user.length ≤ 16) (hpriv : o.priv.toNat < 16)
    (hb : b.wf) (hpass : b.kuid = o.pass) (hkg : b.kg = o.kg) (hsid : b.sidc < 4294967296)
    (handler : BmcReq → UInt8 × Bytes) (bseq : Nat) (cmds : List (Cmd × Bytes × Bytes)) (hbs : bseq + cmds.length < 4294967296)
    (hx : ∀ e ∈ cmds, ∀ q : Nat,
      Exchange C (sessionOf 1 b.sidc o.integ (b.k1 C h (received o rm)) (b.k2 C h (received o rm))).keys e.1 e.2.1 e.2.2
        (handler ⟨q, e.1.fn, e.1.cmd, e.1.body, e.1.ent, e.1.lun, e.1.req⟩).1
        (handler ⟨q, e.1.fn, e.1.cmd, e.1.body, e.1.ent, e.1.lun, e.1.req⟩).2) :
    (newSession C o rm (honestScript C h o rm b)).2 =
      .ok 1 b.sidc o.auth o.integ o.conf (b.sik C h (received o rm)) (b.k1 C h (received o rm)) (b.k2 C h (received o rm)) ∧
    converse C handler (sessionOf 1 b.sidc o.integ (b.k1 C h (received o rm)) (b.k2 C h (received o rm))) bseq cmds =
      answers handler 0 cmds :=
  ⟨keys_agree C o rm b h hauth hinteg hconf huser hpriv hb hpass hkg (hfit_of_lawful C hC h),
   all_commands_answered C hC handler _ (by show (0 : Nat) < 4294967296; omega) (by show (1 : Nat) < 4294967296; omega) hsid bseq cmds hbs hx⟩

/-- non-vacuity: two commands (Get Device ID, then Get Chassis Status) against a BMC whose handler answers 00 + the
    command number, under the toy crypto: the caller receives exactly that, for both -/
example :
    let k : Sess := { localID := 7, remoteID := 9, integ := 1, k1 := [1], k2 := List.replicate 16 0 }
    converse Crypto.toy (fun r => (0, [r.cmd])) k 100
      [({ fn := 6, cmd := 1 }, List.replicate 16 3, List.replicate 16 4), ({ fn := 0, cmd := 1 }, List.replicate 16 5, List.replicate 16 6)]
      = [.ok 0 [1], .ok 0 [1]] := by decide +kernel

end Bmc.Proofs.C01
