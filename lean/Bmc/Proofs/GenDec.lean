import Bmc.Proofs.GenDec.TranslatedOk
import Bmc.Proofs.GenDec.ReserveSDRRepositoryRsp
import Bmc.Proofs.GenDec.GetSystemGUIDRsp
import Bmc.Proofs.GenDec.SetSessionPrivilegeLevelRsp
import Bmc.Proofs.GenDec.GetSDRRsp
import Bmc.Proofs.GenDec.SDR
import Bmc.Proofs.GenDec.GetSensorReadingRsp
import Bmc.Proofs.GenDec.GetChannelCipherSuitesRsp
import Bmc.Proofs.GenDec.GetChannelAuthenticationCapabilitiesRsp
import Bmc.Proofs.GenDec.GetSDRRepositoryInfoRsp
import Bmc.Proofs.GenDec.GetPowerReadingRsp
import Bmc.Proofs.GenDec.GetChassisStatusRsp
import Bmc.Proofs.GenDec.GetDeviceIDRsp
import Bmc.Proofs.GenDec.RAKPMessage4
import Bmc.Proofs.GenDec.RAKPMessage2
import Bmc.Proofs.GenDec.RAKPMessage1
import Bmc.Proofs.GenDec.V1Session
import Bmc.Proofs.GenDec.GetSessionInfoRsp
import Bmc.Proofs.GenDec.OpenSessionRsp
import Bmc.Proofs.GenDec.GetDCMICapabilitiesInfoManageabilityAccessAttrsRsp
import Bmc.Proofs.GenDec.GetDCMICapabilitiesInfoOptionalPlatformAttrsRsp
import Bmc.Proofs.GenDec.GetDCMICapabilitiesInfoSupportedCapabilitiesRsp
import Bmc.Proofs.GenDec.GetDCMICapabilitiesInfoMandatoryPlatformAttrsRsp
import Bmc.Proofs.GenDec.SessionSelector
import Bmc.Proofs.GenDec.Message
import Bmc.Proofs.GenDec.GetDCMICapabilitiesInfoEnhancedSystemPowerStatisticsAttrsRsp
import Bmc.Proofs.GenDec.GetDCMISensorInfoRsp
import Bmc.Proofs.GenDec.FullSensorRecord
import Bmc.Proofs.GenDec.V2Session
import Bmc.Proofs.GenDec.AES128CBC
import Bmc.Proofs.GenDec.CipherSuiteRecords
/-! # The decoders RE-TRANSLATED from the Go source on every run are the hand-written models (property-support theorems)

`Bmc.Gen.Dec.T.decodeGo` is emitted by `tools/decgen` from `(*T).DecodeFromBytes` as the source stands, statement by
statement, over the Go-slice semantics of `Basic/Go.lean`. Each `T_gen_eq` says it IS the model `Bmc.Wire.X.decodeGo` that
C05 / C07 / C17 reason about — for every receiver value and every Go slice (every length, every capacity,
including the error, panic and over-read outcomes) — through `toModel` (`Lemmas/GenDec.lean`). A source change to one of
these decoders changes `Gen/Dec.lean` and breaks the corresponding obligation at build time.

One module per layer under `Proofs/GenDec/` (and `CipherSuiteRecords` for `parseCipherSuiteRecordData`, which is not a layer
method), so that a decoder whose translation changes breaks its own theorem only. -/
