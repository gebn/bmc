import Bmc.Proto.Suites
import Bmc.Lemmas.HandshakeInv
import Bmc.Gen.Facts
import Bmc.Proto.Discovery
import Bmc.Proofs.C16
/-! # C12 — the cipher suite used is the caller's first supported preference, never another (property theorems only) -/
namespace Bmc.Proofs.C12
open Bmc Bmc.Wire Bmc.Crypto Bmc.Proto

/-- with several preferences the choice is made among them, from what discovery returned -/
theorem determine_many (prefs : List Suite) (h2 : 2 ≤ prefs.length) (adv : Option (List Suite)) :
    determine prefs adv =
      match adv with
      | none => .discoveryFailed
      | some a =>
        match prefs.find? (fun p => a.contains p) with
        | some p => .propose p true
        | none => .noSupported := by
  match prefs, h2 with
  | _ :: _ :: _, _ => rfl

/-- several preferences: the proposal is the FIRST preference the BMC advertises -/
theorem choose_first_supported (prefs : List Suite) (h2 : 2 ≤ prefs.length) (adv : List Suite) (p : Suite)
    (h : determine prefs (some adv) = .propose p true) :
    p ∈ prefs ∧ p ∈ adv ∧ ∀ q ∈ prefs.takeWhile (· ≠ p), q ∉ adv := by
  rw [determine_many prefs h2] at h
  simp only at h
  split at h
  · rename_i q hq
    simp at h
    subst h
    have hm := List.mem_of_find?_eq_some hq
    have hp := List.find?_some hq
    refine ⟨hm, by simpa using hp, ?_⟩
    intro r hr
    obtain ⟨_, as, bs, hab, hall⟩ := List.find?_eq_some_iff_append.mp hq
    have htw : prefs.takeWhile (· ≠ q) = as := by
      rw [hab, List.takeWhile_append_of_pos]
      · simp
      · intro x hx
        have := hall x hx
        simp only [ne_eq, decide_eq_true_eq]
        intro hxq; subst hxq; simp_all
    rw [htw] at hr
    simpa using hall r hr
  · simp at h

/-- … or the no-supported-cipher-suite error exactly when none of them is advertised -/
theorem none_supported (prefs : List Suite) (h2 : 2 ≤ prefs.length) (adv : List Suite) :
    determine prefs (some adv) = .noSupported ↔ ∀ p ∈ prefs, p ∉ adv := by
  rw [determine_many prefs h2]
  simp only
  constructor
  · intro h
    split at h
    · simp at h
    · rename_i hnone
      intro p hp
      simpa using List.find?_eq_none.mp hnone p hp
  · intro h
    have : prefs.find? (fun p => adv.contains p) = none :=
      List.find?_eq_none.mpr fun p hp => by simpa using h p hp
    rw [this]

/-- exactly one preference: proposed without discovery, whatever the BMC advertises -/
theorem singleton_no_discovery (s : Suite) (adv : Option (List Suite)) : determine [s] adv = .propose s false := rfl

/-- no preference: suite 17, then suite 3 -/
theorem defaults (adv : List Suite) :
    determine [] (some adv) =
      if adv.contains ⟨3, 4, 1⟩ then .propose ⟨3, 4, 1⟩ true
      else if adv.contains ⟨1, 1, 1⟩ then .propose ⟨1, 1, 1⟩ true else .noSupported := by
  by_cases h1 : (⟨3, 4, 1⟩ : Suite) ∈ adv <;> by_cases h2 : (⟨1, 1, 1⟩ : Suite) ∈ adv <;>
    simp [determine, defaultSuites, List.find?, h1, h2]

/-- tie to the source: the order of `defaultCipherSuites` as extracted on this run -/
theorem defaults_fact : Bmc.Gen.Facts.bmc_defaultCipherSuites = ["CipherSuite17", "CipherSuite3"] := by decide

/-- NO DOWNGRADE: whatever the BMC answers at any point (every reply script), a session is only ever
    returned with exactly the proposed algorithms, and those are a supported authentication algorithm, an integrity
    algorithm and AES-CBC-128. (That the call never crashes is C05's `handshake_total`.) -/
theorem no_downgrade (C : Ops) (o : Opts) (rm : Bytes) (script : List Outcome) (l r : Nat) (a i c : UInt8)
    (sik k1 k2 : Bytes) (h : (newSession C o rm script).2 = .ok l r a i c sik k1 k2) :
    a = o.auth ∧ i = o.integ ∧ c = o.conf ∧ c = 1 ∧ (i = 1 ∨ i = 2 ∨ i = 4) ∧ (a = 1 ∨ a = 2 ∨ a = 3) := by
  obtain ⟨osr, _, hh, _, _, _, _, _, _, _, _, _, A⟩ := newSession_ok h
  injection A.res with _ _ e3 e4 e5
  subst e3 e4 e5
  -- `authHash` knows a hash for the algorithms 1, 2 and 3 only
  exact ⟨A.auth, A.integ, A.conf, A.confOk, A.integOk, (authHash_some A.hash).imp And.left (Or.imp And.left And.left)⟩

example : determine [⟨3, 4, 1⟩, ⟨2, 2, 1⟩, ⟨1, 1, 1⟩] (some [⟨1, 1, 1⟩, ⟨2, 2, 1⟩]) = .propose ⟨2, 2, 1⟩ true := by decide

open Bmc.Proto.Enum Bmc.Spec.Enum Bmc.Lemmas.Enum in
/-- DISCOVERY + CHOICE, end to end at the wire: against a BMC that holds ANY list of well-formed cipher suite records
    (standard and OEM, any number of integrity / confidentiality algorithms each, fewer than the 1024 bytes the list
    index can address) and serves them 16 bytes per Get Channel Cipher Suites list index as the specification says, the
    selection sees exactly one suite per (integrity, confidentiality) combination of each record — so
    `choose_first_supported` / `none_supported` / `defaults` apply with `adv` = what the BMC really advertises -/
theorem discovery_then_choice (prefs : List Suite) (ch : UInt8) (hch : ch.toNat < 16) (rs : List Record)
    (hw : ∀ r ∈ rs, r.wf) (hlen : (encodeRecords rs).length < 1024) :
    determineFull prefs (pageOfBody fun i => some (pageBody ch (encodeRecords rs) i)) =
      determine prefs (some (((rs.flatMap expand).map view).map suiteOfEntry)) := by
  unfold determineFull discovered
  rw [Bmc.Proofs.C16.retrieve_complete ch hch rs hw hlen]

open Bmc.Proto.Enum Bmc.Spec.Enum Bmc.Lemmas.Enum in
/-- … hence, with several preferences, the proposal is the first preference that occurs as an (authentication,
    integrity, confidentiality) combination of some record the BMC holds -/
theorem first_advertised_preference (prefs : List Suite) (h2 : 2 ≤ prefs.length) (ch : UInt8) (hch : ch.toNat < 16)
    (rs : List Record) (hw : ∀ r ∈ rs, r.wf) (hlen : (encodeRecords rs).length < 1024) (p : Suite)
    (h : determineFull prefs (pageOfBody fun i => some (pageBody ch (encodeRecords rs) i)) = .propose p true) :
    p ∈ prefs ∧ (∃ r ∈ rs, ∃ e ∈ expand r, suiteOfEntry (view e) = p) ∧
    ∀ q ∈ prefs.takeWhile (· ≠ p), ¬ ∃ r ∈ rs, ∃ e ∈ expand r, suiteOfEntry (view e) = q := by
  rw [discovery_then_choice prefs ch hch rs hw hlen] at h
  obtain ⟨h1, h2', h3⟩ := choose_first_supported prefs h2 _ p h
  refine ⟨h1, ?_, fun q hq hex => h3 q hq ?_⟩
  · simp only [List.mem_map, List.mem_flatMap] at h2'
    obtain ⟨en, ⟨ce, ⟨r, hr, hce⟩, rfl⟩, rfl⟩ := h2'
    exact ⟨r, hr, ce, hce, rfl⟩
  · obtain ⟨r, hr, e, he, rfl⟩ := hex
    simp only [List.mem_map, List.mem_flatMap]
    exact ⟨view e, ⟨e, ⟨r, hr, he⟩, rfl⟩, rfl⟩

/-- with several preferences, a failed discovery (any list index answered with an error, or record data that does not
    parse) is an error: no suite is proposed on a guess -/
theorem discovery_failure_is_error (prefs : List Suite) (h2 : 2 ≤ prefs.length) (page : Nat → Option Bytes)
    (hd : discovered page = none) : determineFull prefs page = .discoveryFailed := by
  rw [determineFull, determine_many prefs h2, hd]

end Bmc.Proofs.C12
