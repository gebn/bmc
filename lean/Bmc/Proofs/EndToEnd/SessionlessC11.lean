import Bmc.Proofs.GenLoops.BuildAndSendCommand
import Bmc.Proofs.C11
/-! C11 for the session-less command loop: `V2Sessionless_buildAndSendCommand_gen_eq` with `C11.sessionless_result_matches_request`. -/
namespace Bmc.Proofs.EndToEnd
open Bmc Bmc.Wire Bmc.Crypto Bmc.Proto Bmc.GoOrch Bmc.GoLoops Bmc.Gen.Loops Bmc.Lemmas.GenLoops Bmc.Proofs.GenLoops

/-- C11 for the regenerated loop: a nil result means the completion code and payload left in the message layer come from a
    reply of the script that decodes to a message for THIS operation. -/
theorem generated_sessionless_loop_result_matches_request (c : Cmd) (hc : c.ent < 4294967296) (hf : c.reqFails = false)
    (script : List Outcome) (fuel : Nat) (hfu : script.length + 1 ≤ fuel) (bd : Bytes → Bool) (name : String) (rsp : Opaque)
    (ivs : List Bytes) (K : Conn Decoded) :
    let r := V2Sessionless_buildAndSendCommand (slWorld c bd) fuel (cmdOf c name rsp) ({ ivs := ivs, script := script, sent := [] }, K)
    r.1 = .ok none →
    ∃ d msg, Outcome.reply d ∈ script ∧ slView (slOnReply {} (GoSlice.ofBytes d)) = (.message, some msg) ∧
      msg.function = c.fn + 1 ∧ msg.command = c.cmd ∧ msg.body = c.body ∧ msg.enterprise = c.ent ∧
      msg.completionCode = r.2.2.layers.message.completionCode ∧ msg.payload = r.2.2.layers.message.payload := by
  intro r hok
  obtain ⟨_, h2, _⟩ := V2Sessionless_buildAndSendCommand_gen_eq c hc script fuel hfu bd name rsp ivs [] K
  exact Bmc.Proofs.C11.sessionless_result_matches_request c hf script _ _ (resOf_ok h2 hok)

end Bmc.Proofs.EndToEnd
