import Bmc.Proofs.EndToEnd.WholeC01
import Bmc.Proofs.EndToEnd.HistoryC03
/-! C03 whole: `generated_session_keys` (WholeC01) with `generated_history_packets_open` (HistoryC03). -/
namespace Bmc.Proofs.EndToEnd
open Bmc Bmc.Wire Bmc.Crypto Bmc.Proto Bmc.GoOrch Bmc.GoLoops Bmc.Gen.Loops Bmc.Lemmas.GenLoops Bmc.Lemmas.GenHs
open Bmc.Spec Bmc.Proofs.C03 Bmc.Proofs.C01

open Bmc.Gen.Hs Bmc.Gen.Orch in
/-- `WholeC01` follows a conversation with a BMC that answers. C03 is about what the console SENDS, whatever comes back: here the session
    is the one the translated `newV2Session` returns against the specification's BMC, and the history that follows is arbitrary —
    replies, forgeries, garbage, losses, contexts ending during a call, any number of commands (each call made before its context's
    end: `HistItem.ok`). Every datagram the translated `SendCommand` then hands
    to the transport opens AT THAT BMC, under the K1 and K2 the BMC derived for itself during the handshake: RMCP header, AuthCode
    verified, authenticated and encrypted flags, the BMC's session ID, AES payload decrypting to a checksum-valid IPMI message that is
    a command of the history with its request body (`∃ e ∈ h`: some command of the history; which one at which position is
    `generated_history_is_the_contract`). -/
theorem generated_session_then_history_opens (C : Ops) (hC : C.Lawful) (fuel : Nat)
    (sendS : Unit → GetChannelCipherSuitesReq → Unit × GetChannelCipherSuitesRsp × Bool) (tail : Bytes)
    (opts : V2SessionOpts) (cs : Gen.Dec.CipherSuite) (draw : Bytes)
    (hdet : bmc_V2SessionlessTransport_determineCipherSuite fuel sendS tail opts.cipherSuites () = (.ok cs, ()))
    (b : Spec.BmcSide) (hb : b.wf) (hh : HashAlg)
    (hauth : authHash (optsOf opts cs).auth = some hh)
    (hinteg : (optsOf opts cs).integ = 1 ∨ (optsOf opts cs).integ = 2 ∨ (optsOf opts cs).integ = 4)
    (hconf : (optsOf opts cs).conf = 1) (hpass : b.kuid = (optsOf opts cs).pass) (hkg : b.kg = (optsOf opts cs).kg)
    (bd : Bytes → Bool) (K : Conn Decoded) (hK : K.inbound = 0)
    (h : List HistItem) (hok : ∀ e ∈ h, e.ok) :
    let o := optsOf opts cs
    let rm := GoKeys.copyArr 16 (List.replicate 16 0) draw
    let k : Keys := ⟨1, b.sidc, o.integ.toNat, b.k1 C hh (received o rm), (b.k2 C hh (received o rm)).take 16⟩
    (∀ e ∈ h, ∀ iv ∈ e.2.2.2.1, iv.length = 16 ∧ (aesPayload C k e.1 iv).length < 65536) →
    (∀ e ∈ h, (requestMessage e.1).WF) →
    ∃ sess, (bmc_V2SessionlessTransport_newV2Session fuel sendS (typedO b) (typedR1 C hh b o rm) (typedR3 C hh b o rm) tail
              (Bmc.Lemmas.GenKeys.mac C) (fun _ _ => ((), some draw)) opts ()).1 = .ok (.ok sess) ∧
      ∀ p ∈ generatedHistory C (keysOfSession sess) bd K h, ∃ e ∈ h, ∃ v a m,
        p.take 4 = [6, 0, 0xFF, 7] ∧
        V2Session.decode (integMac C o.integ.toNat (b.k1 C hh (received o rm))) (p.drop 4) = .ok v ∧
        v.authenticated = true ∧ v.encrypted = true ∧ v.payloadType = 0 ∧ v.id = b.sidc ∧
        AESLayer.decode C ((b.k2 C hh (received o rm)).take 16) v.payload = .ok a ∧
        Message.decode 8 a.payload = .ok m ∧
        m.function = e.1.fn ∧ m.command = e.1.cmd ∧ m.body = e.1.body ∧ m.enterprise = e.1.ent ∧ m.remoteAddress = 0x20 ∧
        m.remoteLUN = e.1.lun ∧ m.localAddress = 0x81 ∧ m.payload = e.1.req := by
  intro o rm k hiv hwf
  obtain ⟨sess, hs, hk⟩ := generated_session_keys C hC fuel sendS tail opts cs draw hdet b hb hh hauth hinteg hconf hpass hkg
  refine ⟨sess, hs, ?_⟩
  rw [hk]
  have t : Tied k k.sess K := .fresh (show 1 < 4294967296 by decide) hb.1 hK
  exact generated_history_packets_open C hC bd h hok k.sess K t.inb t.loc t.rem t.cnt hiv hwf

end Bmc.Proofs.EndToEnd
