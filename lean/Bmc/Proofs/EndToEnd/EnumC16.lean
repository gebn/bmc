import Bmc.Proofs.GenOrch.RetrieveSupportedCipherSuites
import Bmc.Proofs.GenOrch.GetEntityInstances
import Bmc.Proofs.GenOrch.GetSensorInfo
import Bmc.Proofs.EndToEnd.DiscoveryC12
import Bmc.Proofs.C16
/-! C16 (complete, ordered, each page asked once) about the paging loops: `RetrieveSupportedCipherSuites_gen_eq` /
    `getEntityInstances_gen_eq` / `GetSensorInfo_gen_eq` (`Proofs/GenOrch`: result and the log of requests made) with `C16.retrieve_complete` /
    `dcmi_requests` / `sensorInfo_std`; the congruence lemmas (`retrieveSupportedCipherSuites_congr` in `DiscoveryC12`, `instLoop_congr`,
    `getSensorInfo_congr`) make the hypothesis on the BMC concern ONLY the list indices / instance starts the loops can ask for. -/
namespace Bmc.Proofs.EndToEnd
open Bmc Bmc.Proto Bmc.Proto.Enum Bmc.Spec.Enum Bmc.Lemmas.Enum Bmc.GoOrch Bmc.Gen.Orch Bmc.Lemmas.GenOrch

section suites
open Bmc.Lemmas.GenOrchSuites

/-- A BMC serving the specification's encoding of ANY list of well-formed cipher-suite records (shorter than 1024 bytes), 16
    bytes per list index: `RetrieveSupportedCipherSuites` AS TRANSLATED ON THIS RUN (the regenerated record parser underneath)
    returns exactly one entry per combination, in order, and asks for the list indices 0, 1, …, ⌊len/16⌋ — each once, in
    order, nothing else. -/
theorem generated_RetrieveSupportedCipherSuites_complete (b : TBmc) (junk : Junk) (fuel : Nat) (hf : 64 ≤ fuel) (tail : Bytes)
    (log : List GetChannelCipherSuitesReq) (ch : UInt8) (hch : ch.toNat < 16) (rs : List Record) (hw : ∀ r ∈ rs, r.wf)
    (hlen : (encodeRecords rs).length < 1024)
    (hb : ∀ w, w < 64 → pageOf b w = pageOfBody (fun i => some (pageBody ch (encodeRecords rs) i)) w) :
    (bmc_RetrieveSupportedCipherSuites fuel (ansOf b junk) tail log).1.map (List.map Gen.Dec.CipherSuiteRecord.toEntry)
        = RF.ok ((rs.flatMap expand).map view) ∧
    (bmc_RetrieveSupportedCipherSuites fuel (ansOf b junk) tail log).2.map viewReq
        = log.map viewReq ++ List.range ((encodeRecords rs).length / 16 + 1) := by
  obtain ⟨h1, h2⟩ := Proofs.GenOrch.RetrieveSupportedCipherSuites_gen_eq b junk fuel hf tail log
  rw [retrieveSupportedCipherSuites_congr _ _ hb, Proofs.C16.retrieve_complete ch hch rs hw hlen] at h1 h2
  exact ⟨h1, h2⟩

end suites

section dcmi
open Bmc.Lemmas.GenOrchDcmi

/-- the instance loop only ever asks for instance starts 0 … 255 of its own entity -/
theorem instLoop_congr (bmc bmc' : Proto.Enum.Bmc) (e : Nat) (h : ∀ s, s < 256 → bmc e s = bmc' e s) :
    ∀ (f : Nat) (ids : List Nat) (t : Nat), instLoop bmc e f ids t = instLoop bmc' e f ids t := by
  intro f
  induction f with
  | zero => intro ids t; rfl
  | succ f ih =>
    intro ids t
    simp only [instLoop]
    rw [h ((ids.length + 1) % 256) (Nat.mod_lt _ (by decide))]
    cases bmc' e ((ids.length + 1) % 256) with
    | none => rfl
    | some p => obtain ⟨tot, pg⟩ := p; simp only [ih]

/-- A BMC holding ANY 0…255 record IDs for the entity, answering each request with its total and a page of at most
    `pageSize ≥ 1` IDs from the requested instance: `getEntityInstances` AS TRANSLATED ON THIS RUN returns all of them, in order,
    with exactly the requests needed (instance start 1, 1 + p, 1 + 2p, … while instances remain). -/
theorem generated_getEntityInstances_pages (b : TBmc) (junk) (typ E : UInt8) (fuel : Nat) (hf : 256 ≤ fuel)
    (log : List GetDCMISensorInfoReq) (cmd : GetDCMISensorInfoCmd) (ht : cmd.req.type_ = typ) (he : cmd.req.entity = E)
    (B : DcmiBmc) (l : List Nat) (hB : B.ids E.toNat = some l) (hn : l.length ≤ 255) (hp : 1 ≤ B.pageSize)
    (hb : ∀ s, s < 256 → handOf b typ E.toNat s = B.respond E.toNat s) :
    (dcmi_getEntityInstances fuel (ansOf b junk) (log, cmd)).1.map ids = RF.ok l ∧
    (dcmi_getEntityInstances fuel (ansOf b junk) (log, cmd)).2.1.map viewReq
        = log.map viewReq ++ (expectedStarts B.pageSize l.length 256 0).map (fun s => ⟨E.toNat, s⟩) := by
  obtain ⟨h1, h2, _⟩ := Proofs.GenOrch.getEntityInstances_gen_eq b junk typ E fuel hf log cmd ht he
  have e : entityInstances (handOf b typ) E.toNat = entityInstances B.respond E.toNat := instLoop_congr _ _ _ hb _ _ _
  rw [e, Proofs.C16.dcmi_requests B E.toNat l hB hn hp] at h1 h2
  exact ⟨h1, h2⟩

theorem sensorMapLoop_congr (bmc bmc' : Proto.Enum.Bmc) :
    ∀ (es : List Nat) (m : SMap), (∀ e ∈ es, ∀ s, s < 256 → bmc e s = bmc' e s) →
      sensorMapLoop bmc es m = sensorMapLoop bmc' es m := by
  intro es
  induction es with
  | nil => intro m _; rfl
  | cons e rest ih =>
    intro m h
    have he : entityInstances bmc e = entityInstances bmc' e :=
      instLoop_congr bmc bmc' e (h e (by simp)) _ _ _
    simp only [sensorMapLoop, he]
    cases hr : entityInstances bmc' e with
    | mk l1 r =>
      cases r with
      | ok ids => simp only [ih (m.set e ids) (fun e' he' => h e' (by simp [he']))]
      | _ => rfl

theorem getSensorInfo_congr (bmc bmc' : Proto.Enum.Bmc)
    (h : ∀ e, e ∈ Proto.Enum.stdEntities ++ Proto.Enum.dcmiEntities → ∀ s, s < 256 → bmc e s = bmc' e s) :
    getSensorInfo bmc = getSensorInfo bmc' := by
  have h1 := sensorMapLoop_congr bmc bmc' Proto.Enum.stdEntities [] (fun e he => h e (by simp [he]))
  have h2 := sensorMapLoop_congr bmc bmc' Proto.Enum.dcmiEntities [] (fun e he => h e (by simp [he]))
  unfold getSensorInfo fallback sensorMap
  rw [h1, h2]

/-- A BMC holding record IDs for the three standard temperature entities (air inlet 37h, processor 03h, system board 07h; at least
    one record ID in all, at most 255 each), served in pages of any size ≥ 1: `GetSensorInfo` AS TRANSLATED ON THIS RUN returns
    exactly those three lists. (Which requests it makes is not part of this statement; that the model asks for the DCMI-specific
    entity IDs only after an error or an empty result is `C16.fallback_iff`.) -/
theorem generated_GetSensorInfo_std (b : TBmc) (junk) (fuel : Nat) (hf : 256 ≤ fuel) (log : List GetDCMISensorInfoReq)
    (B : DcmiBmc) (hp : 1 ≤ B.pageSize) (i0 i1 i2 : List Nat)
    (h0 : B.ids 0x37 = some i0) (h1 : B.ids 0x03 = some i1) (h2 : B.ids 0x07 = some i2)
    (l0 : i0.length ≤ 255) (l1 : i1.length ≤ 255) (l2 : i2.length ≤ 255) (hpos : 0 < i0.length + i1.length + i2.length)
    (hb : ∀ e, e ∈ Proto.Enum.stdEntities ++ Proto.Enum.dcmiEntities → ∀ s, s < 256 → handOf b 1 e s = B.respond e s) :
    (dcmi_GetSensorInfo fuel (ansOf b junk) log).1.map viewInfo = RF.ok ⟨i0, i1, i2⟩ := by
  obtain ⟨g1, _⟩ := Proofs.GenOrch.GetSensorInfo_gen_eq b junk fuel hf log
  rw [getSensorInfo_congr _ _ hb, Proofs.C16.sensorInfo_std B hp i0 i1 i2 h0 h1 h2 l0 l1 l2 hpos] at g1
  exact g1

def sampleDcmi : DcmiBmc := ⟨fun e => if e = 3 then some ((List.range 20).map (· + 100)) else none, 8⟩
def sampleTyped : TBmc := fun q =>
  (sampleDcmi.respond q.entity.toNat q.instanceStart.toNat).map fun p =>
    { instances := UInt8.ofNat p.1, recordIDs := p.2.map UInt16.ofNat }
/-- the hypothesis on the BMC is satisfiable: a typed BMC holding 20 record IDs for entity 3, served 8 at a time -/
example : ∀ s, s < 256 → handOf sampleTyped 1 (3 : UInt8).toNat s = sampleDcmi.respond (3 : UInt8).toNat s := by decide +kernel

end dcmi
end Bmc.Proofs.EndToEnd
