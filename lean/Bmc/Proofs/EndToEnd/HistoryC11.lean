import Bmc.Lemmas.GenLoopsHistory
import Bmc.Lemmas.AcceptInv
/-! C11 and C04 over the whole life of a session, about what the translated `SendCommand` RETURNS (`generatedResults`). Per call:
    `sendCommand_tied` with `sendLoop_ok_inv`, `accept_iff`, `onReply_message_inv` — C11 and C04 of the SAME reply;
    `generatedResults_all` lifts the per-call fact to a history. -/
namespace Bmc.Proofs.EndToEnd
open Bmc Bmc.Wire Bmc.Crypto Bmc.Proto Bmc.GoOrch Bmc.GoLoops Bmc.Gen.Loops Bmc.Lemmas.GenLoops Bmc.Proofs.GenLoops Bmc.Proofs.C09

/-- what a returned completion code is evidence of: a reply in THAT CALL's script (`Outcome.reply d ∈ script`: not necessarily one
    the call lived to receive, nor the one the code was taken from — `Lemmas.sendLoop_ok_inv` has that) decoded to an IPMI message for THAT call's
    command (network function + 1, command number, group-extension body code, OEM enterprise number) carrying that completion code
    (C11), inside a session wrapper addressed to this session which — in a session with an integrity algorithm — has the
    authenticated flag set and whose AuthCode is the negotiated keyed hash under K1 of everything before it (C04) -/
def ResultJustified (C : Ops) (k : Keys) (e : HistItem) (r : RF (UInt8 × Option GoErr)) : Prop :=
  ∀ cc, r = .ok (cc, none) →
    ∃ d rm p v2 msg, Outcome.reply d ∈ e.2.2.2.2 ∧
      view (onReply C k.sess (GoSlice.ofBytes d)) = (.message, some (v2, msg)) ∧
      msg.function = e.1.fn + 1 ∧ msg.command = e.1.cmd ∧ msg.body = e.1.body ∧ msg.enterprise = e.1.ent ∧
      msg.completionCode = cc ∧
      RMCP.decodeGo {} (GoSlice.ofBytes d) = .ok (rm, p) ∧
      (∃ w2, V2Session.decode (integMac C k.integ k.k1) p.vis = .ok w2 ∧
        (k.integ ≠ 0 → w2.authenticated = true) ∧ w2.id = k.localID ∧
        (w2.authenticated = true → ∃ off, off ≤ p.vis.length ∧ w2.signature = p.vis.drop off ∧
            p.vis.drop off = integMac C k.integ k.k1 (p.vis.take off)))

theorem sendCommand_result_justified (C : Ops) (bd : Bytes → Bool) {k : Keys} {s : Sess} {K : Conn Decoded} (t : Tied k s K)
    (c : Cmd) (name : String) (rsp : Opaque) (ivs : List Bytes) (script : List Outcome) (he : HistItem.ok (c, name, rsp, ivs, script)) :
    ResultJustified C k (c, name, rsp, ivs, script)
      (V2Session_SendCommand (sessWorld C k c bd) script.length (sessConsts k) (cmdOf c name rsp)
        ({ ivs := ivs, script := script, sent := [] }, K)).1 := by
  intro cc hres
  obtain ⟨_, _, a3⟩ := sendCommand_tied C bd t c name rsp ivs script he.weaken
  obtain ⟨rfl, hs, _⟩ := t
  obtain ⟨hf, _, _, hl⟩ := he
  obtain ⟨p, hm⟩ := cmdResult_ok_inv (a3.symm.trans hres)
  obtain ⟨d, v2, msg, hd, hv, hacc, -, hcc, -⟩ := sendLoop_ok_inv C c hf s hs ivs script hl cc p hm
  obtain ⟨hauth, hid, hfn, hcmd, hbody, hent⟩ := accept_iff.mp hacc
  obtain ⟨rm, q, hrm, hdec, -⟩ := onReply_message_inv C s.keys.sess (GoSlice.ofBytes d) v2 msg hv
  exact ⟨d, rm, q, v2, msg, hd, hv, hfn, hcmd, hbody, hent, hcc, hrm, v2, hdec, hauth, hid, (Wire.V2Session.decode_ok hdec).2⟩

/-- **C11 + C04, history form, about the translated code**: one result per command, and every returned completion code is
    justified by an authentic reply, delivered during that very call, to that call's command. No hypothesis on what the BMC or
    anyone else sends, on how many commands went before, or on what happened to them. (The premise is reachable — calls DO return
    completion codes: `SessionC10.generated_SendCommand_busy_then_final`, `SessionC01.generated_all_commands_answered`; `HistItem.ok`
    histories exist: the example in `HistoryC03.lean`.) -/
theorem generated_history_results (C : Ops) (bd : Bytes → Bool) (h : List HistItem) (hok : ∀ e ∈ h, e.ok) :
    ∀ (s : Sess) (K : Conn Decoded), s.inbound < 4294967296 → s.localID < 4294967296 → s.remoteID < 4294967296 →
      K.inbound = UInt32.ofNat s.inbound →
      (generatedResults C s.keys bd K h).length = h.length ∧
      ∀ er ∈ h.zip (generatedResults C s.keys bd K h), ResultJustified C s.keys er.1 er.2 :=
  fun _ K hs hL hr hK => ⟨generatedResults_length C _ bd h K,
    generatedResults_all C bd h (fun e he => (hok e he).weaken) ⟨rfl, hs, hL, hr, hK⟩ _
      (fun c name rsp ivs script he _ _ t => sendCommand_result_justified C bd t c name rsp ivs script (hok _ he))⟩

end Bmc.Proofs.EndToEnd
