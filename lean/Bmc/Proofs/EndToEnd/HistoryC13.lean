import Bmc.Proofs.EndToEnd.HistoryC10
/-! C13's logical half over a history: `generated_history_is_the_contract` (HistoryC10) with `expected_le`. In the models a context is the
    list of outcomes it lets a call see: `script.length` replies or losses, then it is done. (The wall-clock half — that each wait
    really ends with the deadline — is the time model and the real-socket scenarios.) -/
namespace Bmc.Proofs.EndToEnd
open Bmc Bmc.Wire Bmc.Crypto Bmc.Proto Bmc.GoOrch Bmc.GoLoops Bmc.Gen.Loops Bmc.Lemmas.GenLoops Bmc.Proofs.GenLoops Bmc.Proofs.C09

/-- outcomes the contexts of a history allow in total -/
def allowance : List (Cmd × List Bytes × List Outcome) → Nat
  | [] => 0
  | (_, _, script) :: rest => script.length + allowance rest

theorem contract_length_le (C : Ops) (k : Keys) (h : List (Cmd × List Bytes × List Outcome)) :
    ∀ inb, (contract C k inb h).length ≤ allowance h := by
  induction h with
  | nil => intro _; simp [contract, allowance]
  | cons e rest ih =>
    intro inb
    obtain ⟨c, ivs, script⟩ := e
    have h1 := expected_le (classify C k c) script
    have h2 := ih ((inb + (expected (classify C k c) script).1) % 4294967296)
    simp only [contract, allowance, List.length_append, List.length_map, List.length_range]
    omega

/-- **C13 (logical half), history form, about the translated code**: over a whole history no more datagrams are handed to the
    transport than the calls' contexts allowed outcomes -/
theorem generated_history_within_contexts (C : Ops) (bd : Bytes → Bool) (h : List HistItem) (hok : ∀ e ∈ h, e.ok)
    (s : Sess) (K : Conn Decoded) (hs : s.inbound < 4294967296) (hL : s.localID < 4294967296) (hr : s.remoteID < 4294967296)
    (hK : K.inbound = UInt32.ofNat s.inbound) :
    (generatedHistory C s.keys bd K h).length ≤ allowance (h.map modelItem) := by
  rw [generated_history_is_the_contract C bd h hok s K hs hL hr hK]
  exact contract_length_le C s.keys _ _

/-- … and prefix by prefix: after the first `n` calls no more has been sent than THEIR contexts allowed (the history's prefix is a
    history) -/
theorem generated_history_prefix_within_contexts (C : Ops) (bd : Bytes → Bool) (h : List HistItem) (hok : ∀ e ∈ h, e.ok)
    (s : Sess) (K : Conn Decoded) (hs : s.inbound < 4294967296) (hL : s.localID < 4294967296) (hr : s.remoteID < 4294967296)
    (hK : K.inbound = UInt32.ofNat s.inbound) (n : Nat) :
    (generatedHistory C s.keys bd K (h.take n)).length ≤ allowance ((h.take n).map modelItem) :=
  generated_history_within_contexts C bd (h.take n) (fun e he => hok e (List.mem_of_mem_take he)) s K hs hL hr hK

/-- where the sequence counter stands after a history -/
def advance (C : Ops) (k : Keys) : Nat → List (Cmd × List Bytes × List Outcome) → Nat
  | inb, [] => inb
  | inb, (c, _, script) :: rest => advance C k ((inb + (expected (classify C k c) script).1) % 4294967296) rest

theorem contract_append (C : Ops) (k : Keys) (h1 h2 : List (Cmd × List Bytes × List Outcome)) :
    ∀ inb, contract C k inb (h1 ++ h2) = contract C k inb h1 ++ contract C k (advance C k inb h1) h2 := by
  induction h1 with
  | nil => intro _; simp [contract, advance]
  | cons e rest ih =>
    intro inb
    obtain ⟨c, ivs, script⟩ := e
    simp only [List.cons_append, contract, advance, ih, List.append_assoc]

/-- **per call**: the `n`-th call of a history adds at most as many datagrams as ITS OWN context allowed outcomes — an earlier
    call's unused allowance is not carried over -/
theorem generated_history_call_within_its_context (C : Ops) (bd : Bytes → Bool) (h : List HistItem) (hok : ∀ e ∈ h, e.ok)
    (s : Sess) (K : Conn Decoded) (hs : s.inbound < 4294967296) (hL : s.localID < 4294967296) (hr : s.remoteID < 4294967296)
    (hK : K.inbound = UInt32.ofNat s.inbound) (n : Nat) (hn : n < h.length) :
    (generatedHistory C s.keys bd K (h.take (n + 1))).length
      ≤ (generatedHistory C s.keys bd K (h.take n)).length + h[n].2.2.2.2.length := by
  have e1 := generated_history_is_the_contract C bd (h.take (n + 1)) (fun e he => hok e (List.mem_of_mem_take he)) s K hs hL hr hK
  have e2 := generated_history_is_the_contract C bd (h.take n) (fun e he => hok e (List.mem_of_mem_take he)) s K hs hL hr hK
  rw [e1, e2, List.take_succ_eq_append_getElem hn, List.map_append, contract_append, List.length_append]
  have := contract_length_le C s.keys [modelItem h[n]] (advance C s.keys s.inbound ((h.take n).map modelItem))
  have ha : allowance [modelItem h[n]] = h[n].2.2.2.2.length := by simp [allowance, modelItem]
  rw [ha] at this
  simp only [List.map_cons, List.map_nil]
  omega

end Bmc.Proofs.EndToEnd
