import Bmc.Proofs.GenOrch.DetermineCipherSuite
import Bmc.Proofs.C12
/-! C12, first sentence: `determineCipherSuite_gen_eq` (`Proofs/GenOrch`: the translation, with `RetrieveSupportedCipherSuites` and
    `parseCipherSuiteRecordData` underneath, is `determineFull`) with `C12.first_advertised_preference` / `discovery_then_choice` /
    `defaults`; the congruence lemmas make the hypothesis on the BMC concern only the list indices the loop can ask for. -/
namespace Bmc.Proofs.EndToEnd
open Bmc Bmc.Proto Bmc.Proto.Enum Bmc.Spec.Enum Bmc.Lemmas.Enum Bmc.GoOrch Bmc.Gen.Orch Bmc.Lemmas.GenOrch Bmc.Lemmas.GenOrchSuites

/-- the chunk loop only ever asks for list indices 0 … 63 -/
theorem retrieveLoop_congr (limit : Nat) (page page' : Nat → Option Bytes) (h : ∀ w, w < 64 → page w = page' w) :
    ∀ (f i : Nat) (buf : Bytes), retrieveLoop limit page f i buf = retrieveLoop limit page' f i buf := by
  intro f
  induction f with
  | zero => intro i buf; rfl
  | succ f ih =>
    intro i buf
    simp only [retrieveLoop]
    rw [h (i % 64) (Nat.mod_lt _ (by decide))]
    cases page' (i % 64) with
    | none => rfl
    | some chunk =>
      simp only []
      split
      · rfl
      · rw [ih]

theorem retrieveSupportedCipherSuites_congr (page page' : Nat → Option Bytes) (h : ∀ w, w < 64 → page w = page' w) :
    retrieveSupportedCipherSuites page = retrieveSupportedCipherSuites page' := by
  unfold retrieveSupportedCipherSuites retrieveSupportedCipherSuitesL retrieveChunksL
  rw [retrieveLoop_congr 63 page page' h]

theorem determineFull_congr (prefs : List Suite) (page page' : Nat → Option Bytes) (h : ∀ w, w < 64 → page w = page' w) :
    determineFull prefs page = determineFull prefs page' := by
  unfold determineFull discovered
  rw [retrieveSupportedCipherSuites_congr page page' h]

/-- When the BMC serves the specification's encoding of any list of well-formed cipher-suite records of fewer than 1024 bytes (`hlen`; split over 16-byte
    pages: the chunk loop asks for 64 of them at most, so a longer list is cut) and
    the caller names at least two preferences, a proposal made by `determineCipherSuite` AS TRANSLATED ON THIS RUN is the first
    preference that some record advertises. -/
theorem generated_determineCipherSuite_first_preference (b : TBmc) (junk : Junk) (fuel : Nat) (hf : 64 ≤ fuel) (tail : Bytes)
    (prefs : List Gen.Dec.CipherSuite) (log : List GetChannelCipherSuitesReq) (h2 : 2 ≤ prefs.length)
    (ch : UInt8) (hch : ch.toNat < 16) (rs : List Record) (hw : ∀ r ∈ rs, r.wf) (hlen : (encodeRecords rs).length < 1024)
    (hb : ∀ w, w < 64 → pageOf b w = pageOfBody (fun i => some (pageBody ch (encodeRecords rs) i)) w)
    (p : Gen.Dec.CipherSuite)
    (hres : (bmc_V2SessionlessTransport_determineCipherSuite fuel (ansOf b junk) tail prefs log).1 = .ok p) :
    viewSuite p ∈ prefs.map viewSuite ∧
    (∃ r ∈ rs, ∃ e ∈ expand r, suiteOfEntry (view e) = viewSuite p) ∧
    ∀ q ∈ (prefs.map viewSuite).takeWhile (· ≠ viewSuite p), ¬ ∃ r ∈ rs, ∃ e ∈ expand r, suiteOfEntry (view e) = q := by
  obtain ⟨h1, _⟩ := Bmc.Proofs.GenOrch.determineCipherSuite_gen_eq b junk fuel hf tail prefs log
  rw [hres, determineFull_congr _ _ _ hb] at h1
  have hlen2 : 2 ≤ (prefs.map viewSuite).length := by simpa using h2
  cases hd : determineFull (prefs.map viewSuite) (pageOfBody fun i => some (pageBody ch (encodeRecords rs) i)) with
  | propose s d =>
    rw [hd] at h1
    simp only [RF.map, resultOf, RF.lift] at h1
    injection h1 with h1
    subst h1
    have hdisc : d = true := by
      have hd' := hd
      rw [Bmc.Proofs.C12.discovery_then_choice (prefs.map viewSuite) ch hch rs hw hlen,
        Bmc.Proofs.C12.determine_many _ hlen2] at hd'
      dsimp only at hd'
      split at hd' <;> cases hd'
      rfl
    subst hdisc
    exact Bmc.Proofs.C12.first_advertised_preference (prefs.map viewSuite) hlen2 ch hch rs hw hlen (viewSuite p) hd
  | _ => rw [hd] at h1; simp [RF.map, resultOf, RF.lift] at h1

/-- ONE preference: `determineCipherSuite` AS TRANSLATED ON THIS RUN proposes it and asks the BMC nothing — for EVERY BMC -/
theorem generated_determineCipherSuite_single (b : TBmc) (junk : Junk) (fuel : Nat) (hf : 64 ≤ fuel) (tail : Bytes)
    (p : Gen.Dec.CipherSuite) (log : List GetChannelCipherSuitesReq) :
    (bmc_V2SessionlessTransport_determineCipherSuite fuel (ansOf b junk) tail [p] log).1.map viewSuite = RF.ok (viewSuite p) ∧
    (bmc_V2SessionlessTransport_determineCipherSuite fuel (ansOf b junk) tail [p] log).2.map viewReq = log.map viewReq := by
  obtain ⟨h1, h2⟩ := Bmc.Proofs.GenOrch.determineCipherSuite_gen_eq b junk fuel hf tail [p] log
  have e : determineFull ([p].map viewSuite) (pageOf b) = .propose (viewSuite p) false := rfl
  rw [e] at h1 h2
  exact ⟨h1, by simpa [discoveryRan] using h2⟩

/-- NO preference, against a BMC serving the encoding of any well-formed records of fewer than 1024 bytes: the translated code proposes suite 17 when it
    is advertised, else suite 3 when that is, else nothing (the library's documented defaults, `C12.defaults`) -/
theorem generated_determineCipherSuite_defaults (b : TBmc) (junk : Junk) (fuel : Nat) (hf : 64 ≤ fuel) (tail : Bytes)
    (log : List GetChannelCipherSuitesReq) (ch : UInt8) (hch : ch.toNat < 16) (rs : List Record) (hw : ∀ r ∈ rs, r.wf)
    (hlen : (encodeRecords rs).length < 1024)
    (hb : ∀ w, w < 64 → pageOf b w = pageOfBody (fun i => some (pageBody ch (encodeRecords rs) i)) w) :
    let adv := ((rs.flatMap expand).map view).map suiteOfEntry
    (bmc_V2SessionlessTransport_determineCipherSuite fuel (ansOf b junk) tail [] log).1.map viewSuite =
      RF.lift (resultOf
        (if adv.contains ⟨3, 4, 1⟩ then .propose ⟨3, 4, 1⟩ true
         else if adv.contains ⟨1, 1, 1⟩ then .propose ⟨1, 1, 1⟩ true else .noSupported)) := by
  intro adv
  obtain ⟨h1, _⟩ := Bmc.Proofs.GenOrch.determineCipherSuite_gen_eq b junk fuel hf tail [] log
  rw [show ([] : List Gen.Dec.CipherSuite).map viewSuite = [] from rfl, determineFull_congr _ _ _ hb,
    Bmc.Proofs.C12.discovery_then_choice [] ch hch rs hw hlen, Bmc.Proofs.C12.defaults] at h1
  exact h1

/-- the hypothesis on the BMC is satisfiable: e.g. a BMC holding the records of suites 3 and 17 plus an OEM record, answering
    every list index with the corresponding 16-byte page -/
example : ∃ b : TBmc, ∀ w, w < 64 →
    pageOf b w = pageOfBody (fun i => some (pageBody 14 (encodeRecords
      [⟨3, none, 1, [1], [1]⟩, ⟨0x80, some 0x2A2, 1, [1, 2], [1]⟩, ⟨17, none, 3, [4], [1]⟩]) i)) w :=
  ⟨fun q => some { channel := 14, cipherSuiteRecordsChunk := page (encodeRecords
      [⟨3, none, 1, [1], [1]⟩, ⟨0x80, some 0x2A2, 1, [1, 2], [1]⟩, ⟨17, none, 3, [4], [1]⟩]) (q.listIndex.toNat % 64) }, by decide +kernel⟩

end Bmc.Proofs.EndToEnd
