import Bmc.Proofs.EndToEnd.SessionlessC10
import Bmc.Proofs.C09
import Bmc.Proofs.C11
/-! A session-less connection (`V2SessionlessTransport`) is used for many commands one after another — capability and cipher-suite
    discovery, Get System GUID, then the handshake — and the translated code threads one connection value through all of them.
    `generated_sessionless_SendCommand_retries` (SessionlessC10) call for call; hence C10 per call, C17 (nothing of an earlier exchange
    shows in a later one), C09 (`C09.sessionless_null`) and C11 (`C11.sessionless_result_matches_request`). -/
namespace Bmc.Proofs.EndToEnd
open Bmc Bmc.Wire Bmc.Crypto Bmc.Proto Bmc.GoOrch Bmc.GoLoops Bmc.Gen.Loops Bmc.Lemmas.GenLoops Bmc.Proofs.GenLoops

/-- (command, its name, its response layer, what happens to each transmission) -/
abbrev SlItem := Cmd × String × Opaque × List Outcome

/-- per call: (datagrams handed to the transport, what the call returned) -/
def generatedSlHistory (bd : Bytes → Bool) (fuel : Nat) : Conn Decoded → List SlItem → List (List Bytes × RF (UInt8 × Option GoErr))
  | _, [] => []
  | K, (c, name, rsp, script) :: rest =>
    let r := V2Sessionless_SendCommand (slWorld c bd) fuel (cmdOf c name rsp) ({ ivs := [], script := script, sent := [] }, K)
    (r.2.1.sent, r.1) :: generatedSlHistory bd fuel r.2.2 rest

/-- the documented contract of one call -/
def slContract (bd : Bytes → Bool) (e : SlItem) : List Bytes × RF (UInt8 × Option GoErr) :=
  (List.replicate (slExpected (slClassify e.1) e.2.2.2).1 (slSerialize e.1).2,
   match (slExpected (slClassify e.1) e.2.2.2).2 with
   | .ok cc p => .ok (cc, if e.2.2.1 != 0 ∧ bd p = false then some .response else none)
   | .transportErr => .ok (0, some .transport)
   | .serializeErr => .ok (0, some .serialize)
   | .ctxExpired => .ok (0, some .ctx)
   | .crashed => .panic)

/-- call for call, what is sent and what is returned is the documented contract OF THAT CALL ALONE — `slExpected`-many copies of that
    command's one serialisation, that contract's result — whatever the earlier calls on the connection were, sent, received or failed
    with, and whatever value the connection started from -/
theorem generated_sessionless_history (bd : Bytes → Bool) (fuel : Nat) (h : List SlItem)
    (hok : ∀ e ∈ h, e.1.ent < 4294967296 ∧ e.1.reqFails = false ∧ e.2.2.2.length + 1 ≤ fuel) :
    ∀ K : Conn Decoded, generatedSlHistory bd fuel K h = h.map (slContract bd) := by
  induction h with
  | nil => intro _; rfl
  | cons e rest ih =>
    intro K
    obtain ⟨c, name, rsp, script⟩ := e
    obtain ⟨hc, hf, hfu⟩ := hok (c, name, rsp, script) (by simp)
    simp only [] at hc hf hfu
    obtain ⟨h1, h3⟩ := generated_sessionless_SendCommand_retries c hc hf script fuel hfu bd name rsp [] [] K
    simp only [List.nil_append] at h1
    simp only [generatedSlHistory, List.map_cons, slContract]
    rw [h1, h3, ih (fun e he => hok e (by simp [he]))]
    rfl

/-- hence: the starting value of the connection does not matter -/
theorem generated_sessionless_history_ignores_connection (bd : Bytes → Bool) (fuel : Nat) (h : List SlItem)
    (hok : ∀ e ∈ h, e.1.ent < 4294967296 ∧ e.1.reqFails = false ∧ e.2.2.2.length + 1 ≤ fuel) (K K' : Conn Decoded) :
    generatedSlHistory bd fuel K h = generatedSlHistory bd fuel K' h := by
  rw [generated_sessionless_history bd fuel h hok K, generated_sessionless_history bd fuel h hok K']

/-- … and every datagram of the history carries the null session ID and sequence number -/
theorem generated_sessionless_history_null (bd : Bytes → Bool) (fuel : Nat) (h : List SlItem)
    (hok : ∀ e ∈ h, e.1.ent < 4294967296 ∧ e.1.reqFails = false ∧ e.2.2.2.length + 1 ≤ fuel) (K : Conn Decoded) :
    ∀ x ∈ generatedSlHistory bd fuel K h, ∀ p ∈ x.1, sessionIDOf p = 0 ∧ seqOf p = 0 := by
  rw [generated_sessionless_history bd fuel h hok K]
  intro x hx p hp
  obtain ⟨e, _, rfl⟩ := List.mem_map.mp hx
  simp only [slContract] at hp
  rw [List.eq_of_mem_replicate hp]
  exact Bmc.Proofs.C09.sessionless_null e.1

/-- **C11, session-less history, about the translated code**: whenever a call of the history returns a completion code with a nil
    error, a reply delivered DURING THAT CALL decoded (RMCP, null-session wrapper, checksum-valid message) to a message for THAT
    call's command — network function + 1, command number, group-extension body code, OEM enterprise — with that completion code.
    A reply to an earlier command of the history that arrives late is never a later call's result unless it is a reply to the
    later call's command as well. -/
theorem generated_sessionless_history_results (bd : Bytes → Bool) (fuel : Nat) (h : List SlItem)
    (hok : ∀ e ∈ h, e.1.ent < 4294967296 ∧ e.1.reqFails = false ∧ e.2.2.2.length + 1 ≤ fuel) (K : Conn Decoded) :
    ∀ ex ∈ h.zip (generatedSlHistory bd fuel K h), ∀ cc, ex.2.2 = .ok (cc, none) →
      ∃ d msg, Outcome.reply d ∈ ex.1.2.2.2 ∧ slView (slOnReply {} (GoSlice.ofBytes d)) = (.message, some msg) ∧
        msg.function = ex.1.1.fn + 1 ∧ msg.command = ex.1.1.cmd ∧ msg.body = ex.1.1.body ∧ msg.enterprise = ex.1.1.ent ∧
        msg.completionCode = cc := by
  rw [generated_sessionless_history bd fuel h hok K]
  intro ex hex cc hres
  rw [show h.zip (h.map (slContract bd)) = h.map fun e => (e, slContract bd e) by
    simpa using List.zip_map' (f := id) (g := slContract bd) (l := h)] at hex
  obtain ⟨e, hmem, rfl⟩ := List.mem_map.mp hex
  obtain ⟨_, hf, _⟩ := hok e hmem
  simp only [slContract] at hres ⊢
  obtain ⟨e2, _⟩ := Proofs.C10.sessionless_send_refines e.1 hf e.2.2.2
  obtain ⟨p, hm⟩ := cmdResult_ok_inv (rsp := e.2.2.1) (bd := bd) hres
  rw [← e2] at hm
  obtain ⟨d, msg, h1, h2, h3, h4, h5, h6, h7, _⟩ := Proofs.C11.sessionless_result_matches_request e.1 hf e.2.2.2 _ _ hm
  exact ⟨d, msg, h1, h2, h3, h4, h5, h6, h7⟩

end Bmc.Proofs.EndToEnd
