import Bmc.Proofs.EndToEnd.WholeC01
import Bmc.Proofs.EndToEnd.HistoryC09
/-! C09 whole: `generated_session_keys` (WholeC01) with `generated_history_sequence_numbers` (HistoryC09). -/
namespace Bmc.Proofs.EndToEnd
open Bmc Bmc.Wire Bmc.Crypto Bmc.Proto Bmc.GoOrch Bmc.GoLoops Bmc.Gen.Loops Bmc.Lemmas.GenLoops Bmc.Lemmas.GenHs
open Bmc.Spec Bmc.Proofs.C03 Bmc.Proofs.C01

open Bmc.Gen.Hs Bmc.Gen.Orch in
/-- From the first datagram of the session: on the session the translated `newV2Session` returns against the specification's BMC, from a
    connection value whose counter is zero (hypothesis `hK`: the translated session value has no counter field; the Go constructor
    leaves `AuthenticatedSequenceNumbers` zero), over any history that follows the datagrams the translated `SendCommand` hands to the
    transport carry the sequence numbers 1, 2, 3, … in order, no gap, no repeat, never the reserved 0 while fewer than 2³² − 1 have been
    sent, every one addressed to the session ID the BMC chose. -/
theorem generated_session_then_history_sequence_numbers (C : Ops) (hC : C.Lawful) (fuel : Nat)
    (sendS : Unit → GetChannelCipherSuitesReq → Unit × GetChannelCipherSuitesRsp × Bool) (tail : Bytes)
    (opts : V2SessionOpts) (cs : Gen.Dec.CipherSuite) (draw : Bytes)
    (hdet : bmc_V2SessionlessTransport_determineCipherSuite fuel sendS tail opts.cipherSuites () = (.ok cs, ()))
    (b : Spec.BmcSide) (hb : b.wf) (hh : HashAlg)
    (hauth : authHash (optsOf opts cs).auth = some hh)
    (hinteg : (optsOf opts cs).integ = 1 ∨ (optsOf opts cs).integ = 2 ∨ (optsOf opts cs).integ = 4)
    (hconf : (optsOf opts cs).conf = 1) (hpass : b.kuid = (optsOf opts cs).pass) (hkg : b.kg = (optsOf opts cs).kg)
    (bd : Bytes → Bool) (K : Conn Decoded) (hK : K.inbound = 0)
    (h : List HistItem) (hok : ∀ e ∈ h, e.ok) :
    let o := optsOf opts cs
    let rm := GoKeys.copyArr 16 (List.replicate 16 0) draw
    ∃ sess, (bmc_V2SessionlessTransport_newV2Session fuel sendS (typedO b) (typedR1 C hh b o rm) (typedR3 C hh b o rm) tail
              (Bmc.Lemmas.GenKeys.mac C) (fun _ _ => ((), some draw)) opts ()).1 = .ok (.ok sess) ∧
      (generatedHistory C (keysOfSession sess) bd K h).map seqOf
        = (List.range (generatedHistory C (keysOfSession sess) bd K h).length).map (fun i => (i + 1) % 4294967296) ∧
      (∀ p ∈ generatedHistory C (keysOfSession sess) bd K h, sessionIDOf p = b.sidc) := by
  intro o rm
  obtain ⟨sess, hs, hk⟩ := generated_session_keys C hC fuel sendS tail opts cs draw hdet b hb hh hauth hinteg hconf hpass hkg
  refine ⟨sess, hs, ?_⟩
  rw [hk]
  have t : Tied _ (Keys.sess ⟨1, b.sidc, o.integ.toNat, b.k1 C hh (received o rm), (b.k2 C hh (received o rm)).take 16⟩) K :=
    .fresh (show 1 < 4294967296 by decide) hb.1 hK
  obtain ⟨t1, t2⟩ := generated_history_sequence_numbers C bd h hok _ K t.inb t.loc t.rem t.cnt
  refine ⟨?_, t2⟩
  have e : (fun i => (i + 1) % 4294967296) = fun i : Nat => (0 + i + 1) % 4294967296 := by
    funext i; rw [Nat.zero_add]
  rw [e]
  exact t1

end Bmc.Proofs.EndToEnd
