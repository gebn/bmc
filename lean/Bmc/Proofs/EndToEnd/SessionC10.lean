import Bmc.Proofs.GenLoops.BuildAndSend
import Bmc.Proofs.C10
/-! C10 (retry liveness in a session): `V2Session_SendCommand_gen_eq` with `C10.busy_then_final`. -/
namespace Bmc.Proofs.EndToEnd
open Bmc Bmc.Wire Bmc.Crypto Bmc.Proto Bmc.GoOrch Bmc.GoLoops Bmc.Gen.Loops Bmc.Lemmas.GenLoops Bmc.Proofs.GenLoops Bmc.Proofs.C10

/-- The BMC answers ANY number of times with conforming responses carrying a temporary completion code (node busy C0h / timeout
    C3h) and then with a conforming response carrying another code: `SendCommand` AS TRANSLATED ON THIS RUN hands the transport the
    command's datagram once per answer — each the complete datagram for THIS command with the next sequence number and IV draw — and
    returns that final code (and reports a body that does not decode). Every lawful crypto, key set, command, counter, number of busy
    answers, whatever follows in the script and whatever earlier traffic left on the connection. -/
theorem generated_SendCommand_busy_then_final (C : Ops) (hC : C.Lawful) (c : Cmd) (hc : c.ent < 4294967296) (hf : c.reqFails = false)
    (s : Sess) (hs : s.inbound < 4294967296) (hid : s.localID < 4294967296) (hr : s.remoteID < 4294967296)
    (busy : List BmcAnswer) (fin : BmcAnswer) (rest : List Outcome) (ivs : List Bytes)
    (hb : ∀ a ∈ busy, a.ok C s.keys c ∧ isTemp a.cc = true) (hfin : fin.ok C s.keys c) (hnt : isTemp fin.cc = false)
    (hl : busy.length + 1 + rest.length ≤ ivs.length) (fuel : Nat) (hfu : busy.length + 1 + rest.length ≤ fuel)
    (bd : Bytes → Bool) (name : String) (rsp : Opaque) (K : Conn Decoded) (hK : K.inbound = UInt32.ofNat s.inbound) :
    let script := busy.map (BmcAnswer.datagram C s.keys c) ++ fin.datagram C s.keys c :: rest
    let r := V2Session_SendCommand (sessWorld C s.keys c bd) fuel (sessConsts s.keys) (cmdOf c name rsp)
              ({ ivs := ivs, script := script, sent := [] }, K)
    r.2.1.sent = (List.range (busy.length + 1)).map (fun i => datagramOf C s.keys c ((s.inbound + i) % 4294967296) (ivs.getD i [])) ∧
    r.1 = .ok (fin.cc, if rsp != 0 ∧ bd fin.data = false then some .response else none) := by
  intro script r
  have hlen : script.length = busy.length + 1 + rest.length := by simp [script]; omega
  obtain ⟨a1, _, a3⟩ := V2Session_SendCommand_gen_eq C c hc s hs hid hr ivs script (by simp [script]) (by omega) fuel (by omega)
    bd name rsp [] K hK
  have h := busy_then_final C hC c hf s hs hid busy fin rest ivs hb hfin hnt hl
  rw [h] at a1 a3
  exact ⟨by simpa using a1, a3⟩

end Bmc.Proofs.EndToEnd
