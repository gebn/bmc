import Bmc.Proofs.GenLoops.BuildAndSend
import Bmc.Proofs.C03
import Bmc.Proofs.C10
/-! C03 and C10 for one call of the in-session loop: `V2Session_buildAndSend_gen_eq` with `sendLoop_spec`. -/
namespace Bmc.Proofs.EndToEnd
open Bmc Bmc.Wire Bmc.Crypto Bmc.Proto Bmc.GoOrch Bmc.GoLoops Bmc.Gen.Loops Bmc.Lemmas.GenLoops Bmc.Proofs.GenLoops

/-- C03 / C10 for the regenerated loop: whatever the BMC answers, what the TRANSLATED `buildAndSend` hands to the transport
    is — datagram by datagram — the specification-shaped packet for the caller's command: the i-th one is `nthDatagram`
    (RMCP header, session wrapper addressed to the BMC's session ID with sequence number counter+i+1, the AES payload of the
    request message under the i-th IV draw, integrity pad, AuthCode under K1 — `C03.datagram_shape`), as many of them as the
    documented contract `expected` says (one per attempt until the first final answer: C10), and every retransmission is again
    the complete packet for that same command. -/
theorem generated_loop_datagrams (C : Ops) (c : Cmd) (hc : c.ent < 4294967296) (hf : c.reqFails = false) (s : Sess)
    (hs : s.inbound < 4294967296) (hL : s.localID < 4294967296) (hr : s.remoteID < 4294967296)
    (ivs : List Bytes) (script : List Outcome) (hne : script ≠ []) (hl : script.length ≤ ivs.length)
    (fuel : Nat) (hfu : script.length ≤ fuel) (bd : Bytes → Bool) (name : String) (rsp : Opaque)
    (K : Conn Decoded) (hK : K.inbound = UInt32.ofNat s.inbound) :
    let r := V2Session_buildAndSend (sessWorld C s.keys c bd) fuel (sessConsts s.keys) (cmdOf c name rsp)
              ({ ivs := ivs, script := script, sent := [] }, K)
    r.2.1.sent = (List.range (expected (classify C s.keys c) script).1).map (nthDatagram C s.keys c s.inbound ivs) ∧
    resOf r.1 r.2.2 = some (expected (classify C s.keys c) script).2 := by
  intro r
  obtain ⟨h1, h2, _⟩ := V2Session_buildAndSend_gen_eq C c hc s hs hL hr ivs script hne hl fuel hfu bd name rsp [] K hK
  simp only [List.nil_append] at h1
  obtain ⟨s1, s2, _, _⟩ := sendLoop_spec C c hf s hs ivs script hl
  exact ⟨by rw [h1, s2], by rw [← s1]; exact h2⟩

end Bmc.Proofs.EndToEnd
