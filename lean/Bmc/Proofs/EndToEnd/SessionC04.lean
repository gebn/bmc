import Bmc.Proofs.GenLoops.BuildAndSend
import Bmc.Proofs.C04
/-! C04 for one call of the in-session loop: `V2Session_buildAndSend_gen_eq` with `C04.accept_sound`. -/
namespace Bmc.Proofs.EndToEnd
open Bmc Bmc.Wire Bmc.Crypto Bmc.Proto Bmc.GoOrch Bmc.GoLoops Bmc.Gen.Loops Bmc.Lemmas.GenLoops Bmc.Proofs.GenLoops

/-- C04 for the regenerated loop: when the translated `buildAndSend` returns nil, some reply of the script decodes to a
    session wrapper addressed to THIS session which — in a session with an integrity algorithm — has the authenticated flag
    set and satisfies the MAC equation under K1, and whose payload, when encrypted, decrypts under K2 to a valid pad. -/
theorem generated_loop_accepts_only_authentic (C : Ops) (c : Cmd) (hc : c.ent < 4294967296) (hf : c.reqFails = false) (s : Sess)
    (hs : s.inbound < 4294967296) (hL : s.localID < 4294967296) (hr : s.remoteID < 4294967296)
    (ivs : List Bytes) (script : List Outcome) (hne : script ≠ []) (hl : script.length ≤ ivs.length)
    (fuel : Nat) (hfu : script.length ≤ fuel) (bd : Bytes → Bool) (name : String) (rsp : Opaque)
    (K : Conn Decoded) (hK : K.inbound = UInt32.ofNat s.inbound) :
    let r := V2Session_buildAndSend (sessWorld C s.keys c bd) fuel (sessConsts s.keys) (cmdOf c name rsp)
              ({ ivs := ivs, script := script, sent := [] }, K)
    r.1 = .ok none →
    ∃ d rm p v2, Outcome.reply d ∈ script ∧
      RMCP.decodeGo {} (GoSlice.ofBytes d) = .ok (rm, p) ∧
      V2Session.decode (integMac C s.integ s.k1) p.vis = .ok v2 ∧
      (s.integ ≠ 0 → v2.authenticated = true) ∧
      v2.id = s.localID ∧
      (v2.authenticated = true → ∃ off, off ≤ p.vis.length ∧ v2.signature = p.vis.drop off ∧
          p.vis.drop off = integMac C s.integ s.k1 (p.vis.take off)) ∧
      (v2.encrypted = true → ∃ a, AESLayer.decodeGo C s.k2 true {} (GoSlice.ofBytes v2.payload) = .ok a) := by
  intro r hok
  obtain ⟨_, h2, _⟩ := V2Session_buildAndSend_gen_eq C c hc s hs hL hr ivs script hne hl fuel hfu bd name rsp [] K hK
  exact Bmc.Proofs.C04.accept_sound C c hf s hs ivs script hl _ _ (resOf_ok h2 hok)

end Bmc.Proofs.EndToEnd
