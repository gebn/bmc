import Bmc.Proofs.GenLoops.BuildAndSendCommand
import Bmc.Proofs.C09
/-! C09, second sentence, for the session-less command loop: `V2Sessionless_buildAndSendCommand_gen_eq` with `C09.sessionless_all_null`. -/
namespace Bmc.Proofs.EndToEnd
open Bmc Bmc.Wire Bmc.Crypto Bmc.Proto Bmc.GoOrch Bmc.GoLoops Bmc.Gen.Loops Bmc.Lemmas.GenLoops Bmc.Proofs.GenLoops

/-- C09, second sentence, for the regenerated loop: every datagram the translated `buildAndSendCommand` hands to the transport
    carries session ID 0 and sequence number 0, whatever the BMC answers. -/
theorem generated_sessionless_loop_null_session (c : Cmd) (hc : c.ent < 4294967296) (script : List Outcome)
    (fuel : Nat) (hfu : script.length + 1 ≤ fuel) (bd : Bytes → Bool) (name : String) (rsp : Opaque)
    (ivs : List Bytes) (K : Conn Decoded) :
    let r := V2Sessionless_buildAndSendCommand (slWorld c bd) fuel (cmdOf c name rsp) ({ ivs := ivs, script := script, sent := [] }, K)
    ∀ p ∈ r.2.1.sent, sessionIDOf p = 0 ∧ seqOf p = 0 := by
  intro r p hp
  obtain ⟨h1, _, _⟩ := V2Sessionless_buildAndSendCommand_gen_eq c hc script fuel hfu bd name rsp ivs [] K
  simp only [List.nil_append] at h1
  have hp' : p ∈ (slSend c script).1 := by rw [← h1]; exact hp
  exact Bmc.Proofs.C09.sessionless_all_null c script p hp'

end Bmc.Proofs.EndToEnd
