import Bmc.Proofs.EndToEnd.HistoryC09
/-! C17 over the whole life of a session: `generatedHistory_eq` (HistoryC09) and `generatedResults_eq` express what is sent and returned
    through the hand model, which has none of the state earlier traffic leaves behind. -/
namespace Bmc.Proofs.EndToEnd
open Bmc Bmc.Wire Bmc.Crypto Bmc.Proto Bmc.GoOrch Bmc.GoLoops Bmc.Gen.Loops Bmc.Lemmas.GenLoops Bmc.Proofs.GenLoops Bmc.Proofs.C09

theorem generatedResults_eq (C : Ops) (bd : Bytes → Bool) (h : List HistItem) (hok : ∀ e ∈ h, e.ok) :
    ∀ (s : Sess) (K : Conn Decoded), s.inbound < 4294967296 → s.localID < 4294967296 → s.remoteID < 4294967296 →
      K.inbound = UInt32.ofNat s.inbound →
      generatedResults C s.keys bd K h = modelResults C bd s h :=
  fun _ _ hs hL hr hK => generatedResults_eq_tied C bd h (fun e he => (hok e he).weaken) ⟨rfl, hs, hL, hr, hK⟩

/-- **C17, history form, about the translated code**: take two connection values that agree on the sequence counter and differ
    ARBITRARILY in everything else earlier traffic can have left behind — the layer structs (RMCP, session wrapper, message) as
    last decoded or serialised, the decoded-layer list, the serialise buffer, the metric events — and run
    the same history of commands on each with the translated `SendCommand`, every call on the connection value the previous one
    left. The datagrams handed to the transport are the same, call for call, and so is what every call returns. -/
theorem generated_history_ignores_what_the_connection_holds (C : Ops) (bd : Bytes → Bool) (h : List HistItem) (hok : ∀ e ∈ h, e.ok)
    (s : Sess) (hs : s.inbound < 4294967296) (hL : s.localID < 4294967296) (hr : s.remoteID < 4294967296)
    (K K' : Conn Decoded) (hK : K.inbound = UInt32.ofNat s.inbound) (hK' : K'.inbound = UInt32.ofNat s.inbound) :
    generatedHistory C s.keys bd K h = generatedHistory C s.keys bd K' h ∧
    generatedResults C s.keys bd K h = generatedResults C s.keys bd K' h := by
  rw [generatedHistory_eq C bd h hok s K hs hL hr hK, generatedHistory_eq C bd h hok s K' hs hL hr hK',
      generatedResults_eq C bd h hok s K hs hL hr hK, generatedResults_eq C bd h hok s K' hs hL hr hK']
  exact ⟨rfl, rfl⟩

/-- two such connection values exist and differ: a fresh one, and one whose message layer and buffer still hold an earlier exchange -/
example : ∃ K K' : Conn Decoded, K.inbound = K'.inbound ∧ K.buffer ≠ K'.buffer ∧ K.layers.message.payload ≠ K'.layers.message.payload :=
  ⟨{ decoded := .fail }, { decoded := .message, buffer := [1, 2, 3], layers := { message := { payload := [9] } } }, rfl, by decide, by decide⟩

end Bmc.Proofs.EndToEnd
