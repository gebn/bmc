import Bmc.Proofs.EndToEnd.HistoryC03
import Bmc.Lemmas.RequestsPacket
/-! C06 for the in-session requests of a history: `generated_history_datagrams` (HistoryC03), `wrapper_opens`, `payload_decrypts` and
    `Wire.Req.message_parses`. -/
namespace Bmc.Proofs.EndToEnd
open Bmc Bmc.Wire Bmc.Crypto Bmc.Proto Bmc.GoOrch Bmc.GoLoops Bmc.Gen.Loops Bmc.Lemmas.GenLoops Bmc.Proofs.GenLoops Bmc.Proofs.C09
open Bmc.Proofs.C03 Bmc.Wire.Req

/-- the command of a history item as the request model's `Operation` -/
def opOf (c : Proto.Cmd) : Operation := ⟨c.fn, c.body, c.ent, c.cmd⟩

theorem requestMessage_eq (c : Proto.Cmd) : requestMessage c = messageLayer (opOf c) c.lun := rfl

/-- `HistoryC03` opens every datagram of a session history down to the serialised IPMI message with the library's own decoder. Here
    the decrypted message bytes are read by the reference parser `Spec.Req.parseMessage` — written from the specification's tables,
    independent of the library's layers — and it reads, for every datagram the translated `SendCommand` hands to the transport over
    any history: responder address 20h, the command's network function and LUN, requester 81h, the command number, the
    group-extension or OEM prefix the function calls for, and exactly the caller's request data. -/
theorem generated_history_requests_parse (C : Ops) (hC : C.Lawful) (bd : Bytes → Bool) (h : List HistItem) (hok : ∀ e ∈ h, e.ok)
    (s : Sess) (K : Conn Decoded) (hs : s.inbound < 4294967296) (hL : s.localID < 4294967296) (hr : s.remoteID < 4294967296)
    (hK : K.inbound = UInt32.ofNat s.inbound)
    (hiv : ∀ e ∈ h, ∀ iv ∈ e.2.2.2.1, iv.length = 16 ∧ (aesPayload C s.keys e.1 iv).length < 65536)
    (hreq : ∀ e ∈ h, e.1.fn.toNat < 64 ∧ e.1.fn.toNat % 2 = 0 ∧ e.1.lun.toNat < 4 ∧ e.1.ent < 16777216) :
    ∀ p ∈ generatedHistory C s.keys bd K h, ∃ e ∈ h, ∃ v a,
      V2Session.decode (integMac C s.keys.integ s.keys.k1) (p.drop 4) = .ok v ∧
      AESLayer.decode C s.keys.k2 v.payload = .ok a ∧
      Spec.Req.parseMessage a.payload =
        some ({ rsAddr := 0x20, netFn := e.1.fn.toNat, rsLUN := e.1.lun.toNat, rqAddr := 0x81, rqSeq := 1, rqLUN := 0
                cmd := e.1.cmd.toNat, ext := Bmc.Wire.Req.expectedExt (opOf e.1) }, e.1.req) := by
  intro p hp
  obtain ⟨e, he, inb, iv, hmem, rfl⟩ := generated_history_datagrams C bd h hok s K hs hL hr hK p hp
  obtain ⟨h16, hlen⟩ := hiv e he iv hmem
  obtain ⟨hf, hq, hl, hent⟩ := hreq e he
  obtain ⟨v, hv, _, _, _, _, _, a6⟩ := wrapper_opens C s.keys hr e.1 inb iv hlen
  refine ⟨e, he, v, { contents := iv, payload := messageBytes e.1 }, hv, ?_, ?_⟩
  · rw [a6]; exact payload_decrypts C hC s.keys e.1 iv h16
  · show Spec.Req.parseMessage (Message.encode (requestMessage e.1) e.1.req).2 = _
    rw [requestMessage_eq]
    exact Bmc.Wire.Req.message_parses (opOf e.1) e.1.lun e.1.req hf hq hl hent

/-- the additional hypothesis is met by the example history of `HistoryC03` (Get Device ID, DCMI Get Power Reading) -/
example : ∀ e ∈ exampleHistory, e.1.fn.toNat < 64 ∧ e.1.fn.toNat % 2 = 0 ∧ e.1.lun.toNat < 4 ∧ e.1.ent < 16777216 := by
  simp only [exampleHistory, List.mem_cons, List.not_mem_nil, or_false, forall_eq_or_imp, forall_eq]
  decide

end Bmc.Proofs.EndToEnd
