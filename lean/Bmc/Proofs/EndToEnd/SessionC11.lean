import Bmc.Proofs.GenLoops.BuildAndSend
import Bmc.Proofs.C11
/-! C11 for one call of the in-session loop: `V2Session_buildAndSend_gen_eq` with `C11.session_result_matches_request`. -/
namespace Bmc.Proofs.EndToEnd
open Bmc Bmc.Wire Bmc.Crypto Bmc.Proto Bmc.GoOrch Bmc.GoLoops Bmc.Gen.Loops Bmc.Lemmas.GenLoops Bmc.Proofs.GenLoops

/-- C11 for the regenerated loop: when the translated `buildAndSend` returns nil, the completion code and payload it leaves in
    the message layer come from a reply of the script that decodes to a message for THIS operation (network function + 1,
    command, body code, enterprise number). -/
theorem generated_loop_result_matches_request (C : Ops) (c : Cmd) (hc : c.ent < 4294967296) (hf : c.reqFails = false) (s : Sess)
    (hs : s.inbound < 4294967296) (hL : s.localID < 4294967296) (hr : s.remoteID < 4294967296)
    (ivs : List Bytes) (script : List Outcome) (hne : script ≠ []) (hl : script.length ≤ ivs.length)
    (fuel : Nat) (hfu : script.length ≤ fuel) (bd : Bytes → Bool) (name : String) (rsp : Opaque)
    (K : Conn Decoded) (hK : K.inbound = UInt32.ofNat s.inbound) :
    let r := V2Session_buildAndSend (sessWorld C s.keys c bd) fuel (sessConsts s.keys) (cmdOf c name rsp)
              ({ ivs := ivs, script := script, sent := [] }, K)
    r.1 = .ok none →
    ∃ d v2 msg, Outcome.reply d ∈ script ∧
      view (onReply C s.keys.sess (GoSlice.ofBytes d)) = (.message, some (v2, msg)) ∧
      msg.function = c.fn + 1 ∧ msg.command = c.cmd ∧ msg.body = c.body ∧ msg.enterprise = c.ent ∧
      msg.completionCode = r.2.2.layers.message.completionCode ∧ msg.payload = r.2.2.layers.message.payload := by
  intro r hok
  obtain ⟨_, h2, _⟩ := V2Session_buildAndSend_gen_eq C c hc s hs hL hr ivs script hne hl fuel hfu bd name rsp [] K hK
  exact Bmc.Proofs.C11.session_result_matches_request C c hf s hs ivs script hl _ _ (resOf_ok h2 hok)

end Bmc.Proofs.EndToEnd
