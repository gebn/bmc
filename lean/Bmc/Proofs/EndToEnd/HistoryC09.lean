import Bmc.Proofs.EndToEnd.HistoryC09Fail
/-! C09 over the whole life of a session, for histories every command of which serialises (`HistItem.ok`): the theorems of
    `HistoryC09Fail` at `HistItem.ok.weaken`. -/
namespace Bmc.Proofs.EndToEnd
open Bmc Bmc.Wire Bmc.Crypto Bmc.Proto Bmc.GoOrch Bmc.GoLoops Bmc.Gen.Loops Bmc.Lemmas.GenLoops Bmc.Proofs.GenLoops Bmc.Proofs.C09

theorem generatedHistory_eq (C : Ops) (bd : Bytes → Bool) (h : List HistItem) (hok : ∀ e ∈ h, e.ok) :
    ∀ (s : Sess) (K : Conn Decoded), s.inbound < 4294967296 → s.localID < 4294967296 → s.remoteID < 4294967296 →
      K.inbound = UInt32.ofNat s.inbound →
      generatedHistory C s.keys bd K h = (runHistory C s (h.map modelItem)).2 :=
  fun _ _ hs hL hr hK => generatedHistory_eq_tied C bd h (fun e he => (hok e he).weaken) ⟨rfl, hs, hL, hr, hK⟩

/-- **C09, history form, about the translated code**: sequence numbers counter+1, counter+2, … with no gap and no repeat, all addressed
    to the BMC's session ID, across any sequence of commands, retransmissions, temporary codes, undecodable or forged replies and
    transport failures — in a history of calls each made before its context's end (`HistItem.ok`: `script ≠ []`; a call made after
    it burns a number without transmitting, `V2Session_buildAndSend_expired_context`, and the next datagram skips it) -/
theorem generated_history_sequence_numbers (C : Ops) (bd : Bytes → Bool) (h : List HistItem) (hok : ∀ e ∈ h, e.ok)
    (s : Sess) (K : Conn Decoded) (hs : s.inbound < 4294967296) (hL : s.localID < 4294967296) (hr : s.remoteID < 4294967296)
    (hK : K.inbound = UInt32.ofNat s.inbound) :
    (generatedHistory C s.keys bd K h).map seqOf
      = (List.range (generatedHistory C s.keys bd K h).length).map (fun i => (s.inbound + i + 1) % 4294967296) ∧
    (∀ p ∈ generatedHistory C s.keys bd K h, sessionIDOf p = s.remoteID) :=
  generated_history_sequence_numbers_any C bd h (fun e he => (hok e he).weaken) s K hs hL hr hK

/-- … and NO NUMBER IS USED FOR TWO DATAGRAMS, for every starting counter (0xFFFFFFFF included) and every history of at most 2^32
    transmissions -/
theorem generated_history_no_reuse (C : Ops) (bd : Bytes → Bool) (h : List HistItem) (hok : ∀ e ∈ h, e.ok)
    (s : Sess) (K : Conn Decoded) (hs : s.inbound < 4294967296) (hL : s.localID < 4294967296) (hr : s.remoteID < 4294967296)
    (hK : K.inbound = UInt32.ofNat s.inbound) (hn : (generatedHistory C s.keys bd K h).length ≤ 4294967296)
    (i j : Nat) (hij : i < j) (hj : j < (generatedHistory C s.keys bd K h).length) :
    ((generatedHistory C s.keys bd K h).map seqOf).getD i 0 ≠ ((generatedHistory C s.keys bd K h).map seqOf).getD j 0 :=
  generated_history_no_reuse_any C bd h (fun e he => (hok e he).weaken) s K hs hL hr hK hn i j hij hj

end Bmc.Proofs.EndToEnd
