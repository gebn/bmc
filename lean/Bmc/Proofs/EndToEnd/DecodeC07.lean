import Bmc.Proofs.C07.Basic
import Bmc.Proofs.C07.Sess
import Bmc.Proofs.C07.Sdr
import Bmc.Proofs.C07.Dcmi
import Bmc.Proofs.GenDec.GetDeviceIDRsp
import Bmc.Proofs.GenDec.GetChannelAuthenticationCapabilitiesRsp
import Bmc.Proofs.GenDec.GetChannelCipherSuitesRsp
import Bmc.Proofs.GenDec.SetSessionPrivilegeLevelRsp
import Bmc.Proofs.GenDec.GetSystemGUIDRsp
import Bmc.Proofs.GenDec.GetSessionInfoRsp
import Bmc.Proofs.GenDec.GetChassisStatusRsp
import Bmc.Proofs.GenDec.GetSDRRepositoryInfoRsp
import Bmc.Proofs.GenDec.ReserveSDRRepositoryRsp
import Bmc.Proofs.GenDec.GetSDRRsp
import Bmc.Proofs.GenDec.SDR
import Bmc.Proofs.GenDec.GetSensorReadingRsp
import Bmc.Proofs.GenDec.FullSensorRecord
import Bmc.Proofs.GenDec.GetPowerReadingRsp
import Bmc.Proofs.GenDec.GetDCMISensorInfoRsp
import Bmc.Proofs.GenDec.GetDCMICapabilitiesInfoSupportedCapabilitiesRsp
import Bmc.Proofs.GenDec.GetDCMICapabilitiesInfoMandatoryPlatformAttrsRsp
import Bmc.Proofs.GenDec.GetDCMICapabilitiesInfoOptionalPlatformAttrsRsp
import Bmc.Proofs.GenDec.GetDCMICapabilitiesInfoManageabilityAccessAttrsRsp
import Bmc.Proofs.GenDec.GetDCMICapabilitiesInfoEnhancedSystemPowerStatisticsAttrsRsp
/-! C07 (and the receiver half of C17) per decoder: `X_gen_eq` (`Proofs/GenDec`), `decodeGo_refines` / `decodeGo_canon`, `X_decode_spec`
    (`Proofs/C07`). For EVERY previous content of the receiver and EVERY Go slice — any capacity, any bytes beyond `len` — whose visible
    bytes are the specification's encoding of a well-formed value, the regenerated decoder returns exactly that value's view. -/
namespace Bmc.Proofs.EndToEnd
open Bmc Bmc.Gen.Dec Bmc.Lemmas.GenDec Bmc.Proofs.C07 Bmc.Proofs.GenDec

theorem generated_GetDeviceIDRsp_decodes (prev : GetDeviceIDRsp) (d : GoSlice) (v : Spec.DeviceID) (hv : v.wf)
    (hd : d.vis = v.encode) :
    (GetDeviceIDRsp.decodeGo prev d).map GetDeviceIDRsp.toModel = R.ok (deviceIDView v) := by
  rw [GetDeviceIDRsp_gen_eq, Wire.GetDeviceIDRsp.decodeGo_refines, hd, deviceID_decode_spec v hv]; rfl

theorem generated_AuthCapsRsp_decodes (prev : GetChannelAuthenticationCapabilitiesRsp) (d : GoSlice) (v : Spec.AuthCaps)
    (hv : v.wf) (hd : d.vis = v.encode) :
    (GetChannelAuthenticationCapabilitiesRsp.decodeGo prev d).map GetChannelAuthenticationCapabilitiesRsp.toModel
      = R.ok (authCapsView v) := by
  rw [GetChannelAuthenticationCapabilitiesRsp_gen_eq, (Wire.AuthCapsRsp.decodeGo_canon _ d).1, hd, authCaps_decode_spec v hv]

theorem generated_CipherSuitesRsp_decodes (prev : GetChannelCipherSuitesRsp) (d : GoSlice) (v : Spec.CipherSuites)
    (hv : v.wf) (hd : d.vis = v.encode) :
    (GetChannelCipherSuitesRsp.decodeGo prev d).map GetChannelCipherSuitesRsp.toModel = R.ok (cipherSuitesView v) := by
  rw [GetChannelCipherSuitesRsp_gen_eq, (Wire.CipherSuitesRsp.decodeGo_canon _ d).1, hd, cipherSuites_decode_spec v hv]

theorem generated_SetPrivRsp_decodes (prev : SetSessionPrivilegeLevelRsp) (d : GoSlice) (v : Spec.SetPriv)
    (hv : v.wf) (hd : d.vis = v.encode) :
    (SetSessionPrivilegeLevelRsp.decodeGo prev d).map SetSessionPrivilegeLevelRsp.toModel = R.ok (setPrivView v) := by
  rw [SetSessionPrivilegeLevelRsp_gen_eq, (Wire.SetPrivRsp.decodeGo_canon _ d).1, hd, setPriv_decode_spec v hv]

theorem generated_GUIDRsp_decodes (prev : GetSystemGUIDRsp) (d : GoSlice) (v : Spec.SystemGUID)
    (hv : v.wf) (hd : d.vis = v.encode) :
    (GetSystemGUIDRsp.decodeGo prev d).map GetSystemGUIDRsp.toModel = R.ok (guidView v) := by
  rw [GetSystemGUIDRsp_gen_eq, (Wire.GUIDRsp.decodeGo_canon _ d).1, hd, guid_decode_spec v hv]

theorem generated_SessionInfoRsp_decodes (prev : GetSessionInfoRsp) (d : GoSlice) (v : Spec.SessionInfo)
    (hv : v.wf) (hd : d.vis = v.encode) :
    (GetSessionInfoRsp.decodeGo prev d).map GetSessionInfoRsp.toModel = R.ok (sessionInfoView v) := by
  rw [GetSessionInfoRsp_gen_eq, (Wire.SessionInfoRsp.decodeGo_canon _ d).1, hd, sessionInfo_decode_spec v hv]

theorem generated_ChassisStatusRsp_decodes (prev : GetChassisStatusRsp) (d : GoSlice) (v : Spec.ChassisStatus)
    (hv : v.wf) (hd : d.vis = v.encode) :
    (GetChassisStatusRsp.decodeGo prev d).map GetChassisStatusRsp.toModel = R.ok (chassisView v) := by
  rw [GetChassisStatusRsp_gen_eq, (Wire.GetChassisStatusRsp.decodeGo_canon _ d).1, hd, chassis_decode_spec v hv]

theorem generated_SDRRepoInfoRsp_decodes (prev : GetSDRRepositoryInfoRsp) (d : GoSlice) (v : Spec.SDRRepoInfo)
    (hv : v.wf) (hd : d.vis = v.encode) :
    (GetSDRRepositoryInfoRsp.decodeGo prev d).map GetSDRRepositoryInfoRsp.toModel = R.ok (sdrRepoInfoView v) := by
  rw [GetSDRRepositoryInfoRsp_gen_eq, (Wire.SDRRepoInfoRsp.decodeGo_canon _ d).1, hd, sdrRepoInfo_decode_spec v hv]

theorem generated_ReserveRsp_decodes (prev : ReserveSDRRepositoryRsp) (d : GoSlice) (v : Spec.ReserveSDR)
    (hv : v.wf) (hd : d.vis = v.encode) :
    (ReserveSDRRepositoryRsp.decodeGo prev d).map ReserveSDRRepositoryRsp.toModel
      = R.ok { reservationID := v.reservationID, contents := v.encode } := by
  rw [ReserveSDRRepositoryRsp_gen_eq, (Wire.ReserveRsp.decodeGo_canon _ d).1, hd, reserveSDR_decode_spec v hv]

theorem generated_GetSDRRsp_decodes (prev : GetSDRRsp) (d : GoSlice) (v : Spec.GetSDR) (hv : v.wf) (hd : d.vis = v.encode) :
    (GetSDRRsp.decodeGo prev d).map GetSDRRsp.toModel
      = R.ok { next := v.next, contents := Spec.le16 v.next, payload := v.data } := by
  rw [GetSDRRsp_gen_eq, (Wire.GetSDRRsp.decodeGo_canon _ d).1, hd, getSDR_decode_spec v hv]

theorem generated_FullSensorRecord_decodes (prev : FullSensorRecord) (d : GoSlice) (v : Spec.FullSensor) (hv : v.wf)
    (hd : d.vis = v.encode) :
    (FullSensorRecord.decodeGo prev d).map FullSensorRecord.toModel = R.ok (fullSensorView v) := by
  rw [FullSensorRecord_gen_eq, Wire.FullSensorRecord.decodeGo_refines, hd, fullSensor_decode_spec v hv]; rfl

theorem generated_PowerReadingRsp_decodes (prev : GetPowerReadingRsp) (d : GoSlice) (v : Spec.PowerReading) (hv : v.wf)
    (hd : d.vis = v.encode) :
    (GetPowerReadingRsp.decodeGo prev d).map GetPowerReadingRsp.toModel = R.ok (powerReadingView v) := by
  rw [GetPowerReadingRsp_gen_eq, Wire.PowerReading.decodeGo_refines, hd, powerReading_decode_spec v hv]; rfl

theorem generated_SDRHeader_decodes (prev : SDR) (d : GoSlice) (v : Spec.SDRHeader) (hv : v.wf) (hd : d.vis = v.encode) :
    (SDR.decodeGo prev d).map SDR.toModel
      = R.ok { id := v.id, version := UInt8.ofNat (10 * v.versionMajor + v.versionMinor), typ := v.recordType
               length := UInt8.ofNat v.body.length, contents := v.encode.take 5, payload := v.body } := by
  rw [SDR_gen_eq, (Wire.SDRHeader.decodeGo_canon _ d).1, hd, sdrHeader_decode_spec v hv]

theorem generated_SensorReadingRsp_decodes (prev : GetSensorReadingRsp) (d : GoSlice) (v : Spec.SensorReading)
    (hd : d.vis = v.encode) :
    (GetSensorReadingRsp.decodeGo prev d).map GetSensorReadingRsp.toModel
      = R.ok { reading := v.reading, eventMessagesEnabled := v.eventMessagesEnabled, scanningEnabled := v.scanningEnabled
               readingUnavailable := v.readingUnavailable, contents := v.encode, payload := [] } := by
  rw [GetSensorReadingRsp_gen_eq, (Wire.SensorReadingRsp.decodeGo_canon _ d).1, hd, sensorReading_decode_spec v]

theorem generated_SensorInfoRsp_decodes (prev : GetDCMISensorInfoRsp) (d : GoSlice) (v : Spec.SensorInfo) (hv : v.wf)
    (hd : d.vis = v.encode) :
    (GetDCMISensorInfoRsp.decodeGo prev d).map GetDCMISensorInfoRsp.toView = R.ok (sensorInfoView v) := by
  rw [GetDCMISensorInfoRsp_gen_eq prev {} d, Wire.SensorInfo.decodeGo_refines, hd, sensorInfo_decode_spec v hv]; rfl

theorem generated_Cap1_decodes (prev : GetDCMICapabilitiesInfoSupportedCapabilitiesRsp) (d : GoSlice) (v : Spec.Cap1)
    (hd : d.vis = v.encode) :
    (GetDCMICapabilitiesInfoSupportedCapabilitiesRsp.decodeGo prev d).map
        GetDCMICapabilitiesInfoSupportedCapabilitiesRsp.toModel = R.ok (cap1View v) := by
  rw [GetDCMICapabilitiesInfoSupportedCapabilitiesRsp_gen_eq, Wire.DcmiCap1.decodeGo_refines, hd, cap1_decode_spec v]; rfl

theorem generated_Cap2_decodes (prev : GetDCMICapabilitiesInfoMandatoryPlatformAttrsRsp) (d : GoSlice) (v : Spec.Cap2)
    (hv : v.wf) (hd : d.vis = v.encode) :
    (GetDCMICapabilitiesInfoMandatoryPlatformAttrsRsp.decodeGo prev d).map
        GetDCMICapabilitiesInfoMandatoryPlatformAttrsRsp.toModel = R.ok (cap2View v) := by
  rw [GetDCMICapabilitiesInfoMandatoryPlatformAttrsRsp_gen_eq, Wire.DcmiCap2.decodeGo_refines, hd, cap2_decode_spec v hv]; rfl

theorem generated_Cap3_decodes (prev : GetDCMICapabilitiesInfoOptionalPlatformAttrsRsp) (d : GoSlice) (v : Spec.Cap3)
    (hv : v.wf) (hd : d.vis = v.encode) :
    (GetDCMICapabilitiesInfoOptionalPlatformAttrsRsp.decodeGo prev d).map
        GetDCMICapabilitiesInfoOptionalPlatformAttrsRsp.toModel = R.ok (cap3View v) := by
  rw [GetDCMICapabilitiesInfoOptionalPlatformAttrsRsp_gen_eq, Wire.DcmiCap3.decodeGo_refines, hd, cap3_decode_spec v hv]; rfl

theorem generated_Cap4_decodes (prev : GetDCMICapabilitiesInfoManageabilityAccessAttrsRsp) (d : GoSlice) (v : Spec.Cap4)
    (hd : d.vis = v.encode) :
    (GetDCMICapabilitiesInfoManageabilityAccessAttrsRsp.decodeGo prev d).map
        GetDCMICapabilitiesInfoManageabilityAccessAttrsRsp.toModel = R.ok (cap4View v) := by
  rw [GetDCMICapabilitiesInfoManageabilityAccessAttrsRsp_gen_eq, Wire.DcmiCap4.decodeGo_refines, hd, cap4_decode_spec v]; rfl

theorem generated_Cap5_decodes (prev : Cap5) (d : GoSlice) (v : Spec.Cap5) (hv : v.wf) (hd : d.vis = v.encode) :
    (GetDCMICapabilitiesInfoEnhancedSystemPowerStatisticsAttrsRsp.decodeGo prev d).map
        GetDCMICapabilitiesInfoEnhancedSystemPowerStatisticsAttrsRsp.toModel = R.ok (cap5View v) := by
  rw [GetDCMICapabilitiesInfoEnhancedSystemPowerStatisticsAttrsRsp_gen_eq, Wire.DcmiCap5.decodeGo_refines, hd,
    cap5_decode_spec v hv]; rfl

def sampleDeviceID : Spec.DeviceID :=
  ⟨0x20, true, 1, true, 2, 15, 2, 0, true, false, true, true, true, true, true, true, 343, 0x1234, some (1, 2, 3, 4)⟩
/-- the hypotheses are met by a real response in a slice with foreign bytes in the backing array beyond `len` -/
example : sampleDeviceID.wf
    ∧ (⟨sampleDeviceID.encode ++ [0xde, 0xad], 15, by decide⟩ : GoSlice).vis = sampleDeviceID.encode
    ∧ (⟨sampleDeviceID.encode ++ [0xde, 0xad], 15, by decide⟩ : GoSlice).len
        < (⟨sampleDeviceID.encode ++ [0xde, 0xad], 15, by decide⟩ : GoSlice).buf.length := by decide

end Bmc.Proofs.EndToEnd
