import Bmc.Proofs.GenLoops.BuildAndSendCommand
import Bmc.Proofs.C06
import Bmc.Proofs.C10
import Bmc.Lemmas.ApiSessionless
import Bmc.Proofs.GenLoops.BuildAndSendPayload
import Bmc.Lemmas.RequestsPacket
/-! C06 for whole datagrams: `V2Sessionless_SendCommand_gen_eq` / `V2Sessionless_buildAndSendPayload_gen_eq` with `C06.packet_parses` /
    `payload_packet_parses`. -/
namespace Bmc.Proofs.EndToEnd
open Bmc Bmc.Wire Bmc.Crypto Bmc.Proto Bmc.GoOrch Bmc.GoLoops Bmc.Gen.Loops Bmc.Lemmas.GenLoops Bmc.Proofs.GenLoops

/-- EVERY datagram the session-less `SendCommand` AS TRANSLATED ON THIS RUN hands to the transport — first transmission and every
    retransmission, whatever the BMC answers — parses under the independent reference parser as: RMCP (version 6, sequence FFh, class
    IPMI), v2.0 wrapper with payload type IPMI and the null session, and an IPMI message with valid checksums addressed 20h ← 81h
    carrying exactly the command's NetFn, LUN, command number, group-extension byte / OEM IANA and request data. -/
theorem generated_sessionless_datagram_parses (c : Proto.Cmd) (hc : c.ent < 4294967296) (hf : c.reqFails = false)
    (hop : ({ function := c.fn, body := c.body, enterprise := c.ent, command := c.cmd } : Req.Operation).wf) (hl : c.lun.toNat < 4)
    (hb : Req.bodyFits c.req) (script : List Outcome) (fuel : Nat) (hfu : script.length + 1 ≤ fuel) (bd : Bytes → Bool)
    (name : String) (rsp : Opaque) (ivs : List Bytes) (K : Conn Decoded) :
    ∀ p ∈ (V2Sessionless_SendCommand (slWorld c bd) fuel (cmdOf c name rsp) ({ ivs := ivs, script := script, sent := [] }, K)).2.1.sent,
      Spec.Req.parsePacket p =
        some { payloadType := 0, sessionID := 0, sequence := 0
               ipmi := some { rsAddr := 0x20, netFn := c.fn.toNat, rsLUN := c.lun.toNat, rqAddr := 0x81, rqSeq := 1
                              rqLUN := 0, cmd := c.cmd.toNat
                              ext := if c.fn = 0x2C then .group c.body.toNat else if c.fn = 0x2E then .oem c.ent else .none }
               body := c.req } := by
  intro p hp
  obtain ⟨h1, _, _⟩ := V2Sessionless_SendCommand_gen_eq c hc script fuel hfu bd name rsp ivs [] K
  simp only [List.nil_append] at h1
  rw [h1, (Proofs.C10.sessionless_send_refines c hf script).2] at hp
  have e : p = (slSerialize c).2 := List.eq_of_mem_replicate hp
  rw [e, slSerialize_packet]
  exact Proofs.C06.packet_parses _ c.lun c.req hop hl hb

/-- … and EVERY datagram `buildAndSendPayload` AS TRANSLATED ON THIS RUN hands to the transport for an RMCP+ set-up payload (Open
    Session Request 10h, RAKP Message 1 12h, RAKP Message 3 14h — any payload type other than IPMI / OEM-explicit, any payload
    shorter than 65 536 bytes), retransmissions included, parses as: RMCP header, wrapper with THAT payload type, the null session,
    no IPMI message, and exactly that payload. -/
theorem generated_payload_datagram_parses (ptype : UInt8) (payload : Bytes) (hpt : ptype.toNat < 64) (h0 : ptype ≠ 0) (h2 : ptype ≠ 2)
    (hb : payload.length < 65536) (script : List Outcome) (fuel : Nat) (hfu : script.length + 1 ≤ fuel) (bd : Bytes → Bool)
    (rsp : Opaque) (ivs : List Bytes) (K : Conn Decoded) :
    ∀ p ∈ (V2Sessionless_buildAndSendPayload (plWorld payload false bd) fuel (plOf ptype rsp)
            ({ ivs := ivs, script := script, sent := [] }, K)).2.1.sent,
      Spec.Req.parsePacket p = some { payloadType := ptype.toNat, sessionID := 0, sequence := 0, ipmi := none, body := payload } := by
  intro p hp
  obtain ⟨h1, _⟩ := V2Sessionless_buildAndSendPayload_gen_eq ptype payload script fuel hfu bd rsp ivs [] K
  simp only [List.nil_append] at h1
  rw [h1] at hp
  rw [List.eq_of_mem_replicate hp]
  exact Proofs.C06.payload_packet_parses ptype payload hpt h0 h2 hb

end Bmc.Proofs.EndToEnd
