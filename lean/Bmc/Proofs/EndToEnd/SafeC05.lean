import Bmc.Proofs.C05.Basic
import Bmc.Proofs.C05.Core
import Bmc.Proofs.C05.Dcmi
import Bmc.Proofs.C05.Sdr
import Bmc.Proofs.C05.Sess
import Bmc.Proofs.C05.Setup
import Bmc.Proofs.GenDec.GetDeviceIDRsp
import Bmc.Proofs.GenDec.GetChassisStatusRsp
import Bmc.Proofs.GenDec.GetChannelAuthenticationCapabilitiesRsp
import Bmc.Proofs.GenDec.GetChannelCipherSuitesRsp
import Bmc.Proofs.GenDec.SetSessionPrivilegeLevelRsp
import Bmc.Proofs.GenDec.GetSystemGUIDRsp
import Bmc.Proofs.GenDec.GetSessionInfoRsp
import Bmc.Proofs.GenDec.GetSDRRepositoryInfoRsp
import Bmc.Proofs.GenDec.ReserveSDRRepositoryRsp
import Bmc.Proofs.GenDec.GetSDRRsp
import Bmc.Proofs.GenDec.SDR
import Bmc.Proofs.GenDec.GetSensorReadingRsp
import Bmc.Proofs.GenDec.FullSensorRecord
import Bmc.Proofs.GenDec.GetPowerReadingRsp
import Bmc.Proofs.GenDec.GetDCMICapabilitiesInfoSupportedCapabilitiesRsp
import Bmc.Proofs.GenDec.GetDCMICapabilitiesInfoMandatoryPlatformAttrsRsp
import Bmc.Proofs.GenDec.GetDCMICapabilitiesInfoOptionalPlatformAttrsRsp
import Bmc.Proofs.GenDec.GetDCMICapabilitiesInfoManageabilityAccessAttrsRsp
import Bmc.Proofs.GenDec.OpenSessionRsp
import Bmc.Proofs.GenDec.RAKPMessage1
import Bmc.Proofs.GenDec.RAKPMessage2
import Bmc.Proofs.GenDec.RAKPMessage4
import Bmc.Proofs.GenDec.SessionSelector
import Bmc.Proofs.GenDec.V1Session
import Bmc.Proofs.GenDec.Message
import Bmc.Proofs.GenDec.GetDCMICapabilitiesInfoEnhancedSystemPowerStatisticsAttrsRsp
import Bmc.Proofs.GenDec.GetDCMISensorInfoRsp
import Bmc.Proofs.GenDec.V2Session
import Bmc.Proofs.GenDec.AES128CBC
import Bmc.Proofs.GenDec.CipherSuiteRecords
import Bmc.Proofs.C16
/-! C05 (no panic, no over-read) per decoder: `X_gen_eq` (`Proofs/GenDec`: `DecodeFromBytes` as re-translated is the hand model through
    `toModel`) with `C05.X_safe` / `X_total` — for every previous receiver content and every Go slice (any length, any capacity, any
    bytes beyond `len`). A `map` changes no outcome kind (`bad_of_map_eq`, `safe_of_map_eq_lift`), so the regenerated decoder itself never panics and never
    over-reads (and, where it is a loop with fuel, never runs out of it). -/
namespace Bmc.Proofs.EndToEnd
open Bmc Bmc.Gen.Dec Bmc.Lemmas.GenDec Bmc.Proofs.GenDec

theorem bad_of_map_eq {α β : Type} (x : R α) (f : α → β) (y : R β) (h : x.map f = y) (hy : y.bad = false) : x.bad = false := by
  rw [← R.bad_map f x, h]; exact hy

/-- the same for a translated loop with fuel (`RF`), whose view is `RF.lift` of the model's outcome -/
theorem safe_of_map_eq_lift {α β : Type} (x : RF α) (f : α → β) (y : R β) (h : x.map f = RF.lift y) (hy : y.bad = false) :
    x ≠ .panic ∧ x ≠ .overread ∧ x ≠ .outOfFuel := by
  cases y with
  | panic | overread => cases hy
  | ok _ | err =>
    cases x with
    | ok _ | err => exact ⟨nofun, nofun, nofun⟩
    | panic | overread | outOfFuel => cases h   -- `RF.map` keeps the outcome kind

theorem generated_GetDeviceIDRsp_safe (prev : GetDeviceIDRsp) (d : GoSlice) : (GetDeviceIDRsp.decodeGo prev d).bad = false :=
  bad_of_map_eq _ _ _ (GetDeviceIDRsp_gen_eq prev d) (Proofs.C05.deviceID_safe _ _)

theorem generated_GetChassisStatusRsp_safe (prev : GetChassisStatusRsp) (d : GoSlice) : (GetChassisStatusRsp.decodeGo prev d).bad = false :=
  bad_of_map_eq _ _ _ (GetChassisStatusRsp_gen_eq prev d) ((Proofs.C05.chassis_total _ _).2)

theorem generated_GetChannelAuthenticationCapabilitiesRsp_safe (prev : GetChannelAuthenticationCapabilitiesRsp) (d : GoSlice) : (GetChannelAuthenticationCapabilitiesRsp.decodeGo prev d).bad = false :=
  bad_of_map_eq _ _ _ (GetChannelAuthenticationCapabilitiesRsp_gen_eq prev d) ((Proofs.C05.authCaps_total _ _).2)

theorem generated_GetChannelCipherSuitesRsp_safe (prev : GetChannelCipherSuitesRsp) (d : GoSlice) : (GetChannelCipherSuitesRsp.decodeGo prev d).bad = false :=
  bad_of_map_eq _ _ _ (GetChannelCipherSuitesRsp_gen_eq prev d) ((Proofs.C05.cipherSuites_total _ _).2)

theorem generated_SetSessionPrivilegeLevelRsp_safe (prev : SetSessionPrivilegeLevelRsp) (d : GoSlice) : (SetSessionPrivilegeLevelRsp.decodeGo prev d).bad = false :=
  bad_of_map_eq _ _ _ (SetSessionPrivilegeLevelRsp_gen_eq prev d) ((Proofs.C05.setPriv_total _ _).2)

theorem generated_GetSystemGUIDRsp_safe (prev : GetSystemGUIDRsp) (d : GoSlice) : (GetSystemGUIDRsp.decodeGo prev d).bad = false :=
  bad_of_map_eq _ _ _ (GetSystemGUIDRsp_gen_eq prev d) ((Proofs.C05.guid_total _ _).2)

theorem generated_GetSessionInfoRsp_safe (prev : GetSessionInfoRsp) (d : GoSlice) : (GetSessionInfoRsp.decodeGo prev d).bad = false :=
  bad_of_map_eq _ _ _ (GetSessionInfoRsp_gen_eq prev d) ((Proofs.C05.sessionInfo_total _ _).2)

theorem generated_GetSDRRepositoryInfoRsp_safe (prev : GetSDRRepositoryInfoRsp) (d : GoSlice) : (GetSDRRepositoryInfoRsp.decodeGo prev d).bad = false :=
  bad_of_map_eq _ _ _ (GetSDRRepositoryInfoRsp_gen_eq prev d) ((Proofs.C05.sdrRepoInfo_total _ _).2)

theorem generated_ReserveSDRRepositoryRsp_safe (prev : ReserveSDRRepositoryRsp) (d : GoSlice) : (ReserveSDRRepositoryRsp.decodeGo prev d).bad = false :=
  bad_of_map_eq _ _ _ (ReserveSDRRepositoryRsp_gen_eq prev d) ((Proofs.C05.reserveSDR_total _ _).2)

theorem generated_GetSDRRsp_safe (prev : GetSDRRsp) (d : GoSlice) : (GetSDRRsp.decodeGo prev d).bad = false :=
  bad_of_map_eq _ _ _ (GetSDRRsp_gen_eq prev d) ((Proofs.C05.getSDR_total _ _).2)

theorem generated_SDR_safe (prev : SDR) (d : GoSlice) : (SDR.decodeGo prev d).bad = false :=
  bad_of_map_eq _ _ _ (SDR_gen_eq prev d) ((Proofs.C05.sdrHeader_total _ _).2)

theorem generated_GetSensorReadingRsp_safe (prev : GetSensorReadingRsp) (d : GoSlice) : (GetSensorReadingRsp.decodeGo prev d).bad = false :=
  bad_of_map_eq _ _ _ (GetSensorReadingRsp_gen_eq prev d) ((Proofs.C05.sensorReading_total _ _).2)

theorem generated_FullSensorRecord_safe (prev : FullSensorRecord) (d : GoSlice) : (FullSensorRecord.decodeGo prev d).bad = false :=
  bad_of_map_eq _ _ _ (FullSensorRecord_gen_eq prev d) (Proofs.C05.fullSensor_safe _ _)

theorem generated_GetPowerReadingRsp_safe (prev : GetPowerReadingRsp) (d : GoSlice) : (GetPowerReadingRsp.decodeGo prev d).bad = false :=
  bad_of_map_eq _ _ _ (GetPowerReadingRsp_gen_eq prev d) (Proofs.C05.powerReading_safe _ _)

theorem generated_GetDCMICapabilitiesInfoSupportedCapabilitiesRsp_safe (prev : GetDCMICapabilitiesInfoSupportedCapabilitiesRsp) (d : GoSlice) : (GetDCMICapabilitiesInfoSupportedCapabilitiesRsp.decodeGo prev d).bad = false :=
  bad_of_map_eq _ _ _ (GetDCMICapabilitiesInfoSupportedCapabilitiesRsp_gen_eq prev d) (Proofs.C05.dcmiCap1_safe _ _)

theorem generated_GetDCMICapabilitiesInfoMandatoryPlatformAttrsRsp_safe (prev : GetDCMICapabilitiesInfoMandatoryPlatformAttrsRsp) (d : GoSlice) : (GetDCMICapabilitiesInfoMandatoryPlatformAttrsRsp.decodeGo prev d).bad = false :=
  bad_of_map_eq _ _ _ (GetDCMICapabilitiesInfoMandatoryPlatformAttrsRsp_gen_eq prev d) (Proofs.C05.dcmiCap2_safe _ _)

theorem generated_GetDCMICapabilitiesInfoOptionalPlatformAttrsRsp_safe (prev : GetDCMICapabilitiesInfoOptionalPlatformAttrsRsp) (d : GoSlice) : (GetDCMICapabilitiesInfoOptionalPlatformAttrsRsp.decodeGo prev d).bad = false :=
  bad_of_map_eq _ _ _ (GetDCMICapabilitiesInfoOptionalPlatformAttrsRsp_gen_eq prev d) (Proofs.C05.dcmiCap3_safe _ _)

theorem generated_GetDCMICapabilitiesInfoManageabilityAccessAttrsRsp_safe (prev : GetDCMICapabilitiesInfoManageabilityAccessAttrsRsp) (d : GoSlice) : (GetDCMICapabilitiesInfoManageabilityAccessAttrsRsp.decodeGo prev d).bad = false :=
  bad_of_map_eq _ _ _ (GetDCMICapabilitiesInfoManageabilityAccessAttrsRsp_gen_eq prev d) (Proofs.C05.dcmiCap4_safe _ _)

theorem generated_OpenSessionRsp_safe (prev : OpenSessionRsp) (d : GoSlice) : (OpenSessionRsp.decodeGo prev d).bad = false :=
  bad_of_map_eq _ _ _ (OpenSessionRsp_gen_eq prev d) (Proofs.C05.openSessionRsp_safe _ _)

theorem generated_RAKPMessage1_safe (prev : RAKPMessage1) (d : GoSlice) : (RAKPMessage1.decodeGo prev d).bad = false :=
  bad_of_map_eq _ _ _ (RAKPMessage1_gen_eq prev d) (Proofs.C05.rakp1_safe _ _)

theorem generated_RAKPMessage2_safe (prev : RAKPMessage2) (d : GoSlice) : (RAKPMessage2.decodeGo prev d).bad = false :=
  bad_of_map_eq _ _ _ (RAKPMessage2_gen_eq prev d) (Proofs.C05.rakp2_safe _ _)

theorem generated_RAKPMessage4_safe (prev : RAKPMessage4) (d : GoSlice) : (RAKPMessage4.decodeGo prev d).bad = false :=
  bad_of_map_eq _ _ _ (RAKPMessage4_gen_eq prev d) (Proofs.C05.rakp4_safe _ _)

theorem generated_SessionSelector_safe (prev : SessionSelector) (d : GoSlice) : (SessionSelector.decodeGo prev d).bad = false :=
  bad_of_map_eq _ _ _ (SessionSelector_gen_eq prev d) (Proofs.C05.selector_safe _ _)

theorem generated_V1Session_safe (prev : V1Session) (d : GoSlice) : (V1Session.decodeGo prev d).bad = false :=
  bad_of_map_eq _ _ _ (V1Session_gen_eq prev d) (Proofs.C05.v1_safe _ _)

theorem generated_Message_safe (prev : Message) (d : GoSlice) : (Message.decodeGo prev d).bad = false :=
  bad_of_map_eq _ _ _ (Message_gen_eq prev d) (Proofs.C05.message_safe _ _)

theorem generated_Cap5_safe (prev : Cap5) (d : GoSlice) :
    (GetDCMICapabilitiesInfoEnhancedSystemPowerStatisticsAttrsRsp.decodeGo prev d).bad = false :=
  bad_of_map_eq _ _ _ (GetDCMICapabilitiesInfoEnhancedSystemPowerStatisticsAttrsRsp_gen_eq prev d) (Proofs.C05.dcmiCap5_safe _ _)

theorem generated_GetDCMISensorInfoRsp_safe (prev : GetDCMISensorInfoRsp) (d : GoSlice) :
    (GetDCMISensorInfoRsp.decodeGo prev d).bad = false := by
  have h := GetDCMISensorInfoRsp_gen_eq prev {} d
  have s : ((Wire.SensorInfo.decodeGo {} d).map Wire.SensorInfo.view).bad = false := by
    rw [R.bad_map]; exact Proofs.C05.sensorInfo_safe _ _
  exact bad_of_map_eq _ _ _ h s

/-- AES-128-CBC, for every lawful block cipher, key and EVERY plaintext the ciphertext may decrypt to -/
theorem generated_AES128CBC_safe (C : Crypto.Ops) (hC : C.Lawful) (key : Bytes) (prev : AES128CBC) (d : GoSlice) :
    (AES128CBC.decodeGo (fun iv ct => Crypto.cbcDec C key (ct.length / 16) iv ct) prev d).bad = false :=
  bad_of_map_eq _ _ _ (AES128CBC_gen_eq C hC key prev d) (Proofs.C05.aes_safe C hC key _ _)

/-- v2.0 session wrapper (a loop with fuel): for every integrity function, never a panic, an over-read or an exhausted fuel -/
theorem generated_V2Session_safe (mac : Bytes → Bytes) (prev : V2Session) (d : GoSlice) :
    V2Session.decodeGo mac prev d ≠ .panic ∧ V2Session.decodeGo mac prev d ≠ .overread ∧ V2Session.decodeGo mac prev d ≠ .outOfFuel :=
  safe_of_map_eq_lift _ _ _ (V2Session_gen_eq mac prev d) (Proofs.C05.v2_safe mac _ d)

/-- the cipher-suite record parser (a loop with fuel) on ANY data: an error or a list of entries, nothing else -/
theorem generated_parseCipherSuiteRecordData_safe (d : GoSlice) :
    bmc_parseCipherSuiteRecordData d ≠ .panic ∧ bmc_parseCipherSuiteRecordData d ≠ .overread ∧
    bmc_parseCipherSuiteRecordData d ≠ .outOfFuel :=
  safe_of_map_eq_lift _ _ _ (parseCipherSuiteRecordData_gen_eq d)
    (by rcases Proofs.C16.parse_total d.vis with h | ⟨_, h⟩ <;> rw [h] <;> rfl)

end Bmc.Proofs.EndToEnd
