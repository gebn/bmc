import Bmc.Proofs.EndToEnd.HistoryC09
import Bmc.Proofs.C10
/-! C10 over the whole life of a session: `generatedHistory_eq` (HistoryC09) with `sendLoop_spec`, as the closed form `contract`. -/
namespace Bmc.Proofs.EndToEnd
open Bmc Bmc.Wire Bmc.Crypto Bmc.Proto Bmc.GoOrch Bmc.GoLoops Bmc.Gen.Loops Bmc.Lemmas.GenLoops Bmc.Proofs.GenLoops Bmc.Proofs.C09

/-- the closed form of everything a session sends; its control structure is the documented behaviour (which reply counts as final is
    the hand model's `classify`: its receive chain and acceptance test): command after command, each one
    transmits `expected`-many datagrams — one per attempt until the first final answer, a lost reply, a crash or the end of the
    context — every one of them `nthDatagram`, the COMPLETE packet for that same command under the next sequence number and the
    command's next IV draw; the following command starts where the counter then stands -/
def contract (C : Ops) (k : Keys) : Nat → List (Cmd × List Bytes × List Outcome) → List Bytes
  | _, [] => []
  | inb, (c, ivs, script) :: rest =>
    let n := (expected (classify C k c) script).1
    (List.range n).map (nthDatagram C k c inb ivs) ++ contract C k ((inb + n) % 4294967296) rest

theorem runHistory_is_the_contract (C : Ops) (h : List (Cmd × List Bytes × List Outcome))
    (hok : ∀ e ∈ h, e.1.reqFails = false ∧ e.2.2.length ≤ e.2.1.length) :
    ∀ (s : Sess), s.inbound < 4294967296 → (runHistory C s h).2 = contract C s.keys s.inbound h := by
  induction h with
  | nil => intro s _; rfl
  | cons e rest ih =>
    intro s hs
    obtain ⟨c, ivs, script⟩ := e
    obtain ⟨hf, hl⟩ := hok _ (.head _)
    obtain ⟨-, h2, hk, h4⟩ := sendLoop_spec C c hf s hs ivs script hl
    rw [runHistory, contract, h2, ih (fun e he => hok e (.tail _ he)) _ (h4 ▸ Nat.mod_lt _ (by decide)), hk, h4]

/-- **C10, history form, about the translated code**: the datagrams the translated `SendCommand` hands to the transport over any history
    are exactly `contract` — nothing is sent twice that the contract does not repeat, nothing of an earlier command is re-sent
    during a later one, no attempt is skipped -/
theorem generated_history_is_the_contract (C : Ops) (bd : Bytes → Bool) (h : List HistItem) (hok : ∀ e ∈ h, e.ok)
    (s : Sess) (K : Conn Decoded) (hs : s.inbound < 4294967296) (hL : s.localID < 4294967296) (hr : s.remoteID < 4294967296)
    (hK : K.inbound = UInt32.ofNat s.inbound) :
    generatedHistory C s.keys bd K h = contract C s.keys s.inbound (h.map modelItem) := by
  rw [generatedHistory_eq C bd h hok s K hs hL hr hK]
  exact runHistory_is_the_contract C (h.map modelItem) (List.forall_mem_map.mpr fun e he => ⟨(hok e he).1, (hok e he).2.2.2⟩) s hs

/-- the contract's count for one command, for ANY classification `cls` of replies: after `n` script items classified `retry` (what
    node busy and timeout answers are: `classify_response`, `C10.busy_then_final`) and then one classified final, exactly `n + 1`
    datagrams. About the fold `expected`; the loop enters through `generated_history_is_the_contract`. -/
theorem contract_count_busy_then_final (cls : Bytes → Class) (busy : List Bytes) (fin : Bytes) (cc : UInt8) (p : Bytes)
    (rest : List Outcome) (hb : ∀ d ∈ busy, cls d = .retry) (hfin : cls fin = .final cc p) :
    expected cls (busy.map Outcome.reply ++ Outcome.reply fin :: rest) = (busy.length + 1, .ok cc p) := by
  have hpre : ∀ o ∈ busy.map Outcome.reply, ∃ d, o = .reply d ∧ cls d = .retry := fun o ho =>
    let ⟨d, hd, e⟩ := List.mem_map.mp ho; ⟨d, e.symm, hb d hd⟩
  rw [expected_retries cls _ hpre, expected, hfin, List.length_map]

end Bmc.Proofs.EndToEnd
