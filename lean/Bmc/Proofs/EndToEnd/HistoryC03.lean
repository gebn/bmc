import Bmc.Proofs.EndToEnd.HistoryC09
import Bmc.Proofs.C03
/-! C03 over the whole life of a session: `generatedHistory_eq` (HistoryC09) with the model-side `history_datagrams` (every datagram of a
    history is `datagramOf` one of its commands under one of that command's own IV draws) and C03's `wrapper_opens` /
    `payload_decrypts` / `message_is_the_command`. -/
namespace Bmc.Proofs.EndToEnd
open Bmc Bmc.Wire Bmc.Crypto Bmc.Proto Bmc.GoOrch Bmc.GoLoops Bmc.Gen.Loops Bmc.Lemmas.GenLoops Bmc.Proofs.GenLoops Bmc.Proofs.C09
open Bmc.Proofs.C03

/-- hand model: every datagram of a history is the packet of one of its commands under one of that command's IV draws -/
theorem history_datagrams (C : Ops) (h : List (Cmd × List Bytes × List Outcome)) (hl : ∀ e ∈ h, e.2.2.length ≤ e.2.1.length) :
    ∀ (s : Sess), s.inbound < 4294967296 →
      ∀ p ∈ (runHistory C s h).2, ∃ e ∈ h, ∃ inb, ∃ iv ∈ e.2.1, p = datagramOf C s.keys e.1 inb iv := by
  induction h with
  | nil => intro s _ p hp; cases hp
  | cons e rest ih =>
    intro s hs p hp
    obtain ⟨c, ivs, script⟩ := e
    have hle : script.length ≤ ivs.length := hl _ (.head _)
    obtain ⟨n, hn, e1, hk, hi⟩ := sendLoop_sent C c s hs ivs script hle
    rcases List.mem_append.mp hp with hp | hp
    · rw [e1] at hp
      obtain ⟨i, hi', rfl⟩ := List.mem_map.mp hp
      have hlt : i < ivs.length := Nat.lt_of_lt_of_le (List.mem_range.mp hi') (Nat.le_trans hn hle)
      refine ⟨_, .head _, (s.inbound + i) % 4294967296, ivs[i], List.getElem_mem hlt, ?_⟩
      simp only [nthDatagram, List.getD_eq_getElem?_getD, List.getElem?_eq_getElem hlt, Option.getD_some]
    · obtain ⟨e, he, inb, iv, hiv, rfl⟩ := ih (fun e he => hl e (.tail _ he)) _ (hi ▸ Nat.mod_lt _ (by decide)) p hp
      exact ⟨e, .tail _ he, inb, iv, hiv, by rw [hk]⟩

/-- **C03, history form, about the translated code**: every datagram handed to the transport during the whole history is the packet
    of one of its commands under one of that command's own IV draws -/
theorem generated_history_datagrams (C : Ops) (bd : Bytes → Bool) (h : List HistItem) (hok : ∀ e ∈ h, e.ok)
    (s : Sess) (K : Conn Decoded) (hs : s.inbound < 4294967296) (hL : s.localID < 4294967296) (hr : s.remoteID < 4294967296)
    (hK : K.inbound = UInt32.ofNat s.inbound) :
    ∀ p ∈ generatedHistory C s.keys bd K h, ∃ e ∈ h, ∃ inb, ∃ iv ∈ e.2.2.2.1, p = datagramOf C s.keys e.1 inb iv := by
  rw [generatedHistory_eq C bd h hok s K hs hL hr hK]
  intro p hp
  obtain ⟨e, he, inb, iv, hiv, rfl⟩ := history_datagrams C (h.map modelItem) (List.forall_mem_map.mpr fun e he => (hok e he).2.2.2) s hs p hp
  obtain ⟨e', he', rfl⟩ := List.mem_map.mp he
  exact ⟨e', he', inb, iv, hiv, rfl⟩

/-- … and THE BMC OPENS EVERY ONE OF THEM to a command of the history (some command of it, `∃ e ∈ h`; position by position:
    `generated_history_is_the_contract`): for every lawful crypto instance, when the IV draws are
    16 bytes (the AES block size: `crypto/rand` fills a 16-byte array) and the encrypted payloads fit the 16-bit length field -/
theorem generated_history_packets_open (C : Ops) (hC : C.Lawful) (bd : Bytes → Bool) (h : List HistItem) (hok : ∀ e ∈ h, e.ok)
    (s : Sess) (K : Conn Decoded) (hs : s.inbound < 4294967296) (hL : s.localID < 4294967296) (hr : s.remoteID < 4294967296)
    (hK : K.inbound = UInt32.ofNat s.inbound)
    (hiv : ∀ e ∈ h, ∀ iv ∈ e.2.2.2.1, iv.length = 16 ∧ (aesPayload C s.keys e.1 iv).length < 65536)
    (hwf : ∀ e ∈ h, (requestMessage e.1).WF) :
    ∀ p ∈ generatedHistory C s.keys bd K h, ∃ e ∈ h, ∃ v a m,
      p.take 4 = [6, 0, 0xFF, 7] ∧
      V2Session.decode (integMac C s.keys.integ s.keys.k1) (p.drop 4) = .ok v ∧
      v.authenticated = true ∧ v.encrypted = true ∧ v.payloadType = 0 ∧ v.id = s.remoteID ∧
      AESLayer.decode C s.keys.k2 v.payload = .ok a ∧
      Message.decode 8 a.payload = .ok m ∧
      m.function = e.1.fn ∧ m.command = e.1.cmd ∧ m.body = e.1.body ∧ m.enterprise = e.1.ent ∧ m.remoteAddress = 0x20 ∧
      m.remoteLUN = e.1.lun ∧ m.localAddress = 0x81 ∧ m.payload = e.1.req := by
  intro p hp
  obtain ⟨e, he, inb, iv, hmem, rfl⟩ := generated_history_datagrams C bd h hok s K hs hL hr hK p hp
  obtain ⟨h16, hlen⟩ := hiv e he iv hmem
  obtain ⟨v, hv, a1, a2, a3, a4, _, a6⟩ := wrapper_opens C s.keys hr e.1 inb iv hlen
  obtain ⟨m, hm, b⟩ := message_is_the_command e.1 (hwf e he)
  refine ⟨e, he, v, { contents := iv, payload := messageBytes e.1 }, m, ?_, hv, a1, a2, a3, a4, ?_, hm, b⟩
  · rw [datagram_shape]; rfl
  · rw [a6]; exact payload_decrypts C hC s.keys e.1 iv h16

def exampleIV : Bytes := List.replicate 16 7
/-- Get Device ID answered by silence; a DCMI Get Power Reading sent twice -/
def exampleHistory : List HistItem :=
  [({ fn := 6, cmd := 1 }, "Get Device ID", 0, [exampleIV], [.lost]),
   ({ fn := 0x2c, cmd := 2, body := 0xdc, req := [1, 2, 3] }, "Get Power Reading", 0, [exampleIV, exampleIV], [.reply [], .lost])]

/-- the hypotheses are satisfiable: the example history meets `HistItem.ok`, its IV draws are 16 bytes, its encrypted payloads fit,
    and its request messages are well-formed -/
example : (∀ e ∈ exampleHistory, e.ok) ∧
    (∀ e ∈ exampleHistory, ∀ iv ∈ e.2.2.2.1, iv.length = 16 ∧ (aesPayload toy ({} : Sess).keys e.1 iv).length < 65536) ∧
    (∀ e ∈ exampleHistory, (requestMessage e.1).WF) := by
  refine ⟨?_, ?_, ?_⟩ <;> simp only [exampleHistory, List.mem_cons, List.not_mem_nil, or_false, forall_eq_or_imp, forall_eq]
  · exact ⟨⟨rfl, by decide, by decide, by decide⟩, ⟨rfl, by decide, by decide, by decide⟩⟩
  · decide
  · exact ⟨⟨by decide, by decide, by decide, by decide, by decide, by decide, by decide, by decide⟩,
           ⟨by decide, by decide, by decide, by decide, by decide, by decide, by decide, by decide⟩⟩

end Bmc.Proofs.EndToEnd
