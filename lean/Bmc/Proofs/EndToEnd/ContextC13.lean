import Bmc.Proofs.GenLoops.BuildAndSend
import Bmc.Proofs.GenLoops.BuildAndSendCommand
import Bmc.Proofs.C10
import Bmc.Lemmas.SessionSpec
/-! C13, the part a function of states can say of the retry loops (wall-clock time is the tick model of `Proofs/C13.lean`): the outcome
    script is what happens before the caller's context ends. `*_SendCommand_gen_eq` with `C10.*_send_refines` and `expected_le` /
    `slExpected_le`; the expired context is `V2Session_buildAndSend_expired_context`.
    (Under the scripted surroundings `SW` a Send records a datagram only by taking an outcome off the script, so the bound
    `sent.length ≤ script.length` by itself holds of any program run in them; what is particular to the translated loops is the
    equality with the contract, `*_SendCommand_gen_eq`, through which it is proved here.) -/
namespace Bmc.Proofs.EndToEnd
open Bmc Bmc.Wire Bmc.Crypto Bmc.Proto Bmc.GoOrch Bmc.GoLoops Bmc.Gen.Loops Bmc.Lemmas.GenLoops Bmc.Proofs.GenLoops

/-- in a session: never more transmissions than outcomes before the context's end -/
theorem generated_session_loop_stops_with_context (C : Ops) (c : Cmd) (hc : c.ent < 4294967296) (hf : c.reqFails = false) (s : Sess)
    (hs : s.inbound < 4294967296) (hL : s.localID < 4294967296) (hr : s.remoteID < 4294967296)
    (ivs : List Bytes) (script : List Outcome) (hne : script ≠ []) (hl : script.length ≤ ivs.length)
    (fuel : Nat) (hfu : script.length ≤ fuel) (bd : Bytes → Bool) (name : String) (rsp : Opaque)
    (K : Conn Decoded) (hK : K.inbound = UInt32.ofNat s.inbound) :
    (V2Session_SendCommand (sessWorld C s.keys c bd) fuel (sessConsts s.keys) (cmdOf c name rsp)
        ({ ivs := ivs, script := script, sent := [] }, K)).2.1.sent.length ≤ script.length := by
  obtain ⟨h1, _, _⟩ := V2Session_SendCommand_gen_eq C c hc s hs hL hr ivs script hne hl fuel hfu bd name rsp [] K hK
  simp only [List.nil_append] at h1
  rw [h1, (Proofs.C10.session_send_refines C c hf s hs ivs script hl).2]
  simp only [List.length_map, List.length_range]
  exact expected_le _ _

/-- … with a context that has already ended: nothing handed to the transport, the transport's error returned (that a packet is
    serialised all the same — its IV drawn, the counter advanced — is in `V2Session_buildAndSend_expired_context`) -/
theorem generated_session_loop_expired_context (C : Ops) (c : Cmd) (hf : c.reqFails = false) (k : Keys) (ivs : List Bytes)
    (fuel : Nat) (bd : Bytes → Bool) (name : String) (rsp : Opaque) (sent0 : List Bytes) (K : Conn Decoded) :
    let r := V2Session_buildAndSend (sessWorld C k c bd) (fuel + 1) (sessConsts k) (cmdOf c name rsp)
              ({ ivs := ivs, script := [], sent := sent0 }, K)
    r.1 = .ok (some .transport) ∧ r.2.1.sent = sent0 :=
  ⟨(V2Session_buildAndSend_expired_context C c hf k ivs fuel bd name rsp sent0 K).1,
   (V2Session_buildAndSend_expired_context C c hf k ivs fuel bd name rsp sent0 K).2.1⟩

/-- outside a session: never more transmissions than outcomes before the context's end -/
theorem generated_sessionless_loop_stops_with_context (c : Cmd) (hc : c.ent < 4294967296) (hf : c.reqFails = false)
    (script : List Outcome) (fuel : Nat) (hfu : script.length + 1 ≤ fuel) (bd : Bytes → Bool) (name : String) (rsp : Opaque)
    (ivs : List Bytes) (K : Conn Decoded) :
    (V2Sessionless_SendCommand (slWorld c bd) fuel (cmdOf c name rsp) ({ ivs := ivs, script := script, sent := [] }, K)).2.1.sent.length
      ≤ script.length := by
  obtain ⟨h1, _, _⟩ := V2Sessionless_SendCommand_gen_eq c hc script fuel hfu bd name rsp ivs [] K
  simp only [List.nil_append] at h1
  rw [h1, (Proofs.C10.sessionless_send_refines c hf script).2, List.length_replicate]
  exact slExpected_le _ _

end Bmc.Proofs.EndToEnd
