import Bmc.Proofs.GenLoops.BuildAndSend
import Bmc.Proofs.C01
import Bmc.Lemmas.SessionSpec
/-! C01, last clause ("…and commands sent on the session are accepted by the BMC and answered"): `C01.command_answered` with
    `V2Session_SendCommand_gen_eq`; `generatedConverse`: the translated `SendCommand` and the conforming BMC in conversation. -/
namespace Bmc.Proofs.EndToEnd
open Bmc Bmc.Wire Bmc.Crypto Bmc.Proto Bmc.GoOrch Bmc.GoLoops Bmc.Gen.Loops Bmc.Lemmas.GenLoops Bmc.Proofs.GenLoops
open Bmc.Spec Bmc.Proofs.C03 Bmc.Proofs.C01

/-- On a session whose keys both sides hold, for ANY well-posed command (`Exchange`), every lawful crypto, counter value, BMC
    sequence number and IVs, whatever earlier traffic left on the connection: the ONE datagram `SendCommand` AS TRANSLATED ON THIS
    RUN hands to the transport passes the conforming BMC's integrity check, decryption and message checks (`bmcAnswer … = some
    reply`: the BMC understood exactly the caller's command with sequence number counter + 1), and fed the BMC's reply the
    translated code returns the handler's completion code (and reports a body that does not decode, nothing else). -/
theorem generated_SendCommand_answered (C : Ops) (hC : C.Lawful) (c : Cmd) (hc : c.ent < 4294967296) (s : Sess)
    (hs : s.inbound < 4294967296) (hid : s.localID < 4294967296) (hr : s.remoteID < 4294967296)
    (iv : Bytes) (ivs : List Bytes) (handler : BmcReq → UInt8 × Bytes) (bseq : Nat) (hb : bseq < 4294967296) (biv : Bytes)
    (rest : List Outcome) (hl : rest.length ≤ ivs.length) (fuel : Nat) (hfu : rest.length + 1 ≤ fuel)
    (bd : Bytes → Bool) (name : String) (rsp : Opaque) (K : Conn Decoded) (hK : K.inbound = UInt32.ofNat s.inbound)
    (hx : Exchange C s.keys c iv biv
            (handler ⟨(s.inbound + 1) % 4294967296, c.fn, c.cmd, c.body, c.ent, c.lun, c.req⟩).1
            (handler ⟨(s.inbound + 1) % 4294967296, c.fn, c.cmd, c.body, c.ent, c.lun, c.req⟩).2) :
    ∃ reply, bmcAnswer C s.keys handler bseq biv (datagramOf C s.keys c s.inbound iv) = some reply ∧
      let r := V2Session_SendCommand (sessWorld C s.keys c bd) fuel (sessConsts s.keys) (cmdOf c name rsp)
                ({ ivs := iv :: ivs, script := .reply reply :: rest, sent := [] }, K)
      r.2.1.sent = [datagramOf C s.keys c s.inbound iv] ∧
      r.1 = .ok ((handler ⟨(s.inbound + 1) % 4294967296, c.fn, c.cmd, c.body, c.ent, c.lun, c.req⟩).1,
                 if rsp != 0 ∧ bd (handler ⟨(s.inbound + 1) % 4294967296, c.fn, c.cmd, c.body, c.ent, c.lun, c.req⟩).2 = false
                 then some .response else none) ∧
      r.2.2.inbound = UInt32.ofNat ((s.inbound + 1) % 4294967296) := by
  obtain ⟨reply, h1, h2⟩ := command_answered C hC c s hid hr iv ivs handler bseq hb biv rest hx
  refine ⟨reply, h1, ?_⟩
  intro r
  have hl' : (Outcome.reply reply :: rest).length ≤ (iv :: ivs).length := by simp only [List.length_cons]; omega
  obtain ⟨a1, a2, a3⟩ := V2Session_SendCommand_gen_eq C c hc s hs hid hr (iv :: ivs) (.reply reply :: rest) (by simp)
    hl' fuel (by simp only [List.length_cons]; omega) bd name rsp [] K hK
  obtain ⟨n, -, e1, -, hi⟩ := sendLoop_sent C c s hs (iv :: ivs) (.reply reply :: rest) hl'
  rw [h2] at a1 a3 e1
  obtain rfl : n = 1 := by simpa using (congrArg List.length e1).symm
  rw [hi] at a2
  exact ⟨by simpa using a1, a3, by rw [← a2, UInt32.ofNat_toNat]⟩

/-- a session state holding keys `k` and counter `i` (whatever else a `Sess` records is immaterial: `ReuseC17`) -/
def sessAt (k : Keys) (i : Nat) : Sess :=
  { inbound := i, localID := k.localID, remoteID := k.remoteID, integ := k.integ, k1 := k.k1, k2 := k.k2 }

/-- the console — `SendCommand` AS REGENERATED, threading its own connection value from one call to the next — and the conforming
    BMC in conversation: command after command on one session, each datagram handed to the BMC, the BMC's answer handed back -/
def generatedConverse (C : Ops) (handler : BmcReq → UInt8 × Bytes) (bd : Bytes → Bool) (k : Keys) :
    Nat → Conn Decoded → Nat → List (Cmd × Bytes × Bytes × String × Opaque) → List (RF (UInt8 × Option GoErr))
  | _, _, _, [] => []
  | i, K, bseq, (c, iv, biv, name, rsp) :: rest =>
    match bmcAnswer C k handler bseq biv (datagramOf C k c i iv) with
    | none => [.err]
    | some reply =>
      let r := V2Session_SendCommand (sessWorld C k c bd) 1 (sessConsts k) (cmdOf c name rsp)
                ({ ivs := [iv], script := [.reply reply], sent := [] }, K)
      r.1 :: generatedConverse C handler bd k ((i + 1) % 4294967296) r.2.2 (bseq + 1) rest

/-- what the caller must receive from each call in turn -/
def generatedAnswers (handler : BmcReq → UInt8 × Bytes) (bd : Bytes → Bool) :
    Nat → List (Cmd × Bytes × Bytes × String × Opaque) → List (RF (UInt8 × Option GoErr))
  | _, [] => []
  | i, (c, _, _, _, rsp) :: rest =>
    let q : BmcReq := ⟨(i + 1) % 4294967296, c.fn, c.cmd, c.body, c.ent, c.lun, c.req⟩
    .ok ((handler q).1, if rsp != 0 ∧ bd (handler q).2 = false then some .response else none)
      :: generatedAnswers handler bd ((i + 1) % 4294967296) rest

/-- **EVERY COMMAND OF A SESSION IS ANSWERED, about the regenerated code, for histories of any length**: on a session whose keys
    both sides hold, for any sequence of well-posed commands, every lawful crypto, any starting counter and connection content —
    each datagram the translated `SendCommand` sends passes the conforming BMC's checks, is understood as the caller's command with
    the next sequence number, and each call returns the BMC handler's completion code for that very command. -/
theorem generated_all_commands_answered (C : Ops) (hC : C.Lawful) (handler : BmcReq → UInt8 × Bytes) (bd : Bytes → Bool) (k : Keys)
    (hid : k.localID < 4294967296) (hr : k.remoteID < 4294967296) (i : Nat) (hi : i < 4294967296)
    (K : Conn Decoded) (hK : K.inbound = UInt32.ofNat i) (bseq : Nat)
    (cmds : List (Cmd × Bytes × Bytes × String × Opaque)) (hb : bseq + cmds.length < 4294967296)
    (hc : ∀ e ∈ cmds, e.1.ent < 4294967296)
    (hx : ∀ e ∈ cmds, ∀ q : Nat, Exchange C k e.1 e.2.1 e.2.2.1
            (handler ⟨q, e.1.fn, e.1.cmd, e.1.body, e.1.ent, e.1.lun, e.1.req⟩).1
            (handler ⟨q, e.1.fn, e.1.cmd, e.1.body, e.1.ent, e.1.lun, e.1.req⟩).2) :
    generatedConverse C handler bd k i K bseq cmds = generatedAnswers handler bd i cmds := by
  induction cmds generalizing i K bseq with
  | nil => rw [generatedConverse, generatedAnswers]
  | cons e rest ih =>
    obtain ⟨c, iv, biv, name, rsp⟩ := e
    have hb' : bseq + 1 + rest.length < 4294967296 := by rw [List.length_cons] at hb; omega
    obtain ⟨reply, hans, hrun⟩ := generated_SendCommand_answered C hC c (hc _ (List.mem_cons_self ..)) (sessAt k i) hi hid hr iv []
      handler bseq (by omega) biv [] (Nat.le_refl _) 1 (Nat.le_refl _) bd name rsp K hK (hx _ (List.mem_cons_self ..) _)
    rw [show (sessAt k i).keys = k from rfl] at hrun
    rw [generatedConverse, generatedAnswers, show bmcAnswer C k handler bseq biv (datagramOf C k c i iv) = some reply from hans]
    dsimp only
    -- from here on the call is a variable: left in the goal, `exact` and `congr` unfold the translated `SendCommand`
    generalize V2Session_SendCommand (sessWorld C k c bd) 1 (sessConsts k) (cmdOf c name rsp)
      ({ ivs := [iv], script := [.reply reply], sent := [] }, K) = r at hrun ⊢
    obtain ⟨_, hres, hinb⟩ := hrun
    rw [hres, ih ((i + 1) % 4294967296) (Nat.mod_lt _ (by decide)) r.2.2 hinb (bseq + 1) hb'
      (fun e he => hc e (List.mem_cons_of_mem _ he)) (fun e he q => hx e (List.mem_cons_of_mem _ he) q)]
    rfl

end Bmc.Proofs.EndToEnd
