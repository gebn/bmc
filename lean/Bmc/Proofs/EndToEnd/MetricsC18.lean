import Bmc.Proofs.GenLoops.BuildAndSend
import Bmc.Proofs.GenLoops.BuildAndSendCommand
import Bmc.Proofs.C18
/-! C18: `*_SendCommand_events_eq` (`Proofs/GenLoops`: the event log of the regenerated `SendCommand`, applied to any starting metric
    values, is `Metrics.command`) with `C18.command_laws`; over a history (`generatedRun`) with `C18.conservation`. -/
namespace Bmc.Proofs.EndToEnd
open Bmc Bmc.Wire Bmc.Crypto Bmc.Proto Bmc.Proto.Metrics Bmc.GoOrch Bmc.GoLoops Bmc.Gen.Loops Bmc.Lemmas.GenLoops Bmc.Proofs.GenLoops

/-- One in-session `SendCommand` AS TRANSLATED ON THIS RUN, for every command, keys, script of outcomes (none crashing a decoder),
    with or without an expired context at the end, and ANY metric values before (the counters are those of the Go variables
    `commandAttempts`, … that the translated code increments; the exported names given here are the ones connection.go declares for
    them, which nothing regenerates): `bmc_command_attempts_total{command}` goes up by
    exactly one for this command's name and for no other; `bmc_command_failures_total{command}` by one exactly when the call does
    not end with an accepted final response whose body decodes; `bmc_command_retries_total` by the number of closure runs beyond the
    first; `bmc_command_responses_total{code}` by the number of accepted responses carrying that completion code; the connection and
    session counters and gauges are untouched. -/
theorem generated_session_SendCommand_accounting (C : Ops) (c : Cmd) (hc : c.ent < 4294967296) (k : Keys) (hL : k.localID < 4294967296)
    (hf : c.reqFails = false) (ivs : List Bytes) (script : List Outcome) (hn : noCrash C k c script)
    (inSend : Bool) (hne : inSend = false → script ≠ []) (fuel : Nat) (hfu : script.length + 1 ≤ fuel)
    (bd : Bytes → Bool) (name : String) (rsp : Opaque) (sent0 : List Bytes) (K : Conn Decoded) (m0 : Metrics.M) :
    let r := V2Session_SendCommand (sessWorld C k c bd) fuel (sessConsts k) (cmdOf c name rsp)
              ({ ivs := ivs, script := script, sent := sent0, inSend := inSend }, K)
    let before := evsApply m0 K.events
    let after := evsApply m0 r.2.2.events
    let atts := script.map (attOf C k c) ++ ending inSend
    let decoded := (rsp == 0 || bd r.2.2.layers.message.payload)
    (∀ n, cnt n after.cmdAttempts = cnt n before.cmdAttempts + (if name = n then 1 else 0)) ∧
    (∀ n, cnt n after.cmdFailures
        = cnt n before.cmdFailures + (if name = n ∧ ¬(succeeds true atts = true ∧ decoded = true) then 1 else 0)) ∧
    after.retries = before.retries + (closureRuns true atts - 1) ∧
    (∀ code, cnt code after.responses = cnt code before.responses + responsesOf true code atts) ∧
    after.connAttempts = before.connAttempts ∧ after.connFailures = before.connFailures ∧
    after.connOpen = before.connOpen ∧ after.sessAttempts = before.sessAttempts ∧
    after.sessFailures = before.sessFailures ∧ after.sessOpen = before.sessOpen := by
  intro r before after atts decoded
  have e : after = _ := V2Session_SendCommand_events_eq C c hc k hL hf ivs script hn inSend hne fuel hfu bd name rsp sent0 K m0
  rw [e]
  exact Proofs.C18.command_laws before name true decoded atts

/-- … and the same for one session-less `SendCommand` AS TRANSLATED ON THIS RUN -/
theorem generated_sessionless_SendCommand_accounting (c : Cmd) (hc : c.ent < 4294967296) (hf : c.reqFails = false)
    (script : List Outcome) (hn : slNoCrash c script) (inSend : Bool) (hne : inSend = false → script ≠ [])
    (fuel : Nat) (hfu : script.length + 1 ≤ fuel) (bd : Bytes → Bool) (name : String) (rsp : Opaque)
    (ivs sent0 : List Bytes) (K : Conn Decoded) (m0 : Metrics.M) :
    let r := V2Sessionless_SendCommand (slWorld c bd) fuel (cmdOf c name rsp)
              ({ ivs := ivs, script := script, sent := sent0, inSend := inSend }, K)
    let before := evsApply m0 K.events
    let after := evsApply m0 r.2.2.events
    let atts := script.map (slAttOf c) ++ ending inSend
    let decoded := (rsp == 0 || bd r.2.2.layers.message.payload)
    (∀ n, cnt n after.cmdAttempts = cnt n before.cmdAttempts + (if name = n then 1 else 0)) ∧
    (∀ n, cnt n after.cmdFailures
        = cnt n before.cmdFailures + (if name = n ∧ ¬(succeeds false atts = true ∧ decoded = true) then 1 else 0)) ∧
    after.retries = before.retries + (closureRuns false atts - 1) ∧
    (∀ code, cnt code after.responses = cnt code before.responses + responsesOf false code atts) ∧
    after.connAttempts = before.connAttempts ∧ after.connFailures = before.connFailures ∧
    after.connOpen = before.connOpen ∧ after.sessAttempts = before.sessAttempts ∧
    after.sessFailures = before.sessFailures ∧ after.sessOpen = before.sessOpen := by
  intro r before after atts decoded
  have e : after = _ := V2Sessionless_SendCommand_events_eq c hc hf script hn inSend hne fuel hfu bd name rsp ivs sent0 K m0
  rw [e]
  exact Proofs.C18.command_laws before name false decoded atts

/-- (command, name, response layer, IV draws, what happens to each transmission, whether the caller's context ends inside a Send)
    = `(e.1, e.2.1, e.2.2.1, e.2.2.2.1, e.2.2.2.2.1, e.2.2.2.2.2)` -/
abbrev MetricsItem := Cmd × String × Opaque × List Bytes × List Outcome × Bool

/-- one call of the translated `SendCommand` on connection value `K` -/
def runItem (C : Ops) (k : Keys) (bd : Bytes → Bool) (K : Conn Decoded) (e : MetricsItem) :=
  V2Session_SendCommand (sessWorld C k e.1 bd) (e.2.2.2.2.1.length + 1) (sessConsts k) (cmdOf e.1 e.2.1 e.2.2.1)
    ({ ivs := e.2.2.2.1, script := e.2.2.2.2.1, sent := [], inSend := e.2.2.2.2.2 }, K)

/-- the connection value after a history of calls, each made by the translated `SendCommand` on what the previous one left -/
def generatedRun (C : Ops) (k : Keys) (bd : Bytes → Bool) : Conn Decoded → List MetricsItem → Conn Decoded
  | K, [] => K
  | K, e :: rest => generatedRun C k bd (runItem C k bd K e).2.2 rest

/-- what happened, as the history events C18 counts: one `cmd` event per call, with the call's name, whether its response body
    decoded, and what each attempt met -/
def historyEvents (C : Ops) (k : Keys) (bd : Bytes → Bool) : Conn Decoded → List MetricsItem → List Metrics.Ev
  | _, [] => []
  | K, e :: rest =>
    .cmd e.2.1 true (e.2.2.1 == 0 || bd (runItem C k bd K e).2.2.layers.message.payload)
        (e.2.2.2.2.1.map (attOf C k e.1) ++ ending e.2.2.2.2.2)
      :: historyEvents C k bd (runItem C k bd K e).2.2 rest

def MetricsItem.ok (C : Ops) (k : Keys) (e : MetricsItem) : Prop :=
  e.1.ent < 4294967296 ∧ e.1.reqFails = false ∧ noCrash C k e.1 e.2.2.2.2.1 ∧ (e.2.2.2.2.2 = false → e.2.2.2.2.1 ≠ [])

/-- the Prometheus calls of a whole history of translated `SendCommand`s, applied to ANY starting metric values, are the
    instrumentation model run over the history's events -/
theorem generatedRun_metrics (C : Ops) (k : Keys) (hL : k.localID < 4294967296) (bd : Bytes → Bool) (m0 : Metrics.M)
    (h : List MetricsItem) (hok : ∀ e ∈ h, e.ok C k) :
    ∀ K : Conn Decoded, evsApply m0 (generatedRun C k bd K h).events
      = Proofs.C18.runFrom (evsApply m0 K.events) (historyEvents C k bd K h) := by
  induction h with
  | nil => intro K; rfl
  | cons e rest ih =>
    intro K
    obtain ⟨hc, hf, hn, hne⟩ := hok e (List.mem_cons_self ..)
    have ev : evsApply m0 (runItem C k bd K e).2.2.events = _ :=
      V2Session_SendCommand_events_eq C e.1 hc k hL hf e.2.2.2.1 e.2.2.2.2.1 hn e.2.2.2.2.2 hne (e.2.2.2.2.1.length + 1)
        (Nat.le_refl _) bd e.2.1 e.2.2.1 [] K m0
    -- unfolded on the left only: `rfl` would first try `K =?= (runItem … K e).2.2` and evaluate the translated `SendCommand`
    conv => lhs; unfold generatedRun
    conv => rhs; unfold historyEvents
    rw [ih (fun e he => hok e (List.mem_cons_of_mem _ he)), Proofs.C18.runFrom, Proofs.C18.runFrom, List.foldl_cons, ev]
    rfl

/-- **CONSERVATION about the translated code**: over any history of in-session commands (any scripts of outcomes, contexts ending
    in a Send or in the back-off), from any starting metric values — command attempts = calls made, per name; command failures =
    calls that returned an error or whose body did not decode; retries = runs of the retry closure beyond the first of each call (each
    hands a datagram to the transport, except a run that meets the already expired context: `inSend`); responses per completion
    code = accepted responses. -/
theorem generated_history_conservation (C : Ops) (k : Keys) (hL : k.localID < 4294967296) (bd : Bytes → Bool) (m0 : Metrics.M)
    (h : List MetricsItem) (hok : ∀ e ∈ h, e.ok C k) (K : Conn Decoded) :
    let before := evsApply m0 K.events
    let after := evsApply m0 (generatedRun C k bd K h).events
    let evs := historyEvents C k bd K h
    (∀ n, cnt n after.cmdAttempts = cnt n before.cmdAttempts + Proofs.C18.calls n evs) ∧
    (∀ n, cnt n after.cmdFailures = cnt n before.cmdFailures + Proofs.C18.failedCalls n evs) ∧
    after.retries = before.retries + Proofs.C18.extraTransmissions evs ∧
    (∀ c, cnt c after.responses = cnt c before.responses + Proofs.C18.responsesIn c evs) := by
  intro before after evs
  have e : after = _ := generatedRun_metrics C k hL bd m0 h hok K
  obtain ⟨a1, a2, a3, a4, _⟩ := Proofs.C18.conservation before evs
  rw [e]
  exact ⟨a1, a2, a3, a4⟩

end Bmc.Proofs.EndToEnd
