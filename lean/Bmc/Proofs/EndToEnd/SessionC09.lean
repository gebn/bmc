import Bmc.Proofs.GenLoops.BuildAndSend
import Bmc.Proofs.C09
/-! C09 for one call of the in-session loop: `V2Session_buildAndSend_gen_eq` with `C09.command_seqs`. -/
namespace Bmc.Proofs.EndToEnd
open Bmc Bmc.Wire Bmc.Crypto Bmc.Proto Bmc.GoOrch Bmc.GoLoops Bmc.Gen.Loops Bmc.Lemmas.GenLoops Bmc.Proofs.GenLoops

/-- C09 for the regenerated loop: whatever the BMC answers (any non-empty script of outcomes), the datagrams the translated
    `buildAndSend` hands to the transport carry the BMC's session ID and the sequence numbers counter+1, counter+2, … (modulo
    2^32), one per datagram, in transmission order. -/
theorem generated_loop_sequence_numbers (C : Ops) (c : Cmd) (hc : c.ent < 4294967296) (hf : c.reqFails = false) (s : Sess)
    (hs : s.inbound < 4294967296) (hL : s.localID < 4294967296) (hr : s.remoteID < 4294967296)
    (ivs : List Bytes) (script : List Outcome) (hne : script ≠ []) (hl : script.length ≤ ivs.length)
    (fuel : Nat) (hfu : script.length ≤ fuel) (bd : Bytes → Bool) (name : String) (rsp : Opaque)
    (K : Conn Decoded) (hK : K.inbound = UInt32.ofNat s.inbound) :
    let r := V2Session_buildAndSend (sessWorld C s.keys c bd) fuel (sessConsts s.keys) (cmdOf c name rsp)
              ({ ivs := ivs, script := script, sent := [] }, K)
    r.2.1.sent.map seqOf = (List.range r.2.1.sent.length).map (fun i => (s.inbound + i + 1) % 4294967296) ∧
    (∀ p ∈ r.2.1.sent, sessionIDOf p = s.remoteID) := by
  intro r
  obtain ⟨h1, _, _⟩ := V2Session_buildAndSend_gen_eq C c hc s hs hL hr ivs script hne hl fuel hfu bd name rsp [] K hK
  simp only [List.nil_append] at h1
  have hcs := Bmc.Proofs.C09.command_seqs C c hf s hs hr ivs script hl
  show r.2.1.sent.map seqOf = _ ∧ _
  rw [h1]
  exact ⟨hcs.1, hcs.2.1⟩

end Bmc.Proofs.EndToEnd
