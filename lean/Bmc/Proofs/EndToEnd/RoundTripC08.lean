import Bmc.Proofs.C08
import Bmc.Proofs.GenEnc.Message
import Bmc.Proofs.GenEnc.V1Session
import Bmc.Proofs.GenEnc.V2Session
import Bmc.Proofs.GenEnc.AES128CBC
import Bmc.Proofs.GenEnc.RAKPMessage1
import Bmc.Proofs.GenDec.RAKPMessage1
import Bmc.Lemmas.SetupRakp1Refine
import Bmc.Proofs.GenDec.Message
import Bmc.Proofs.GenDec.V1Session
import Bmc.Proofs.GenDec.V2Session
import Bmc.Proofs.GenDec.AES128CBC
import Bmc.Lemmas.MessageRefine
import Bmc.Lemmas.V1Refine
import Bmc.Lemmas.V2Refine
/-! C08 per layer: `X_enc_eq` (`Proofs/GenEnc`), `X_gen_eq` (`Proofs/GenDec`) and the `C08` round trip of the hand model. The
    regenerated serialiser, run over ANY stale buffer content, produces bytes which the regenerated decoder — started from ANY previous
    receiver content, on ANY Go slice showing those bytes (any capacity, any bytes beyond `len`) — turns back into the fields that were
    serialised and the inner payload. -/
namespace Bmc.Proofs.EndToEnd
open Bmc Bmc.Wire

theorem generated_message_roundtrip (v : Gen.Enc.Message) (stale inner c p : Bytes)
    (h : (Gen.Enc.Message.toModel v c p).WF) (prev : Gen.Dec.Message) (d : GoSlice) :
    ∃ v' b, Gen.Enc.Message.serializeTo v GoEnc.libraryOptions stale inner = .ok (v', b) ∧
      (d.vis = b → (Gen.Dec.Message.decodeGo prev d).map Gen.Dec.Message.toModel =
        R.ok { Gen.Enc.Message.toModel v' c p with
               contents := b.take (b.length - 1 - inner.length), payload := inner }) := by
  obtain ⟨⟨v', b⟩, hs, e⟩ := R.map_eq_ok.mp (Proofs.GenEnc.Message_enc_eq v stale inner c p)
  refine ⟨v', b, hs, fun hd => ?_⟩
  rw [Proofs.GenDec.Message_gen_eq, Message.decodeGo_refines, hd]
  have rt := Proofs.C08.message_roundtrip _ inner h
  rw [← e] at rt
  simp only at rt
  rw [rt]; rfl

theorem generated_v1_roundtrip (v : Gen.Enc.V1Session) (stale inner c p : Bytes)
    (h : (Gen.Enc.V1Session.toModel v c p).WF) (hc : v.authCode.length = 16) (prev : Gen.Dec.V1Session) (d : GoSlice) :
    ∃ v' b, Gen.Enc.V1Session.serializeTo v GoEnc.libraryOptions stale inner = .ok (v', b) ∧
      (d.vis = b → (Gen.Dec.V1Session.decodeGo prev d).map Gen.Dec.V1Session.toModel =
        R.ok { Gen.Enc.V1Session.toModel v' c p with
               contents := b.take (if v.authType == 0 then 10 else 26), payload := inner }) := by
  obtain ⟨⟨v', b⟩, hs, e⟩ := R.map_eq_ok.mp (Proofs.GenEnc.V1Session_enc_eq v hc stale inner c p)
  refine ⟨v', b, hs, fun hd => ?_⟩
  rw [Proofs.GenDec.V1Session_gen_eq, V1Session.decodeGo_refines, hd]
  have rt := Proofs.C08.v1_roundtrip _ inner h
  rw [← e] at rt
  simp only at rt
  rw [rt]; rfl

/-- v2.0 session wrapper, for EVERY integrity function `mac` (so every algorithm and key) -/
theorem generated_v2_roundtrip (mac : Bytes → Bytes) (v : Gen.Enc.V2Session) (stale inner c p : Bytes)
    (h : (Gen.Enc.V2Session.toModel v c p).WF inner) (prev : Gen.Dec.V2Session) (d : GoSlice) :
    ∃ v' b, Gen.Enc.V2Session.serializeTo mac v GoEnc.libraryOptions stale inner = .ok (v', b) ∧
      (d.vis = b → (Gen.Dec.V2Session.decodeGo mac prev d).map Gen.Dec.V2Session.toModel =
        RF.ok { Gen.Enc.V2Session.toModel v' c p with
                contents := b.take (if v.payloadDescriptor.payloadType == 2 then 18 else 12), payload := inner }) := by
  obtain ⟨⟨v', b⟩, hs, e⟩ := R.map_eq_ok.mp (Proofs.GenEnc.V2Session_enc_eq mac v stale inner c p)
  refine ⟨v', b, hs, fun hd => ?_⟩
  rw [Proofs.GenDec.V2Session_gen_eq, V2Session.decodeGo_refines, hd]
  have rt := Proofs.C08.v2_roundtrip mac _ inner h
  rw [← e] at rt
  simp only at rt
  rw [rt]; rfl

/-- AES-128-CBC confidentiality layer, for every lawful block cipher, key, IV drawn (16 bytes) and message of every length -/
theorem generated_aes_roundtrip (C : Crypto.Ops) (hC : C.Lawful) (key iv : Bytes) (hiv : iv.length = 16) (v : Gen.Enc.AES128CBC)
    (stale msg : Bytes) (prev : Gen.Dec.AES128CBC) (d : GoSlice) :
    ∃ b, Gen.Enc.AES128CBC.serializeTo (some iv) (fun iv pt => Crypto.cbcEnc C key (pt.length / 16) iv pt) v stale msg = .ok b ∧
      (d.vis = b →
        (Gen.Dec.AES128CBC.decodeGo (fun iv ct => Crypto.cbcDec C key (ct.length / 16) iv ct) prev d).map
            Gen.Dec.AES128CBC.toModel = R.ok { contents := iv, payload := msg }) := by
  refine ⟨_, Proofs.GenEnc.AES128CBC_enc_eq C hC key iv hiv v stale msg, fun hd => ?_⟩
  rw [Proofs.GenDec.AES128CBC_gen_eq C hC, AESLayer.decodeGo_refines C hC, hd, Proofs.C08.aes_roundtrip C hC key iv msg hiv]; rfl

/-- RAKP Message 1 (the layer has no inner payload) -/
theorem generated_rakp1_roundtrip (v : Gen.Enc.RAKPMessage1) (hr : v.remoteConsoleRandom.length = 16) (stale c : Bytes)
    (h : (Gen.Enc.RAKPMessage1.toSetup v c).WF) (prev : Gen.Dec.RAKPMessage1) (d : GoSlice) :
    ∃ b, Gen.Enc.RAKPMessage1.serializeTo v stale [] = .ok b ∧ b.length = 28 + v.username.length ∧
      (d.vis = b → (Gen.Dec.RAKPMessage1.decodeGo prev d).map Gen.Dec.RAKPMessage1.toModel =
        R.ok { Gen.Enc.RAKPMessage1.toSetup v c with contents := b }) := by
  obtain ⟨b, hb, hl, hdec⟩ := Proofs.C08.rakp1_roundtrip _ h
  refine ⟨b, ?_, hl, fun hd => ?_⟩
  · rw [Proofs.GenEnc.RAKPMessage1_enc_eq_setup v hr stale [] c, hb]; simp [Except.map]
  · rw [Proofs.GenDec.RAKPMessage1_gen_eq, Setup.RAKP1.decodeGo_refines, hd, hdec]; rfl

def sampleDescriptor : Gen.Enc.PayloadDescriptor := { payloadType := 2, enterprise := 0x1234, payloadID := 7 }
def sampleWrapper : Gen.Enc.V2Session :=
  { payloadDescriptor := sampleDescriptor, id := 5, sequence := 9, authenticated := true, encrypted := true }
/-- the hypotheses are satisfiable (an authenticated, encrypted OEM-descriptor wrapper) -/
example : (Gen.Enc.V2Session.toModel sampleWrapper [] []).WF [1, 2, 3] :=
  ⟨by decide, by decide, by decide, by decide, by decide, by decide, by decide, by decide⟩

end Bmc.Proofs.EndToEnd
