import Bmc.Proofs.GenLoops.BuildAndSendCommand
import Bmc.Proofs.C10
/-! C10 for the session-less `SendCommand`: `V2Sessionless_SendCommand_gen_eq` with `C10.sessionless_send_refines` /
    `sessionless_retries_until_final`. -/
namespace Bmc.Proofs.EndToEnd
open Bmc Bmc.Wire Bmc.Crypto Bmc.Proto Bmc.GoOrch Bmc.GoLoops Bmc.Gen.Loops Bmc.Lemmas.GenLoops Bmc.Proofs.GenLoops

/-- Outside a session, for every command that serialises and every script of outcomes: what `SendCommand` AS TRANSLATED ON THIS
    RUN hands to the transport is THE SAME datagram (the request's one serialisation) as many times as the documented contract
    `slExpected` says — one more after every lost reply, undecodable reply, reply to another operation or temporary completion
    code, none after a final answer — and the result is the contract's. -/
theorem generated_sessionless_SendCommand_retries (c : Cmd) (hc : c.ent < 4294967296) (hf : c.reqFails = false)
    (script : List Outcome) (fuel : Nat) (hfu : script.length + 1 ≤ fuel) (bd : Bytes → Bool) (name : String) (rsp : Opaque)
    (ivs sent0 : List Bytes) (K : Conn Decoded) :
    let r := V2Sessionless_SendCommand (slWorld c bd) fuel (cmdOf c name rsp) ({ ivs := ivs, script := script, sent := sent0 }, K)
    r.2.1.sent = sent0 ++ List.replicate (slExpected (slClassify c) script).1 (slSerialize c).2 ∧
    r.1 = (match (slExpected (slClassify c) script).2 with
           | .ok cc p => .ok (cc, if rsp != 0 ∧ bd p = false then some .response else none)
           | .transportErr => .ok (0, some .transport)
           | .serializeErr => .ok (0, some .serialize)
           | .ctxExpired => .ok (0, some .ctx)
           | .crashed => .panic) := by
  intro r
  obtain ⟨h1, _, h3⟩ := V2Sessionless_SendCommand_gen_eq c hc script fuel hfu bd name rsp ivs sent0 K
  obtain ⟨e2, e1⟩ := Proofs.C10.sessionless_send_refines c hf script
  rw [e1] at h1
  rw [e2] at h3
  exact ⟨h1, h3⟩

/-- … in particular: noise (`SlNoise`: lost replies, conforming responses to other operations or carrying a temporary code) and then
    a conforming final response — the request was transmitted once per item of noise plus once, and the call returns that
    response's completion code -/
theorem generated_sessionless_SendCommand_until_final (c : Cmd) (hc : c.ent < 4294967296) (hf : c.reqFails = false)
    (noise : List Outcome) (hn : ∀ o ∈ noise, SlNoise c o) (sid seq : Nat) (cc : UInt8) (data : Bytes) (rest : List Outcome)
    (hm : (responseMsg c cc).WF) (hsid : sid < 4294967296) (hseq : seq < 4294967296)
    (hlen : (responseBytes c cc data).length < 65536) (hnt : isTemp cc = false)
    (fuel : Nat) (hfu : (noise ++ .reply (slResponseDatagramWith sid seq c cc data) :: rest).length + 1 ≤ fuel)
    (bd : Bytes → Bool) (name : String) (rsp : Opaque) (ivs sent0 : List Bytes) (K : Conn Decoded) :
    let r := V2Sessionless_SendCommand (slWorld c bd) fuel (cmdOf c name rsp)
              ({ ivs := ivs, script := noise ++ .reply (slResponseDatagramWith sid seq c cc data) :: rest, sent := sent0 }, K)
    r.2.1.sent = sent0 ++ List.replicate (noise.length + 1) (slSerialize c).2 ∧
    r.1 = .ok (cc, if rsp != 0 ∧ bd data = false then some .response else none) := by
  intro r
  obtain ⟨h1, _, h3⟩ := V2Sessionless_SendCommand_gen_eq c hc _ fuel hfu bd name rsp ivs sent0 K
  have e := Proofs.C10.sessionless_retries_until_final c hf noise hn sid seq cc data rest hm hsid hseq hlen hnt
  rw [e] at h1 h3
  exact ⟨h1, h3⟩

end Bmc.Proofs.EndToEnd
