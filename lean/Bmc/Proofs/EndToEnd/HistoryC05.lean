import Bmc.Lemmas.GenLoopsHistory
import Bmc.Proofs.C05.Core
/-! C05 over the whole life of a session: `generatedResults_eq_tied` (what the calls return is `modelResults`) with `C05.call_total`.
    (The decoders' own statements are `SafeC05`.) -/
namespace Bmc.Proofs.EndToEnd
open Bmc Bmc.Wire Bmc.Crypto Bmc.Proto Bmc.GoOrch Bmc.GoLoops Bmc.Gen.Loops Bmc.Lemmas.GenLoops Bmc.Proofs.GenLoops Bmc.Proofs.C09

theorem modelResults_no_panic (C : Ops) (hC : C.Lawful) (bd : Bytes → Bool) (h : List HistItem) :
    ∀ s : Sess, ∀ r ∈ modelResults C bd s h, r ≠ RF.panic := by
  induction h with
  | nil => intro s r hr; simp [modelResults] at hr
  | cons e rest ih =>
    intro s r hr
    obtain ⟨c, name, rsp, ivs, script⟩ := e
    simp only [modelResults, List.mem_cons] at hr
    rcases hr with rfl | hr
    · have := Bmc.Proofs.C05.call_total C hC c s ivs script
      cases hm : (sendLoop C c s ivs script).2.2 with
      | crashed => exact absurd hm this
      | _ => simp
    · exact ih _ r hr

/-- **C05, history form, about the translated code**: the translated `SendCommand` is run command after command, each call on the
    connection value the previous one left, and the surroundings may deliver ANY bytes as replies, any number of them, at any point
    of any call (the scripts are arbitrary). No call of the history ends in a panic: every one returns a completion code or an error.
    (`RF.panic` is how the translation of a Go function represents a run-time panic — index out of range, nil dereference, slice
    bounds. Under `sessWorld` the connection's decoder is the hand model `onReply` and the response layer's `DecodeFromBytes` is the
    Bool-valued parameter `World.decodeFromBytes`: the statement is `C05.call_total` carried to the translated loop; the response
    layers' own decoders are the subject of the per-layer C05 theorems and `C07.finish_never_panics`.) -/
theorem generated_history_never_panics (C : Ops) (hC : C.Lawful) (bd : Bytes → Bool) (h : List HistItem) (hok : ∀ e ∈ h, e.ok)
    (s : Sess) (K : Conn Decoded) (hs : s.inbound < 4294967296) (hL : s.localID < 4294967296) (hr : s.remoteID < 4294967296)
    (hK : K.inbound = UInt32.ofNat s.inbound) :
    (generatedResults C s.keys bd K h).length = h.length ∧ ∀ r ∈ generatedResults C s.keys bd K h, r ≠ RF.panic := by
  refine ⟨generatedResults_length C _ bd h K, ?_⟩
  rw [generatedResults_eq_tied C bd h (fun e he => (hok e he).weaken) ⟨rfl, hs, hL, hr, hK⟩]
  exact modelResults_no_panic C hC bd h s

end Bmc.Proofs.EndToEnd
