import Bmc.Proofs.EndToEnd.WholeC01
import Bmc.Proofs.EndToEnd.HistoryC11
/-! C04 / C11 whole: `generated_session_keys` (WholeC01) with `generated_history_results` (HistoryC11). -/
namespace Bmc.Proofs.EndToEnd
open Bmc Bmc.Wire Bmc.Crypto Bmc.Proto Bmc.GoOrch Bmc.GoLoops Bmc.Gen.Loops Bmc.Lemmas.GenLoops Bmc.Lemmas.GenHs
open Bmc.Spec Bmc.Proofs.C03 Bmc.Proofs.C01

open Bmc.Gen.Hs Bmc.Gen.Orch in
/-- "Authentic" in C04 means: carrying the AuthCode only a holder of the session's K1 can compute. Here the K1 is not a parameter: the
    session is the one the translated `newV2Session` returns against the specification's BMC, and K1 is the key THAT BMC derived for
    itself from its own copy of the password, its own random number and the console's. Over any history that follows — any replies,
    forgeries, garbage, losses, any number of commands — whenever a call of the translated `SendCommand` returns a completion code with
    a nil error, a reply delivered during that call was addressed to the console's session ID, had the authenticated flag set, carried
    as AuthCode the negotiated keyed hash under the BMC's K1 of everything before it, and decoded to a message for that call's command
    with that code. -/
theorem generated_session_then_history_results (C : Ops) (hC : C.Lawful) (fuel : Nat)
    (sendS : Unit → GetChannelCipherSuitesReq → Unit × GetChannelCipherSuitesRsp × Bool) (tail : Bytes)
    (opts : V2SessionOpts) (cs : Gen.Dec.CipherSuite) (draw : Bytes)
    (hdet : bmc_V2SessionlessTransport_determineCipherSuite fuel sendS tail opts.cipherSuites () = (.ok cs, ()))
    (b : Spec.BmcSide) (hb : b.wf) (hh : HashAlg)
    (hauth : authHash (optsOf opts cs).auth = some hh)
    (hinteg : (optsOf opts cs).integ = 1 ∨ (optsOf opts cs).integ = 2 ∨ (optsOf opts cs).integ = 4)
    (hconf : (optsOf opts cs).conf = 1) (hpass : b.kuid = (optsOf opts cs).pass) (hkg : b.kg = (optsOf opts cs).kg)
    (bd : Bytes → Bool) (K : Conn Decoded) (hK : K.inbound = 0)
    (h : List HistItem) (hok : ∀ e ∈ h, e.ok) :
    let o := optsOf opts cs
    let rm := GoKeys.copyArr 16 (List.replicate 16 0) draw
    let k : Keys := ⟨1, b.sidc, o.integ.toNat, b.k1 C hh (received o rm), (b.k2 C hh (received o rm)).take 16⟩
    ∃ sess, (bmc_V2SessionlessTransport_newV2Session fuel sendS (typedO b) (typedR1 C hh b o rm) (typedR3 C hh b o rm) tail
              (Bmc.Lemmas.GenKeys.mac C) (fun _ _ => ((), some draw)) opts ()).1 = .ok (.ok sess) ∧
      (generatedResults C (keysOfSession sess) bd K h).length = h.length ∧
      ∀ er ∈ h.zip (generatedResults C (keysOfSession sess) bd K h), ResultJustified C k er.1 er.2 := by
  intro o rm k
  obtain ⟨sess, hs, hk⟩ := generated_session_keys C hC fuel sendS tail opts cs draw hdet b hb hh hauth hinteg hconf hpass hkg
  refine ⟨sess, hs, ?_⟩
  rw [hk]
  have t : Tied k k.sess K := .fresh (show 1 < 4294967296 by decide) hb.1 hK
  exact generated_history_results C bd h hok k.sess K t.inb t.loc t.rem t.cnt

/-- in such a session an integrity algorithm IS negotiated, so `ResultJustified`'s "authenticated when an integrity algorithm was
    negotiated" is unconditional -/
theorem integ_ne_zero_of_negotiated (i : UInt8) (h : i = 1 ∨ i = 2 ∨ i = 4) : i.toNat ≠ 0 := by
  rcases h with rfl | rfl | rfl <;> decide

end Bmc.Proofs.EndToEnd
