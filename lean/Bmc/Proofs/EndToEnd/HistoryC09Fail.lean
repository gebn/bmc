import Bmc.Lemmas.GenLoopsHistory
/-! C09 over the whole life of a session, commands whose request layer's `SerializeTo` returns an error included (`reqFails`;
    `HistItem.ok'`): such a call ends with that error, nothing is sent, and it consumes NO sequence number — the datagrams before
    and after it are numbered consecutively. `generatedHistory_eq_tied`: the datagrams are those of the hand model's `runHistory`,
    hence `C09.history_seqs` / `history_no_reuse`. -/
namespace Bmc.Proofs.EndToEnd
open Bmc Bmc.Wire Bmc.Crypto Bmc.Proto Bmc.GoOrch Bmc.GoLoops Bmc.Gen.Loops Bmc.Lemmas.GenLoops Bmc.Proofs.GenLoops Bmc.Proofs.C09

/-- **C09, history form with serialisation failures, about the translated code** -/
theorem generated_history_sequence_numbers_any (C : Ops) (bd : Bytes → Bool) (h : List HistItem) (hok : ∀ e ∈ h, e.ok')
    (s : Sess) (K : Conn Decoded) (hs : s.inbound < 4294967296) (hL : s.localID < 4294967296) (hr : s.remoteID < 4294967296)
    (hK : K.inbound = UInt32.ofNat s.inbound) :
    (generatedHistory C s.keys bd K h).map seqOf
      = (List.range (generatedHistory C s.keys bd K h).length).map (fun i => (s.inbound + i + 1) % 4294967296) ∧
    (∀ p ∈ generatedHistory C s.keys bd K h, sessionIDOf p = s.remoteID) := by
  rw [generatedHistory_eq_tied C bd h hok ⟨rfl, hs, hL, hr, hK⟩]
  exact history_seqs C s hs hr (h.map modelItem) (List.forall_mem_map.mpr fun e he => (hok e he).2.2)

theorem generated_history_no_reuse_any (C : Ops) (bd : Bytes → Bool) (h : List HistItem) (hok : ∀ e ∈ h, e.ok')
    (s : Sess) (K : Conn Decoded) (hs : s.inbound < 4294967296) (hL : s.localID < 4294967296) (hr : s.remoteID < 4294967296)
    (hK : K.inbound = UInt32.ofNat s.inbound) (hn : (generatedHistory C s.keys bd K h).length ≤ 4294967296)
    (i j : Nat) (hij : i < j) (hj : j < (generatedHistory C s.keys bd K h).length) :
    ((generatedHistory C s.keys bd K h).map seqOf).getD i 0 ≠ ((generatedHistory C s.keys bd K h).map seqOf).getD j 0 := by
  rw [generatedHistory_eq_tied C bd h hok ⟨rfl, hs, hL, hr, hK⟩] at hn hj ⊢
  exact history_no_reuse C s hs hr (h.map modelItem) (List.forall_mem_map.mpr fun e he => (hok e he).2.2) hn i j hij hj

/-- a history with a failing command in the middle meets the hypotheses -/
example : ∀ e ∈ ([({ fn := 6, cmd := 1 }, "a", 0, [[]], [.lost]),
                  ({ fn := 6, cmd := 2, reqFails := true }, "b", 0, [[]], [.lost]),
                  ({ fn := 6, cmd := 1 }, "c", 0, [[], []], [.reply [], .lost])] : List HistItem), e.ok' := by
  simp only [List.mem_cons, List.not_mem_nil, or_false, forall_eq_or_imp, forall_eq]
  exact ⟨⟨by decide, by decide, by decide⟩, ⟨by decide, by decide, by decide⟩, ⟨by decide, by decide, by decide⟩⟩

end Bmc.Proofs.EndToEnd
