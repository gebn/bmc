import Bmc.Proofs.GenLoops.BuildAndSend
import Bmc.Proofs.GenLoops.BuildAndSendCommand
/-! C17 for one call: `*_SendCommand_gen_eq` express the outcome through the hand model, which has no state of the kind the connection
    value `K` holds — the layer structs as last decoded or serialised (RMCP, session wrapper, message: fields, `Contents`, `Payload`),
    which layer types that decode went through, the serialisation buffer's bytes, the Prometheus log. Hence two connection values that differ
    ARBITRARILY in all of that (same sequence counter) give the same result, the same datagrams and the same counter. -/
namespace Bmc.Proofs.EndToEnd
open Bmc Bmc.Wire Bmc.Crypto Bmc.Proto Bmc.GoOrch Bmc.GoLoops Bmc.Gen.Loops Bmc.Lemmas.GenLoops Bmc.Proofs.GenLoops

theorem generated_session_SendCommand_ignores_history (C : Ops) (c : Cmd) (hc : c.ent < 4294967296) (s : Sess)
    (hs : s.inbound < 4294967296) (hL : s.localID < 4294967296) (hr : s.remoteID < 4294967296)
    (ivs : List Bytes) (script : List Outcome) (hne : script ≠ []) (hl : script.length ≤ ivs.length)
    (fuel : Nat) (hfu : script.length ≤ fuel) (bd : Bytes → Bool) (name : String) (rsp : Opaque)
    (sent0 : List Bytes) (K K' : Conn Decoded) (hK : K.inbound = UInt32.ofNat s.inbound) (hK' : K'.inbound = UInt32.ofNat s.inbound) :
    let r := V2Session_SendCommand (sessWorld C s.keys c bd) fuel (sessConsts s.keys) (cmdOf c name rsp)
              ({ ivs := ivs, script := script, sent := sent0 }, K)
    let r' := V2Session_SendCommand (sessWorld C s.keys c bd) fuel (sessConsts s.keys) (cmdOf c name rsp)
              ({ ivs := ivs, script := script, sent := sent0 }, K')
    r.1 = r'.1 ∧ r.2.1.sent = r'.2.1.sent ∧ r.2.2.inbound = r'.2.2.inbound := by
  intro r r'
  obtain ⟨a1, a2, a3⟩ := V2Session_SendCommand_gen_eq C c hc s hs hL hr ivs script hne hl fuel hfu bd name rsp sent0 K hK
  obtain ⟨b1, b2, b3⟩ := V2Session_SendCommand_gen_eq C c hc s hs hL hr ivs script hne hl fuel hfu bd name rsp sent0 K' hK'
  refine ⟨a3.trans b3.symm, a1.trans b1.symm, ?_⟩
  exact UInt32.toNat_inj.mp (a2.trans b2.symm)

theorem generated_sessionless_SendCommand_ignores_history (c : Cmd) (hc : c.ent < 4294967296) (script : List Outcome)
    (fuel : Nat) (hfu : script.length + 1 ≤ fuel) (bd : Bytes → Bool) (name : String) (rsp : Opaque)
    (ivs sent0 : List Bytes) (K K' : Conn Decoded) :
    let r := V2Sessionless_SendCommand (slWorld c bd) fuel (cmdOf c name rsp) ({ ivs := ivs, script := script, sent := sent0 }, K)
    let r' := V2Sessionless_SendCommand (slWorld c bd) fuel (cmdOf c name rsp) ({ ivs := ivs, script := script, sent := sent0 }, K')
    r.1 = r'.1 ∧ r.2.1.sent = r'.2.1.sent := by
  intro r r'
  obtain ⟨a1, _, a3⟩ := V2Sessionless_SendCommand_gen_eq c hc script fuel hfu bd name rsp ivs sent0 K
  obtain ⟨b1, _, b3⟩ := V2Sessionless_SendCommand_gen_eq c hc script fuel hfu bd name rsp ivs sent0 K'
  exact ⟨a3.trans b3.symm, a1.trans b1.symm⟩

end Bmc.Proofs.EndToEnd
