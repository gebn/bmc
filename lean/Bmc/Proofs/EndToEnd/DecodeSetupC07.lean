import Bmc.Proofs.C07.Setup
import Bmc.Lemmas.SetupRakp1Refine
import Bmc.Lemmas.Rakp2Refine
import Bmc.Lemmas.V1Refine
import Bmc.Proofs.GenDec.OpenSessionRsp
import Bmc.Proofs.GenDec.RAKPMessage1
import Bmc.Proofs.GenDec.RAKPMessage2
import Bmc.Proofs.GenDec.RAKPMessage4
import Bmc.Proofs.GenDec.SessionSelector
import Bmc.Proofs.GenDec.V1Session
/-! `DecodeC07` for the session-setup payloads: every receiver content, every Go slice whose visible bytes are the specification's
    encoding of a well-formed value. -/
namespace Bmc.Proofs.EndToEnd
open Bmc Bmc.Gen.Dec Bmc.Lemmas.GenDec Bmc.Proofs.C07 Bmc.Proofs.GenDec

theorem generated_OpenSessionRsp_decodes (prev : OpenSessionRsp) (d : GoSlice) (v : Spec.OpenSessionRsp) (hv : v.wf)
    (hd : d.vis = v.encode) :
    (OpenSessionRsp.decodeGo prev d).map OpenSessionRsp.toModel = R.ok (openSessionRspView v) := by
  rw [OpenSessionRsp_gen_eq, Wire.Setup.OpenSessionRsp.decodeGo_refines, hd, openSessionRsp_decode_spec v hv]; rfl

theorem generated_RAKPMessage1_decodes (prev : RAKPMessage1) (d : GoSlice) (v : Spec.RAKP1) (hv : v.wf)
    (hd : d.vis = v.encode) :
    (RAKPMessage1.decodeGo prev d).map RAKPMessage1.toModel = R.ok (rakp1View v) := by
  rw [RAKPMessage1_gen_eq, Wire.Setup.RAKP1.decodeGo_refines, hd, rakp1_decode_spec v hv]; rfl

theorem generated_RAKPMessage2_decodes (prev : RAKPMessage2) (d : GoSlice) (v : Spec.RAKP2) (hv : v.wf)
    (hd : d.vis = v.encode) :
    (RAKPMessage2.decodeGo prev d).map RAKPMessage2.toModel = R.ok (rakp2View v) := by
  rw [RAKPMessage2_gen_eq, Wire.RAKP2.decodeGo_refines, hd, rakp2_decode_spec v hv]; rfl

theorem generated_RAKPMessage4_decodes (prev : RAKPMessage4) (d : GoSlice) (v : Spec.RAKP4) (hv : v.wf)
    (hd : d.vis = v.encode) :
    (RAKPMessage4.decodeGo prev d).map RAKPMessage4.toModel = R.ok (rakp4View v) := by
  rw [RAKPMessage4_gen_eq, Wire.Setup.RAKP4.decodeGo_refines, hd, rakp4_decode_spec v hv]; rfl

theorem generated_SessionSelector_decodes (prev : SessionSelector) (d : GoSlice) (v : Spec.SessionWrapper)
    (hd : d.vis = v.encode) :
    (SessionSelector.decodeGo prev d).map SessionSelector.toModel = R.ok { isRMCPPlus := v.isV2, payload := v.encode } := by
  rw [SessionSelector_gen_eq, Wire.Setup.Selector.decodeGo_refines, hd, selector_decode_spec v]; rfl

theorem generated_V1Session_decodes (prev : V1Session) (d : GoSlice) (v : Spec.V1Packet) (hv : v.wf)
    (hd : d.vis = v.encode) :
    (V1Session.decodeGo prev d).map V1Session.toModel = R.ok (v1View v) := by
  rw [V1Session_gen_eq, Wire.V1Session.decodeGo_refines, hd, v1_decode_spec v hv]; rfl

end Bmc.Proofs.EndToEnd
