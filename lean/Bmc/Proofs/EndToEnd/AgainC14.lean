import Bmc.Proofs.EndToEnd.WalkC14
/-! C14 for a second `RetrieveSDRRepository` on the same session: `generated_RetrieveSDRRepository_snapshot` (WalkC14) from the state the
    first call left, which still satisfies the device invariant (`C14.retrieve_sound`). -/
namespace Bmc.Proofs.EndToEnd
open Bmc Bmc.Spec Bmc.GoOrch Bmc.Gen.Orch Bmc.Proto Bmc.Proto.SdrWalk Bmc.Lemmas.SdrWalk Bmc.Lemmas.GenOrch Bmc.Lemmas.GenOrchSdr Bmc.Proofs.C14 Bmc.Proofs.GenOrch

/-- A session is used for more than one retrieval: a first `RetrieveSDRRepository` — which may have SUCCEEDED OR FAILED, with
    reservations taken and lost, the repository modified under it, any number of attempts used up — and then a second one on the same
    session, against the device in whatever state the first left it. The second call's result, when it returns one, is again exactly
    the Full Sensor Records of the ONE state of the device in which that call ended: nothing of the first walk (a partial map, a
    stale reservation, a position in the chain) shows in it. (The statement behind the harness's "a failed retrieval is followed by
    a second one".) -/
theorem generated_RetrieveSDRRepository_again (junk junk' : _ → GetSDRReq → GetSDRRsp) (fuel attempts fuel' attempts' : Nat)
    (w : World) (hInv : w.Inv)
    (hfirst : (bmc_RetrieveSDRRepository fuel (sendOf bmc junk) (infoOf bmc) (reserveOf bmc) attempts w).1 ≠ .outOfFuel)
    (m : SDRRepository) :
    let w1 := (bmc_RetrieveSDRRepository fuel (sendOf bmc junk) (infoOf bmc) (reserveOf bmc) attempts w).2
    (bmc_RetrieveSDRRepository fuel' (sendOf bmc junk') (infoOf bmc) (reserveOf bmc) attempts' w1).1.map viewRepo = .ok m →
    m = fullView (bmc_RetrieveSDRRepository fuel' (sendOf bmc junk') (infoOf bmc) (reserveOf bmc) attempts' w1).2.repo.store.recs := by
  intro w1 h
  have hInv1 : w1.Inv := by
    rcases RetrieveSDRRepository_gen_eq bmc junk fuel attempts w with hf | ⟨_, h2⟩
    · exact absurd hf hfirst
    · show (bmc_RetrieveSDRRepository fuel (sendOf bmc junk) (infoOf bmc) (reserveOf bmc) attempts w).2.Inv
      rw [h2]
      exact (retrieve_sound fuel attempts w hInv).1
  exact generated_RetrieveSDRRepository_snapshot junk' fuel' attempts' w1 hInv1 m h

end Bmc.Proofs.EndToEnd
