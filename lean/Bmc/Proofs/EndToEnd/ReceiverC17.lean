import Bmc.Lemmas.DcmiRefine
import Bmc.Lemmas.MessageRefine
import Bmc.Lemmas.Rakp2Refine
import Bmc.Lemmas.SdrRefine
import Bmc.Lemmas.SessRefine
import Bmc.Lemmas.SetupOpenRefine
import Bmc.Lemmas.SetupRakp1Refine
import Bmc.Lemmas.V1Refine
import Bmc.Proofs.GenDec.GetDeviceIDRsp
import Bmc.Proofs.GenDec.GetChassisStatusRsp
import Bmc.Proofs.GenDec.GetChannelAuthenticationCapabilitiesRsp
import Bmc.Proofs.GenDec.GetChannelCipherSuitesRsp
import Bmc.Proofs.GenDec.SetSessionPrivilegeLevelRsp
import Bmc.Proofs.GenDec.GetSystemGUIDRsp
import Bmc.Proofs.GenDec.GetSessionInfoRsp
import Bmc.Proofs.GenDec.GetSDRRepositoryInfoRsp
import Bmc.Proofs.GenDec.ReserveSDRRepositoryRsp
import Bmc.Proofs.GenDec.GetSDRRsp
import Bmc.Proofs.GenDec.SDR
import Bmc.Proofs.GenDec.GetSensorReadingRsp
import Bmc.Proofs.GenDec.FullSensorRecord
import Bmc.Proofs.GenDec.GetPowerReadingRsp
import Bmc.Proofs.GenDec.GetDCMICapabilitiesInfoSupportedCapabilitiesRsp
import Bmc.Proofs.GenDec.GetDCMICapabilitiesInfoMandatoryPlatformAttrsRsp
import Bmc.Proofs.GenDec.GetDCMICapabilitiesInfoOptionalPlatformAttrsRsp
import Bmc.Proofs.GenDec.GetDCMICapabilitiesInfoManageabilityAccessAttrsRsp
import Bmc.Proofs.GenDec.OpenSessionRsp
import Bmc.Proofs.GenDec.RAKPMessage1
import Bmc.Proofs.GenDec.RAKPMessage2
import Bmc.Proofs.GenDec.RAKPMessage4
import Bmc.Proofs.GenDec.SessionSelector
import Bmc.Proofs.GenDec.V1Session
import Bmc.Proofs.GenDec.Message
/-! C17 per decoder: `X_gen_eq` on both sides, then `decodeGo_refines` / `decodeGo_canon` — both are the pure decoder on the visible bytes.
    For EVERY input — valid, truncated, garbage, any capacity, any bytes beyond `len` — and ANY two previous contents of the receiver
    struct, `DecodeFromBytes` as re-translated from the source gives the same outcome and (through `toModel`, which keeps every field)
    the same decoded value. (`DecodeC07` says WHICH value for valid encodings. The session wrapper and the AES layer have no member
    here — their `_gen_eq` is stated for every `prev` as well; in `ReuseC17` the connection's decoder is a parameter instantiated
    with the hand model —, nor have the two DCMI layers GetDCMISensorInfoRsp and …EnhancedSystemPowerStatisticsAttrsRsp.) -/
namespace Bmc.Proofs.EndToEnd
open Bmc Bmc.Gen.Dec Bmc.Lemmas.GenDec Bmc.Proofs.GenDec

theorem generated_GetDeviceIDRsp_ignores_receiver (prev prev' : GetDeviceIDRsp) (d : GoSlice) :
    (GetDeviceIDRsp.decodeGo prev d).map GetDeviceIDRsp.toModel = (GetDeviceIDRsp.decodeGo prev' d).map GetDeviceIDRsp.toModel := by
  rw [GetDeviceIDRsp_gen_eq, GetDeviceIDRsp_gen_eq, Wire.GetDeviceIDRsp.decodeGo_refines, Wire.GetDeviceIDRsp.decodeGo_refines]

theorem generated_GetChassisStatusRsp_ignores_receiver (prev prev' : GetChassisStatusRsp) (d : GoSlice) :
    (GetChassisStatusRsp.decodeGo prev d).map GetChassisStatusRsp.toModel = (GetChassisStatusRsp.decodeGo prev' d).map GetChassisStatusRsp.toModel := by
  rw [GetChassisStatusRsp_gen_eq, GetChassisStatusRsp_gen_eq, (Wire.GetChassisStatusRsp.decodeGo_canon _ d).1, (Wire.GetChassisStatusRsp.decodeGo_canon _ d).1]

theorem generated_GetChannelAuthenticationCapabilitiesRsp_ignores_receiver (prev prev' : GetChannelAuthenticationCapabilitiesRsp) (d : GoSlice) :
    (GetChannelAuthenticationCapabilitiesRsp.decodeGo prev d).map GetChannelAuthenticationCapabilitiesRsp.toModel = (GetChannelAuthenticationCapabilitiesRsp.decodeGo prev' d).map GetChannelAuthenticationCapabilitiesRsp.toModel := by
  rw [GetChannelAuthenticationCapabilitiesRsp_gen_eq, GetChannelAuthenticationCapabilitiesRsp_gen_eq, (Wire.AuthCapsRsp.decodeGo_canon _ d).1, (Wire.AuthCapsRsp.decodeGo_canon _ d).1]

theorem generated_GetChannelCipherSuitesRsp_ignores_receiver (prev prev' : GetChannelCipherSuitesRsp) (d : GoSlice) :
    (GetChannelCipherSuitesRsp.decodeGo prev d).map GetChannelCipherSuitesRsp.toModel = (GetChannelCipherSuitesRsp.decodeGo prev' d).map GetChannelCipherSuitesRsp.toModel := by
  rw [GetChannelCipherSuitesRsp_gen_eq, GetChannelCipherSuitesRsp_gen_eq, (Wire.CipherSuitesRsp.decodeGo_canon _ d).1, (Wire.CipherSuitesRsp.decodeGo_canon _ d).1]

theorem generated_SetSessionPrivilegeLevelRsp_ignores_receiver (prev prev' : SetSessionPrivilegeLevelRsp) (d : GoSlice) :
    (SetSessionPrivilegeLevelRsp.decodeGo prev d).map SetSessionPrivilegeLevelRsp.toModel = (SetSessionPrivilegeLevelRsp.decodeGo prev' d).map SetSessionPrivilegeLevelRsp.toModel := by
  rw [SetSessionPrivilegeLevelRsp_gen_eq, SetSessionPrivilegeLevelRsp_gen_eq, (Wire.SetPrivRsp.decodeGo_canon _ d).1, (Wire.SetPrivRsp.decodeGo_canon _ d).1]

theorem generated_GetSystemGUIDRsp_ignores_receiver (prev prev' : GetSystemGUIDRsp) (d : GoSlice) :
    (GetSystemGUIDRsp.decodeGo prev d).map GetSystemGUIDRsp.toModel = (GetSystemGUIDRsp.decodeGo prev' d).map GetSystemGUIDRsp.toModel := by
  rw [GetSystemGUIDRsp_gen_eq, GetSystemGUIDRsp_gen_eq, (Wire.GUIDRsp.decodeGo_canon _ d).1, (Wire.GUIDRsp.decodeGo_canon _ d).1]

theorem generated_GetSessionInfoRsp_ignores_receiver (prev prev' : GetSessionInfoRsp) (d : GoSlice) :
    (GetSessionInfoRsp.decodeGo prev d).map GetSessionInfoRsp.toModel = (GetSessionInfoRsp.decodeGo prev' d).map GetSessionInfoRsp.toModel := by
  rw [GetSessionInfoRsp_gen_eq, GetSessionInfoRsp_gen_eq, (Wire.SessionInfoRsp.decodeGo_canon _ d).1, (Wire.SessionInfoRsp.decodeGo_canon _ d).1]

theorem generated_GetSDRRepositoryInfoRsp_ignores_receiver (prev prev' : GetSDRRepositoryInfoRsp) (d : GoSlice) :
    (GetSDRRepositoryInfoRsp.decodeGo prev d).map GetSDRRepositoryInfoRsp.toModel = (GetSDRRepositoryInfoRsp.decodeGo prev' d).map GetSDRRepositoryInfoRsp.toModel := by
  rw [GetSDRRepositoryInfoRsp_gen_eq, GetSDRRepositoryInfoRsp_gen_eq, (Wire.SDRRepoInfoRsp.decodeGo_canon _ d).1, (Wire.SDRRepoInfoRsp.decodeGo_canon _ d).1]

theorem generated_ReserveSDRRepositoryRsp_ignores_receiver (prev prev' : ReserveSDRRepositoryRsp) (d : GoSlice) :
    (ReserveSDRRepositoryRsp.decodeGo prev d).map ReserveSDRRepositoryRsp.toModel = (ReserveSDRRepositoryRsp.decodeGo prev' d).map ReserveSDRRepositoryRsp.toModel := by
  rw [ReserveSDRRepositoryRsp_gen_eq, ReserveSDRRepositoryRsp_gen_eq, (Wire.ReserveRsp.decodeGo_canon _ d).1, (Wire.ReserveRsp.decodeGo_canon _ d).1]

theorem generated_GetSDRRsp_ignores_receiver (prev prev' : GetSDRRsp) (d : GoSlice) :
    (GetSDRRsp.decodeGo prev d).map GetSDRRsp.toModel = (GetSDRRsp.decodeGo prev' d).map GetSDRRsp.toModel := by
  rw [GetSDRRsp_gen_eq, GetSDRRsp_gen_eq, (Wire.GetSDRRsp.decodeGo_canon _ d).1, (Wire.GetSDRRsp.decodeGo_canon _ d).1]

theorem generated_SDR_ignores_receiver (prev prev' : SDR) (d : GoSlice) :
    (SDR.decodeGo prev d).map SDR.toModel = (SDR.decodeGo prev' d).map SDR.toModel := by
  rw [SDR_gen_eq, SDR_gen_eq, (Wire.SDRHeader.decodeGo_canon _ d).1, (Wire.SDRHeader.decodeGo_canon _ d).1]

theorem generated_GetSensorReadingRsp_ignores_receiver (prev prev' : GetSensorReadingRsp) (d : GoSlice) :
    (GetSensorReadingRsp.decodeGo prev d).map GetSensorReadingRsp.toModel = (GetSensorReadingRsp.decodeGo prev' d).map GetSensorReadingRsp.toModel := by
  rw [GetSensorReadingRsp_gen_eq, GetSensorReadingRsp_gen_eq, (Wire.SensorReadingRsp.decodeGo_canon _ d).1, (Wire.SensorReadingRsp.decodeGo_canon _ d).1]

theorem generated_FullSensorRecord_ignores_receiver (prev prev' : FullSensorRecord) (d : GoSlice) :
    (FullSensorRecord.decodeGo prev d).map FullSensorRecord.toModel = (FullSensorRecord.decodeGo prev' d).map FullSensorRecord.toModel := by
  rw [FullSensorRecord_gen_eq, FullSensorRecord_gen_eq, Wire.FullSensorRecord.decodeGo_refines, Wire.FullSensorRecord.decodeGo_refines]

theorem generated_GetPowerReadingRsp_ignores_receiver (prev prev' : GetPowerReadingRsp) (d : GoSlice) :
    (GetPowerReadingRsp.decodeGo prev d).map GetPowerReadingRsp.toModel = (GetPowerReadingRsp.decodeGo prev' d).map GetPowerReadingRsp.toModel := by
  rw [GetPowerReadingRsp_gen_eq, GetPowerReadingRsp_gen_eq, Wire.PowerReading.decodeGo_refines, Wire.PowerReading.decodeGo_refines]

theorem generated_GetDCMICapabilitiesInfoSupportedCapabilitiesRsp_ignores_receiver (prev prev' : GetDCMICapabilitiesInfoSupportedCapabilitiesRsp) (d : GoSlice) :
    (GetDCMICapabilitiesInfoSupportedCapabilitiesRsp.decodeGo prev d).map GetDCMICapabilitiesInfoSupportedCapabilitiesRsp.toModel = (GetDCMICapabilitiesInfoSupportedCapabilitiesRsp.decodeGo prev' d).map GetDCMICapabilitiesInfoSupportedCapabilitiesRsp.toModel := by
  rw [GetDCMICapabilitiesInfoSupportedCapabilitiesRsp_gen_eq, GetDCMICapabilitiesInfoSupportedCapabilitiesRsp_gen_eq, Wire.DcmiCap1.decodeGo_refines, Wire.DcmiCap1.decodeGo_refines]

theorem generated_GetDCMICapabilitiesInfoMandatoryPlatformAttrsRsp_ignores_receiver (prev prev' : GetDCMICapabilitiesInfoMandatoryPlatformAttrsRsp) (d : GoSlice) :
    (GetDCMICapabilitiesInfoMandatoryPlatformAttrsRsp.decodeGo prev d).map GetDCMICapabilitiesInfoMandatoryPlatformAttrsRsp.toModel = (GetDCMICapabilitiesInfoMandatoryPlatformAttrsRsp.decodeGo prev' d).map GetDCMICapabilitiesInfoMandatoryPlatformAttrsRsp.toModel := by
  rw [GetDCMICapabilitiesInfoMandatoryPlatformAttrsRsp_gen_eq, GetDCMICapabilitiesInfoMandatoryPlatformAttrsRsp_gen_eq, Wire.DcmiCap2.decodeGo_refines, Wire.DcmiCap2.decodeGo_refines]

theorem generated_GetDCMICapabilitiesInfoOptionalPlatformAttrsRsp_ignores_receiver (prev prev' : GetDCMICapabilitiesInfoOptionalPlatformAttrsRsp) (d : GoSlice) :
    (GetDCMICapabilitiesInfoOptionalPlatformAttrsRsp.decodeGo prev d).map GetDCMICapabilitiesInfoOptionalPlatformAttrsRsp.toModel = (GetDCMICapabilitiesInfoOptionalPlatformAttrsRsp.decodeGo prev' d).map GetDCMICapabilitiesInfoOptionalPlatformAttrsRsp.toModel := by
  rw [GetDCMICapabilitiesInfoOptionalPlatformAttrsRsp_gen_eq, GetDCMICapabilitiesInfoOptionalPlatformAttrsRsp_gen_eq, Wire.DcmiCap3.decodeGo_refines, Wire.DcmiCap3.decodeGo_refines]

theorem generated_GetDCMICapabilitiesInfoManageabilityAccessAttrsRsp_ignores_receiver (prev prev' : GetDCMICapabilitiesInfoManageabilityAccessAttrsRsp) (d : GoSlice) :
    (GetDCMICapabilitiesInfoManageabilityAccessAttrsRsp.decodeGo prev d).map GetDCMICapabilitiesInfoManageabilityAccessAttrsRsp.toModel = (GetDCMICapabilitiesInfoManageabilityAccessAttrsRsp.decodeGo prev' d).map GetDCMICapabilitiesInfoManageabilityAccessAttrsRsp.toModel := by
  rw [GetDCMICapabilitiesInfoManageabilityAccessAttrsRsp_gen_eq, GetDCMICapabilitiesInfoManageabilityAccessAttrsRsp_gen_eq, Wire.DcmiCap4.decodeGo_refines, Wire.DcmiCap4.decodeGo_refines]

theorem generated_OpenSessionRsp_ignores_receiver (prev prev' : OpenSessionRsp) (d : GoSlice) :
    (OpenSessionRsp.decodeGo prev d).map OpenSessionRsp.toModel = (OpenSessionRsp.decodeGo prev' d).map OpenSessionRsp.toModel := by
  rw [OpenSessionRsp_gen_eq, OpenSessionRsp_gen_eq, Wire.Setup.OpenSessionRsp.decodeGo_refines, Wire.Setup.OpenSessionRsp.decodeGo_refines]

theorem generated_RAKPMessage1_ignores_receiver (prev prev' : RAKPMessage1) (d : GoSlice) :
    (RAKPMessage1.decodeGo prev d).map RAKPMessage1.toModel = (RAKPMessage1.decodeGo prev' d).map RAKPMessage1.toModel := by
  rw [RAKPMessage1_gen_eq, RAKPMessage1_gen_eq, Wire.Setup.RAKP1.decodeGo_refines, Wire.Setup.RAKP1.decodeGo_refines]

theorem generated_RAKPMessage2_ignores_receiver (prev prev' : RAKPMessage2) (d : GoSlice) :
    (RAKPMessage2.decodeGo prev d).map RAKPMessage2.toModel = (RAKPMessage2.decodeGo prev' d).map RAKPMessage2.toModel := by
  rw [RAKPMessage2_gen_eq, RAKPMessage2_gen_eq, Wire.RAKP2.decodeGo_refines, Wire.RAKP2.decodeGo_refines]

theorem generated_RAKPMessage4_ignores_receiver (prev prev' : RAKPMessage4) (d : GoSlice) :
    (RAKPMessage4.decodeGo prev d).map RAKPMessage4.toModel = (RAKPMessage4.decodeGo prev' d).map RAKPMessage4.toModel := by
  rw [RAKPMessage4_gen_eq, RAKPMessage4_gen_eq, Wire.Setup.RAKP4.decodeGo_refines, Wire.Setup.RAKP4.decodeGo_refines]

theorem generated_SessionSelector_ignores_receiver (prev prev' : SessionSelector) (d : GoSlice) :
    (SessionSelector.decodeGo prev d).map SessionSelector.toModel = (SessionSelector.decodeGo prev' d).map SessionSelector.toModel := by
  rw [SessionSelector_gen_eq, SessionSelector_gen_eq, Wire.Setup.Selector.decodeGo_refines, Wire.Setup.Selector.decodeGo_refines]

theorem generated_V1Session_ignores_receiver (prev prev' : V1Session) (d : GoSlice) :
    (V1Session.decodeGo prev d).map V1Session.toModel = (V1Session.decodeGo prev' d).map V1Session.toModel := by
  rw [V1Session_gen_eq, V1Session_gen_eq, Wire.V1Session.decodeGo_refines, Wire.V1Session.decodeGo_refines]

theorem generated_Message_ignores_receiver (prev prev' : Message) (d : GoSlice) :
    (Message.decodeGo prev d).map Message.toModel = (Message.decodeGo prev' d).map Message.toModel := by
  rw [Message_gen_eq, Message_gen_eq, Wire.Message.decodeGo_refines, Wire.Message.decodeGo_refines]

end Bmc.Proofs.EndToEnd
