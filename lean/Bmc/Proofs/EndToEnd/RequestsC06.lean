import Bmc.Proofs.C06
import Bmc.Proofs.GenEnc.GetChannelAuthenticationCapabilitiesReq
import Bmc.Proofs.GenEnc.GetChannelCipherSuitesReq
import Bmc.Proofs.GenEnc.GetSessionInfoReq
import Bmc.Proofs.GenEnc.SetSessionPrivilegeLevelReq
import Bmc.Proofs.GenEnc.CloseSessionReq
import Bmc.Proofs.GenEnc.ChassisControlReq
import Bmc.Proofs.GenEnc.GetSDRReq
import Bmc.Proofs.GenEnc.GetSensorReadingReq
import Bmc.Proofs.GenEnc.OpenSessionReq
import Bmc.Proofs.GenEnc.RAKPMessage1
import Bmc.Proofs.GenEnc.RAKPMessage3
import Bmc.Proofs.GenEnc.GetDCMICapabilitiesInfoReq
import Bmc.Proofs.GenEnc.GetDCMISensorInfoReq
import Bmc.Proofs.GenEnc.GetPowerReadingReq
/-! C06 per request serialiser: `X_enc_eq` (`Proofs/GenEnc`) with the `C06.x_parses` theorem of the hand model `Wire.Req.*`. For ANY stale
    content of the serialisation buffer, the regenerated serialiser of every request layer produces bytes the independent reference
    parser `Spec.Req.*` (written from the specification's tables) reads as exactly the caller's fields, for all field values that fit
    the field's wire width. -/
namespace Bmc.Proofs.EndToEnd
open Bmc Bmc.Gen.Enc Bmc.Wire Bmc.Wire.Req Bmc.Proofs.C06 Bmc.Proofs.GenEnc

theorem generated_authcaps_request (v : GetChannelAuthenticationCapabilitiesReq) (stale : Bytes) (h : v.toModel.wf) :
    ∃ b, GetChannelAuthenticationCapabilitiesReq.serializeTo v stale [] = .ok b ∧
      Spec.Req.parseAuthCaps b = some { v2Data := v.toModel.extendedData, channel := v.toModel.channel.toNat
                                        privilege := v.toModel.maxPrivilegeLevel.toNat } :=
  ⟨_, GetChannelAuthenticationCapabilitiesReq_enc_eq v stale [], by rw [List.append_nil]; exact authcaps_parses _ h⟩

theorem generated_ciphersuites_request (v : GetChannelCipherSuitesReq) (stale : Bytes) (h : v.toModel.wf) :
    ∃ b, GetChannelCipherSuitesReq.serializeTo v stale [] = .ok b ∧
      Spec.Req.parseCipherSuites b = some { channel := v.toModel.channel.toNat, payloadType := v.toModel.payloadType.toNat
                                            bySuite := true, listIndex := v.toModel.listIndex.toNat } :=
  ⟨_, GetChannelCipherSuitesReq_enc_eq v stale [], by rw [List.append_nil]; exact ciphersuites_parses _ h⟩

theorem generated_sessioninfo_request (v : GetSessionInfoReq) (stale : Bytes) (h : v.toModel.wf) :
    ∃ b, GetSessionInfoReq.serializeTo v stale [] = .ok b ∧
      Spec.Req.parseSessionInfo b =
        some (if v.toModel.index = 0 then .current else if v.toModel.index = 0xFE then .handle v.toModel.handle.toNat
              else if v.toModel.index = 0xFF then .id v.toModel.id else .nth v.toModel.index.toNat) :=
  ⟨_, GetSessionInfoReq_enc_eq v stale [], by rw [List.append_nil]; exact sessioninfo_parses _ h⟩

theorem generated_setpriv_request (v : SetSessionPrivilegeLevelReq) (stale : Bytes) (h : SetPriv.wf v.privilegeLevel) :
    ∃ b, SetSessionPrivilegeLevelReq.serializeTo v stale [] = .ok b ∧ Spec.Req.parseSetPriv b = some v.privilegeLevel.toNat := by
  obtain ⟨b, hb, hp⟩ := setpriv_parses _ h
  exact ⟨b, by rw [SetSessionPrivilegeLevelReq_enc_eq, hb]; simp [Except.map], hp⟩

/-- the reserved level Callback is refused by the regenerated serialiser too -/
theorem generated_setpriv_callback (v : SetSessionPrivilegeLevelReq) (stale inner : Bytes) (h : v.privilegeLevel = 1) :
    SetSessionPrivilegeLevelReq.serializeTo v stale inner = .err := by
  rw [SetSessionPrivilegeLevelReq_enc_eq, h, set_priv_callback]; rfl

theorem generated_closesession_request (v : CloseSessionReq) (stale : Bytes) :
    ∃ b, CloseSessionReq.serializeTo v stale [] = .ok b ∧
      Spec.Req.parseCloseSession b = some (if v.id.toNat = 0 then .byHandle v.handle.toNat else .byID v.id.toNat) :=
  ⟨_, CloseSessionReq_enc_eq v stale [], by rw [List.append_nil]; exact closesession_parses _ _ v.id.toNat_lt⟩

theorem generated_chassiscontrol_request (v : ChassisControlReq) (stale : Bytes) (h : v.chassisControl.toNat < 16) :
    ∃ b, ChassisControlReq.serializeTo v stale [] = .ok b ∧ Spec.Req.parseChassisControl b = some v.chassisControl.toNat :=
  ⟨_, ChassisControlReq_enc_eq v stale [], by rw [List.append_nil]; exact chassiscontrol_parses _ h⟩

theorem generated_getsdr_request (v : GetSDRReq) (stale : Bytes) :
    ∃ b, GetSDRReq.serializeTo v stale [] = .ok b ∧
      Spec.Req.parseGetSDR b = some { reservation := v.reservationID.toNat, record := v.recordID.toNat
                                      offset := v.offset.toNat, length := v.length.toNat } :=
  ⟨_, GetSDRReq_enc_eq v stale [], by
    rw [List.append_nil]; exact getsdr_parses _ _ _ _ v.reservationID.toNat_lt v.recordID.toNat_lt⟩

theorem generated_sensorreading_request (v : GetSensorReadingReq) (stale : Bytes) :
    ∃ b, GetSensorReadingReq.serializeTo v stale [] = .ok b ∧ Spec.Req.parseSensorReading b = some v.number.toNat :=
  ⟨_, GetSensorReadingReq_enc_eq v stale [], by rw [List.append_nil]; exact sensorreading_parses _⟩

theorem generated_opensession_request (v : OpenSessionReq) (stale : Bytes) (h : v.toModel.wf) :
    ∃ b, OpenSessionReq.serializeTo v stale [] = .ok b ∧
      Spec.Req.parseOpenSession b =
        some { tag := v.toModel.tag.toNat, privilege := v.toModel.maxPrivilegeLevel.toNat, consoleSessionID := v.toModel.sessionID
               auth := if v.toModel.authWildcard then none else some v.toModel.auth.toNat
               integ := if v.toModel.integWildcard then none else some v.toModel.integ.toNat
               conf := if v.toModel.confWildcard then none else some v.toModel.conf.toNat } :=
  ⟨_, OpenSessionReq_enc_eq v stale, opensession_parses _ h⟩

theorem generated_rakp1_request (v : RAKPMessage1) (hr : v.remoteConsoleRandom.length = 16) (stale : Bytes) (h : v.toModel.wf) :
    ∃ b, RAKPMessage1.serializeTo v stale [] = .ok b ∧
      Spec.Req.parseRakp1 b = some { tag := v.toModel.tag.toNat, bmcSessionID := v.toModel.bmcSessionID, random := v.toModel.random
                                     nameOnlyLookup := !v.toModel.privilegeLevelLookup
                                     privilege := v.toModel.maxPrivilegeLevel.toNat, username := v.toModel.username } := by
  obtain ⟨b, hb, hp⟩ := rakp1_parses _ h
  exact ⟨b, by rw [RAKPMessage1_enc_eq v hr, hb]; simp [Except.map], hp⟩

theorem generated_rakp3_request (v : RAKPMessage3) (stale : Bytes) (h : v.toModel.wf) :
    ∃ v' b, RAKPMessage3.serializeTo v stale [] = .ok (v', b) ∧
      Spec.Req.parseRakp3 b = some { tag := v.toModel.tag.toNat, status := v.toModel.status.toNat
                                     bmcSessionID := v.toModel.bmcSessionID
                                     authCode := if v.toModel.status = 0 then v.toModel.authCode else [] } :=
  ⟨_, _, RAKPMessage3_enc_eq v stale [], by rw [List.append_nil]; exact rakp3_parses _ h⟩

theorem generated_dcmicaps_request (v : GetDCMICapabilitiesInfoReq) (stale : Bytes) :
    ∃ b, GetDCMICapabilitiesInfoReq.serializeTo v stale [] = .ok b ∧ Spec.Req.parseDcmiCaps b = some v.parameter.toNat :=
  ⟨_, GetDCMICapabilitiesInfoReq_enc_eq v stale [], by rw [List.append_nil]; exact dcmicaps_parses _⟩

theorem generated_dcmisensorinfo_request (v : GetDCMISensorInfoReq) (stale : Bytes) :
    ∃ b, GetDCMISensorInfoReq.serializeTo v stale [] = .ok b ∧
      Spec.Req.parseDcmiSensorInfo b =
        some { sensorType := v.toModel.type.toNat, entity := v.toModel.entity.toNat
               sel := if v.toModel.instance_ = 0 then .all v.toModel.instanceStart.toNat else .one v.toModel.instance_.toNat } :=
  ⟨_, GetDCMISensorInfoReq_enc_eq v stale [], by rw [List.append_nil]; exact dcmisensorinfo_parses _⟩

/-- Get Power Reading, enhanced mode, every non-negative averaging period: the rolling-average byte the regenerated serialiser
    computes is the specification's (the duration-to-byte helper `rollingByteNs` is the hand model of `Wire/Requests.lean`,
    a PARAMETER of the regenerated serialiser, tied to the code by the C06 / C20 correspondence streams) -/
theorem generated_powerreading_enhanced_request (v : GetPowerReadingReq) (stale : Bytes) (hm : v.mode = 2) (h : 0 ≤ v.period) :
    ∃ b, GetPowerReadingReq.serializeTo rollingByteNs v stale [] = .ok b ∧
      Spec.Req.parsePowerReading b =
        some (.enhanced (Spec.rollingByte (v.period.toNat / 1000000000) / 64) (Spec.rollingByte (v.period.toNat / 1000000000) % 64)) := by
  refine ⟨_, GetPowerReadingReq_enc_eq v stale [], ?_⟩
  rw [List.append_nil]
  have := powerreading_enhanced_parses v.period h
  have e : v.toModel = { mode := 2, periodNs := v.period } := by simp [GetPowerReadingReq.toModel, hm]
  rw [e]; exact this

theorem generated_powerreading_normal_request (v : GetPowerReadingReq) (stale : Bytes) (hm : v.mode = 1) :
    ∃ b, GetPowerReadingReq.serializeTo rollingByteNs v stale [] = .ok b ∧ Spec.Req.parsePowerReading b = some .normal := by
  refine ⟨_, GetPowerReadingReq_enc_eq v stale [], ?_⟩
  rw [List.append_nil]
  have e : v.toModel = { mode := 1, periodNs := v.period } := by simp [GetPowerReadingReq.toModel, hm]
  rw [e]; exact powerreading_normal_parses v.period

end Bmc.Proofs.EndToEnd
