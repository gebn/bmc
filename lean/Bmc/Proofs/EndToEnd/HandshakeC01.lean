import Bmc.Proofs.EndToEnd.HandshakeC02
import Bmc.Lemmas.HandshakeLive
/-! C01 (liveness and key agreement) about `newV2Session`: proved over ABSTRACT ANSWERS (`hsRun_live`: what each exchange ended with,
    over any state; from `accepted_bmc` and `hsRun_of_stages`), then `newV2Session_gen_eq` (`Proofs/GenHs`). -/
namespace Bmc.Proofs.EndToEnd
open Bmc Bmc.Wire Bmc.Crypto Bmc.Proto Bmc.Lemmas.GenHs

/-- **Liveness and key agreement over abstract answers.** If, from state `s`, the three exchanges the library makes — Open
    Session (tag 0, the caller's privilege level, console session ID 1, the proposed suite), RAKP 1 (the BMC's session ID,
    the console's draw `rm`, lookup mode, privilege level, user name) and RAKP 3 carrying THE CODE THE BMC EXPECTS — end with
    what the specification's BMC `b` (same password, same K_G) sends, then the run ends with a session under console ID 1, the
    BMC's session ID, the proposed suite and the SIK, K1, K2 that the BMC derives on its own from what it received. -/
theorem hsRun_live {σ : Type} (C : Ops) (A : Answers σ) (o : Opts) (s : σ) (b : Spec.BmcSide) (h : HashAlg) (rm : Bytes)
    (osr : OpenSessionRsp) (rk2 : RAKP2) (rk4 : RAKP4)
    (hauth : authHash o.auth = some h) (hinteg : o.integ = 1 ∨ o.integ = 2 ∨ o.integ = 4) (hconf : o.conf = 1)
    (hpass : b.kuid = o.pass) (hkg : b.kg = o.kg)
    (a1 : (A.openSession s ⟨0, o.priv, 1, o.auth, o.integ, o.conf⟩).2 = .ok osr)
    (ho : osr.tag = 0 ∧ osr.status = 0 ∧ osr.consoleSessionID = 1 ∧ osr.bmcSessionID = b.sidc ∧ osr.auth = o.auth ∧
          osr.integ = o.integ ∧ osr.conf = o.conf)
    (a0 : (A.rand (A.openSession s ⟨0, o.priv, 1, o.auth, o.integ, o.conf⟩).1).2 = some rm)
    (a2 : (A.rakp1 (A.rand (A.openSession s ⟨0, o.priv, 1, o.auth, o.integ, o.conf⟩).1).1
            ⟨0, b.sidc, rm, o.lookup, o.priv, o.user⟩).2 = .ok rk2)
    (hr2 : rk2.tag = 0 ∧ rk2.status = 0 ∧ rk2.consoleSessionID = 1 ∧ rk2.bmcRandom = b.rc ∧ rk2.bmcGUID = b.guid ∧
           rk2.authCode = Spec.rakp2Code C h b.kuid (b.exchange (received o rm)))
    (a3 : (A.rakp3 (A.rakp1 (A.rand (A.openSession s ⟨0, o.priv, 1, o.auth, o.integ, o.conf⟩).1).1
            ⟨0, b.sidc, rm, o.lookup, o.priv, o.user⟩).1 ⟨0, b.sidc, b.expectedRakp3 C h (received o rm)⟩).2 = .ok rk4)
    (hr4 : rk4.tag = 0 ∧ rk4.status = 0 ∧ rk4.icv = Spec.icv C h (b.sik C h (received o rm)) (b.exchange (received o rm))) :
    (hsRun C A o s).1 =
      .ok 1 b.sidc o.auth o.integ o.conf (b.sik C h (received o rm)) (b.k1 C h (received o rm)) (b.k2 C h (received o rm)) := by
  obtain ⟨acc, e3⟩ := accepted_bmc hauth hinteg hconf hpass hkg ho hr2 hr4
  rw [← ho.2.2.2.1] at a2 a3
  rw [← e3] at a3
  rw [hsRun_of_stages ⟨Prod.ext rfl a1, Prod.ext rfl a0, Prod.ext rfl a2, Prod.ext rfl a3, acc⟩]

/-- the specification's BMC as abstract answers: it echoes tag and console session ID, confirms the proposal, returns its own
    session ID, random number, GUID and the RAKP 2 code over `received o rm`, what a console with the options `o` and the random number
    `rm` sends (parameters: of the RAKP 1 handed to it only the tag is read; what the console does send is the subject of
    `hsRun_live`); it answers a RAKP 3 only when the code is the one it expects (anything else is refused) -/
def specAnswers (C : Ops) (h : HashAlg) (b : Spec.BmcSide) (o : Opts) (rm : Bytes) : Answers Unit where
  openSession _ r := ((), .ok { tag := r.tag, status := 0, maxPriv := b.maxPriv, consoleSessionID := r.sid, bmcSessionID := b.sidc
                                auth := r.auth, integ := r.integ, conf := r.conf })
  rand _ := ((), some rm)
  rakp1 _ r := ((), .ok { tag := r.tag, status := 0, consoleSessionID := 1, bmcRandom := b.rc, bmcGUID := b.guid
                          authCode := Spec.rakp2Code C h b.kuid (b.exchange (received o rm)) })
  rakp3 _ r := ((), if r.authCode = b.expectedRakp3 C h (received o rm) then
                      .ok { tag := r.tag, status := 0, consoleSessionID := 1
                            icv := Spec.icv C h (b.sik C h (received o rm)) (b.exchange (received o rm)) }
                    else .error .error)

/-- the hypotheses of `hsRun_live` are met by that BMC, for EVERY caller options with a supported suite, every draw, every
    BMC values: the run against it ends with the BMC's own keys (in particular the RAKP 3 code the console computes IS the
    one the BMC expects) -/
theorem hsRun_against_spec_bmc (C : Ops) (o : Opts) (b : Spec.BmcSide) (h : HashAlg) (rm : Bytes)
    (hauth : authHash o.auth = some h) (hinteg : o.integ = 1 ∨ o.integ = 2 ∨ o.integ = 4) (hconf : o.conf = 1)
    (hpass : b.kuid = o.pass) (hkg : b.kg = o.kg) :
    (hsRun C (specAnswers C h b o rm) o ()).1 =
      .ok 1 b.sidc o.auth o.integ o.conf (b.sik C h (received o rm)) (b.k1 C h (received o rm)) (b.k2 C h (received o rm)) :=
  hsRun_live C (specAnswers C h b o rm) o () b h rm _ _
    { tag := 0, status := 0, consoleSessionID := 1, icv := Spec.icv C h (b.sik C h (received o rm)) (b.exchange (received o rm)) }
    hauth hinteg hconf hpass hkg rfl ⟨rfl, rfl, rfl, rfl, rfl, rfl, rfl⟩ rfl rfl
    ⟨rfl, rfl, rfl, rfl, rfl, rfl⟩ (by simp [specAnswers]) ⟨rfl, rfl, rfl⟩

open Bmc.GoOrch Bmc.Gen.Hs Bmc.Gen.Orch Bmc.Proofs.GenHs in
/-- **C01 for the regenerated `newV2Session`.** After `determineCipherSuite` proposed `cs`, against a BMC whose three set-up
    exchanges end (as response STRUCTS of the code's own types, over any state) with what the specification's BMC `b` sends —
    `b` holding the caller's password and K_G — and answering the RAKP 3 that carries the code IT EXPECTS: `newV2Session` AS
    TRANSLATED FROM THE SOURCE ON THIS RUN returns a session with local ID 1, the BMC's session ID, the proposed algorithms,
    and SIK / K1 / K2 (integrity hasher keyed with K1, AES key = first 16 bytes of K2) EQUAL to what the BMC derives on its own
    from the fields it received. -/
theorem generated_newV2Session_live (C : Ops) (hlen : ∀ a k m, (C.hmac a k m).length = a.size) {σ : Type} (fuel : Nat)
    (sendS : σ → GetChannelCipherSuitesReq → σ × GetChannelCipherSuitesRsp × Bool)
    (sendO : σ → Gen.Hs.OpenSessionReq → σ × Gen.Hs.OpenSessionRsp × Bool)
    (sendR1 : σ → Gen.Hs.RAKPMessage1 → σ × Gen.Hs.RAKPMessage2 × Bool)
    (sendR3 : σ → Gen.Hs.RAKPMessage3 → σ × Gen.Hs.RAKPMessage4 × Bool)
    (tail : Bytes) (rr : σ → Nat → σ × Option Bytes) (opts : V2SessionOpts) (s0 s1 : σ) (cs : Gen.Dec.CipherSuite)
    (hdet : bmc_V2SessionlessTransport_determineCipherSuite fuel sendS tail opts.cipherSuites s0 = (.ok cs, s1))
    (b : Spec.BmcSide) (h : HashAlg)
    (hauth : authHash (optsOf opts cs).auth = some h)
    (hinteg : (optsOf opts cs).integ = 1 ∨ (optsOf opts cs).integ = 2 ∨ (optsOf opts cs).integ = 4)
    (hconf : (optsOf opts cs).conf = 1) (hpass : b.kuid = (optsOf opts cs).pass) (hkg : b.kg = (optsOf opts cs).kg)
    (s2 s3 s4 s5 : σ) (gO : Gen.Hs.OpenSessionRsp) (draw : Bytes) (g2 : Gen.Hs.RAKPMessage2) (g4 : Gen.Hs.RAKPMessage4)
    (hO : sendO s1 (goOpenReq ⟨0, (optsOf opts cs).priv, 1, (optsOf opts cs).auth, (optsOf opts cs).integ, (optsOf opts cs).conf⟩)
            = (s2, gO, true))
    (ho : (osrView gO).tag = 0 ∧ (osrView gO).status = 0 ∧ (osrView gO).consoleSessionID = 1 ∧ (osrView gO).bmcSessionID = b.sidc ∧
          (osrView gO).auth = (optsOf opts cs).auth ∧ (osrView gO).integ = (optsOf opts cs).integ ∧
          (osrView gO).conf = (optsOf opts cs).conf)
    (hR : rr s2 16 = (s3, some draw))
    (h1 : sendR1 s3 (goRakp1 ⟨0, b.sidc, GoKeys.copyArr 16 (List.replicate 16 0) draw, (optsOf opts cs).lookup,
            (optsOf opts cs).priv, (optsOf opts cs).user⟩) = (s4, g2, true))
    (hr2 : (rk2View g2).tag = 0 ∧ (rk2View g2).status = 0 ∧ (rk2View g2).consoleSessionID = 1 ∧ (rk2View g2).bmcRandom = b.rc ∧
           (rk2View g2).bmcGUID = b.guid ∧
           (rk2View g2).authCode = Spec.rakp2Code C h b.kuid
              (b.exchange (received (optsOf opts cs) (GoKeys.copyArr 16 (List.replicate 16 0) draw))))
    (h3 : sendR3 s4 (goRakp3 ⟨0, b.sidc, b.expectedRakp3 C h (received (optsOf opts cs) (GoKeys.copyArr 16 (List.replicate 16 0) draw))⟩)
            = (s5, g4, true))
    (hr4 : (rk4View g4).tag = 0 ∧ (rk4View g4).status = 0 ∧
           (rk4View g4).icv = Spec.icv C h (b.sik C h (received (optsOf opts cs) (GoKeys.copyArr 16 (List.replicate 16 0) draw)))
              (b.exchange (received (optsOf opts cs) (GoKeys.copyArr 16 (List.replicate 16 0) draw)))) :
    (bmc_V2SessionlessTransport_newV2Session fuel sendS sendO sendR1 sendR3 tail (Bmc.Lemmas.GenKeys.mac C) rr opts s0).1 =
      .ok (.ok (sessionOf 1 b.sidc (optsOf opts cs).auth (optsOf opts cs).integ (optsOf opts cs).conf
        (b.sik C h (received (optsOf opts cs) (GoKeys.copyArr 16 (List.replicate 16 0) draw)))
        (b.k1 C h (received (optsOf opts cs) (GoKeys.copyArr 16 (List.replicate 16 0) draw)))
        (b.k2 C h (received (optsOf opts cs) (GoKeys.copyArr 16 (List.replicate 16 0) draw))))) := by
  rw [newV2Session_gen_eq C hlen fuel sendS sendO sendR1 sendR3 tail rr opts s0 s1 cs hdet]
  simp only []
  rw [hsRun_live C (viewAnswers sendO sendR1 sendR3 rr) (optsOf opts cs) s1 b h (GoKeys.copyArr 16 (List.replicate 16 0) draw)
    (osrView gO) (rk2View g2) (rk4View g4) hauth hinteg hconf hpass hkg
    (by simp only [viewAnswers, hO, if_true]) ho (by simp only [viewAnswers, hO, hR, Option.map_some])
    (by simp only [viewAnswers, hO, hR, Option.map_some, h1, if_true]) hr2
    (by simp only [viewAnswers, hO, hR, Option.map_some, h1, h3, if_true]) hr4]
  rfl

section typed
open Bmc.GoOrch Bmc.Gen.Hs Bmc.Gen.Orch Bmc.Proofs.GenHs

/-- the specification's BMC as the response STRUCTS of the code's own types (state: none). It echoes tags and the console's
    session ID, confirms the proposed algorithm payloads, returns its session ID, random number, GUID and the RAKP 2 code over the
    exchange with a console of options `o` and random number `rm` (parameters, as in `specAnswers`: `typedR1` reads only the tag
    of the RAKP 1 it is handed); it answers a RAKP 3 ONLY when the code is the one it expects (otherwise the exchange fails). -/
def typedO (b : Spec.BmcSide) : Unit → Gen.Hs.OpenSessionReq → Unit × Gen.Hs.OpenSessionRsp × Bool := fun _ q =>
  ((), { tag := q.tag, status := 0, maxPrivilegeLevel := b.maxPriv, remoteConsoleSessionID := q.sessionID
         managedSystemSessionID := UInt32.ofNat b.sidc, authenticationPayload := q.authenticationPayload
         integrityPayload := q.integrityPayload, confidentialityPayload := q.confidentialityPayload }, true)
def typedR1 (C : Ops) (h : HashAlg) (b : Spec.BmcSide) (o : Opts) (rm : Bytes) :
    Unit → Gen.Hs.RAKPMessage1 → Unit × Gen.Hs.RAKPMessage2 × Bool := fun _ q =>
  ((), { tag := q.tag, status := 0, remoteConsoleSessionID := 1, managedSystemRandom := b.rc, managedSystemGUID := b.guid
         authCode := Spec.rakp2Code C h b.kuid (b.exchange (received o rm)) }, true)
def typedR3 (C : Ops) (h : HashAlg) (b : Spec.BmcSide) (o : Opts) (rm : Bytes) :
    Unit → Gen.Hs.RAKPMessage3 → Unit × Gen.Hs.RAKPMessage4 × Bool := fun _ q =>
  if q.authCode = b.expectedRakp3 C h (received o rm) then
    ((), { tag := q.tag, status := 0, remoteConsoleSessionID := 1
           icv := Spec.icv C h (b.sik C h (received o rm)) (b.exchange (received o rm)) }, true)
  else ((), {}, false)

/-- **C01 against the specification's BMC, no hypothesis about intermediate states left**: for every caller options whose proposed
    suite (as determined by the translated discovery) is supported, every 16-byte draw, every well-formed BMC holding the caller's
    password and K_G — `newV2Session` AS TRANSLATED ON THIS RUN returns the session whose SIK, K1, K2 are the BMC's own. In
    particular the RAKP 3 code the translated code sends IS the one the BMC expects (it would not answer otherwise). -/
theorem generated_newV2Session_against_spec_bmc (C : Ops) (hlen : ∀ a k m, (C.hmac a k m).length = a.size) (fuel : Nat)
    (sendS : Unit → GetChannelCipherSuitesReq → Unit × GetChannelCipherSuitesRsp × Bool) (tail : Bytes)
    (opts : V2SessionOpts) (cs : Gen.Dec.CipherSuite) (draw : Bytes)
    (hdet : bmc_V2SessionlessTransport_determineCipherSuite fuel sendS tail opts.cipherSuites () = (.ok cs, ()))
    (b : Spec.BmcSide) (hb : b.wf) (h : HashAlg)
    (hauth : authHash (optsOf opts cs).auth = some h)
    (hinteg : (optsOf opts cs).integ = 1 ∨ (optsOf opts cs).integ = 2 ∨ (optsOf opts cs).integ = 4)
    (hconf : (optsOf opts cs).conf = 1) (hpass : b.kuid = (optsOf opts cs).pass) (hkg : b.kg = (optsOf opts cs).kg) :
    let o := optsOf opts cs
    let rm := GoKeys.copyArr 16 (List.replicate 16 0) draw
    (bmc_V2SessionlessTransport_newV2Session fuel sendS (typedO b) (typedR1 C h b o rm) (typedR3 C h b o rm) tail
        (Bmc.Lemmas.GenKeys.mac C) (fun _ _ => ((), some draw)) opts ()).1 =
      .ok (.ok (sessionOf 1 b.sidc o.auth o.integ o.conf (b.sik C h (received o rm)) (b.k1 C h (received o rm))
        (b.k2 C h (received o rm)))) := by
  intro o rm
  have hsid : (UInt32.ofNat b.sidc).toNat = b.sidc := UInt32.toNat_ofNat_of_lt' hb.1
  exact generated_newV2Session_live C hlen fuel sendS (typedO b) (typedR1 C h b o rm) (typedR3 C h b o rm) tail
    (fun _ _ => ((), some draw)) opts () () cs hdet b h hauth hinteg hconf hpass hkg () () () () _ draw _
    { tag := 0, status := 0, remoteConsoleSessionID := 1
      icv := Spec.icv C h (b.sik C h (received o rm)) (b.exchange (received o rm)) }
    rfl ⟨rfl, rfl, rfl, hsid, rfl, rfl, rfl⟩ rfl rfl ⟨rfl, rfl, rfl, rfl, rfl, rfl⟩
    (by show typedR3 C h b o rm () (goRakp3 ⟨0, b.sidc, b.expectedRakp3 C h (received o rm)⟩) = _
        unfold typedR3 goRakp3
        rw [if_pos rfl]) ⟨rfl, rfl, rfl⟩

end typed

end Bmc.Proofs.EndToEnd
