import Bmc.Proofs.EndToEnd.HandshakeC01
import Bmc.Proofs.EndToEnd.SessionC01
/-! C01 whole: establish a session with the regenerated `newV2Session`, then converse with the regenerated `SendCommand`. The two pieces
    come from different translators (`Gen/Hs.lean`: the session VALUE; `Gen/Loops.lean`: the loops, whose world `sessWorld` takes the
    hand model's `Keys`); `keysOfSession` joins them. `generated_newV2Session_against_spec_bmc` (HandshakeC01) with
    `generated_all_commands_answered` (SessionC01). -/
namespace Bmc.Proofs.EndToEnd
open Bmc Bmc.Wire Bmc.Crypto Bmc.Proto Bmc.GoOrch Bmc.GoLoops Bmc.Gen.Loops Bmc.Lemmas.GenLoops Bmc.Lemmas.GenHs
open Bmc.Spec Bmc.Proofs.C03 Bmc.Proofs.C01

/-- the key a (possibly truncated) keyed hash holds -/
def hashKey : Gen.Keys.HashVal → Bytes
  | .hmac _ key => key
  | .truncated inner _ => hashKey inner

/-- the session struct as the `Keys` of the hand model: IDs, the NUMBER of the negotiated integrity algorithm, the key inside the
    keyed integrity hasher (K1), the AES key (first 16 bytes of K2). (`buildAndSend` itself signs with the hasher object and never
    reads the number; that the hasher `newV2Session` builds for a number is `integMac`'s choice for it is
    `GenKeys.algorithmHasher_is_integMac`, not part of this view.) -/
def keysOfSession (s : Gen.Hs.V2Session) : Keys :=
  ⟨s.localID.toNat, s.remoteID.toNat, s.integrityAlgorithm.toNat, hashKey s.integrityAlgorithm_, s.confidentialityLayer⟩

theorem keysOfSession_sessionOf (r : Nat) (hr : r < 4294967296) (a i c : UInt8) (sik k1 k2 : Bytes) :
    keysOfSession (Lemmas.GenHs.sessionOf 1 r a i c sik k1 k2) = ⟨1, r, i.toNat, k1, k2.take 16⟩ := by
  -- whichever integrity algorithm `hasherOf` picks, the (possibly truncated) hasher is keyed with `k1`
  have hk : hashKey (hasherOf i k1) = k1 := by
    unfold hasherOf
    split
    · rfl
    · split <;> rfl
  simp only [keysOfSession, Lemmas.GenHs.sessionOf, hk, UInt32.toNat_ofNat_of_lt' hr]
  rfl

open Bmc.Gen.Hs Bmc.Gen.Orch in
/-- the session the translated `newV2Session` returns against the specification's BMC, read as `buildAndSend` reads it, holds the
    keys that BMC derived for itself -/
theorem generated_session_keys (C : Ops) (hC : C.Lawful) (fuel : Nat)
    (sendS : Unit → GetChannelCipherSuitesReq → Unit × GetChannelCipherSuitesRsp × Bool) (tail : Bytes)
    (opts : V2SessionOpts) (cs : Gen.Dec.CipherSuite) (draw : Bytes)
    (hdet : bmc_V2SessionlessTransport_determineCipherSuite fuel sendS tail opts.cipherSuites () = (.ok cs, ()))
    (b : Spec.BmcSide) (hb : b.wf) (h : HashAlg)
    (hauth : authHash (optsOf opts cs).auth = some h)
    (hinteg : (optsOf opts cs).integ = 1 ∨ (optsOf opts cs).integ = 2 ∨ (optsOf opts cs).integ = 4)
    (hconf : (optsOf opts cs).conf = 1) (hpass : b.kuid = (optsOf opts cs).pass) (hkg : b.kg = (optsOf opts cs).kg) :
    let o := optsOf opts cs
    let rm := GoKeys.copyArr 16 (List.replicate 16 0) draw
    ∃ sess, (bmc_V2SessionlessTransport_newV2Session fuel sendS (typedO b) (typedR1 C h b o rm) (typedR3 C h b o rm) tail
              (Bmc.Lemmas.GenKeys.mac C) (fun _ _ => ((), some draw)) opts ()).1 = .ok (.ok sess) ∧
      keysOfSession sess = ⟨1, b.sidc, o.integ.toNat, b.k1 C h (received o rm), (b.k2 C h (received o rm)).take 16⟩ := by
  intro o rm
  exact ⟨_, generated_newV2Session_against_spec_bmc C hC.hmac_len fuel sendS tail opts cs draw hdet b hb h hauth hinteg hconf hpass hkg,
    keysOfSession_sessionOf b.sidc hb.1 o.auth o.integ o.conf _ _ _⟩

open Bmc.Gen.Hs Bmc.Gen.Orch in
/-- **C01, whole, about the regenerated code**: the session the translated `newV2Session` returns against the specification's BMC carries
    the BMC's own keys, and every command of a history of well-posed exchanges (the premise `Exchange`: a well-formed request that
    fits, 16-byte IVs, a handler answer that fits and is not a temporary code) sent on it by the translated `SendCommand` is accepted
    by that BMC — checking integrity and decrypting with ITS OWN K1 / K2 — and answered. -/
theorem generated_session_then_commands (C : Ops) (hC : C.Lawful) (fuel : Nat)
    (sendS : Unit → GetChannelCipherSuitesReq → Unit × GetChannelCipherSuitesRsp × Bool) (tail : Bytes)
    (opts : V2SessionOpts) (cs : Gen.Dec.CipherSuite) (draw : Bytes)
    (hdet : bmc_V2SessionlessTransport_determineCipherSuite fuel sendS tail opts.cipherSuites () = (.ok cs, ()))
    (b : Spec.BmcSide) (hb : b.wf) (h : HashAlg)
    (hauth : authHash (optsOf opts cs).auth = some h)
    (hinteg : (optsOf opts cs).integ = 1 ∨ (optsOf opts cs).integ = 2 ∨ (optsOf opts cs).integ = 4)
    (hconf : (optsOf opts cs).conf = 1) (hpass : b.kuid = (optsOf opts cs).pass) (hkg : b.kg = (optsOf opts cs).kg)
    (handler : BmcReq → UInt8 × Bytes) (bd : Bytes → Bool) (K : Conn Decoded) (hK : K.inbound = 0) (bseq : Nat)
    (cmds : List (Cmd × Bytes × Bytes × String × Opaque)) (hbs : bseq + cmds.length < 4294967296)
    (hc : ∀ e ∈ cmds, e.1.ent < 4294967296) :
    let o := optsOf opts cs
    let rm := GoKeys.copyArr 16 (List.replicate 16 0) draw
    let k : Keys := ⟨1, b.sidc, o.integ.toNat, b.k1 C h (received o rm), (b.k2 C h (received o rm)).take 16⟩
    (∀ e ∈ cmds, ∀ q : Nat, Exchange C k e.1 e.2.1 e.2.2.1
            (handler ⟨q, e.1.fn, e.1.cmd, e.1.body, e.1.ent, e.1.lun, e.1.req⟩).1
            (handler ⟨q, e.1.fn, e.1.cmd, e.1.body, e.1.ent, e.1.lun, e.1.req⟩).2) →
    ∃ sess, (bmc_V2SessionlessTransport_newV2Session fuel sendS (typedO b) (typedR1 C h b o rm) (typedR3 C h b o rm) tail
              (Bmc.Lemmas.GenKeys.mac C) (fun _ _ => ((), some draw)) opts ()).1 = .ok (.ok sess) ∧
            keysOfSession sess = k ∧
            generatedConverse C handler bd (keysOfSession sess) 0 K bseq cmds = generatedAnswers handler bd 0 cmds := by
  intro o rm k hx
  obtain ⟨sess, hs, hk⟩ := generated_session_keys C hC fuel sendS tail opts cs draw hdet b hb h hauth hinteg hconf hpass hkg
  refine ⟨sess, hs, hk, ?_⟩
  rw [hk]
  exact generated_all_commands_answered C hC handler bd k (by show (1 : Nat) < 4294967296; omega) hb.1 0 (by omega) K
    (by rw [hK]; rfl) bseq cmds hbs hc hx

end Bmc.Proofs.EndToEnd
