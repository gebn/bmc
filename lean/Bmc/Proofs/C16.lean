import Bmc.Lemmas.EnumParse
import Bmc.Lemmas.EnumPaging
import Bmc.Lemmas.EnumSound
import Bmc.Lemmas.EnumWire
/-! # C16 — paged enumerations are complete, ordered and terminate (property theorems only)

Model: `Proto/Enum.lean` (`parseRecords`, `retrieveChunks`, `retrieveSupportedCipherSuites`, `entityInstances`,
`sensorMap`, `getSensorInfo`). Specification: `Spec/Enum.lean` (record grammar of IPMI Table 22-18, `expand`, the paging
BMC `page`, the DCMI BMC `DcmiBmc.respond`). The parser theorems are for record lists and byte strings of ANY size; the paging
theorems for everything the protocol can address (1024 bytes of record data over 64 list indices, 255 instances per entity). -/
namespace Bmc.Proofs.C16
open Bmc Bmc.Proto.Enum Bmc.Spec.Enum Bmc.Lemmas.Enum

/-- Any number of well-formed records (standard and OEM, any number of integrity and confidentiality algorithms each,
    none included) laid end to end parse to exactly one entry per (integrity, confidentiality) combination of each
    record, in order. -/
theorem parse_encode (rs : List Record) (hw : ∀ r ∈ rs, r.wf) :
    parseRecords (encodeRecords rs) = .ok ((rs.flatMap expand).map view) := by
  have := parseRecords_prefix rs hw [] fun r _ => okAfter_nil r
  rwa [List.append_nil] at this

example : (⟨17, none, 3, [4], [1]⟩ : Record).wf ∧ (⟨0x16, some 0x020100, 1, [1, 2, 3], []⟩ : Record).wf := by decide
/-- the repository's own vector, and a record with 2 × 3 combinations -/
example : parseRecords [0xc0, 0x11, 0x03, 0x44, 0x81, 0xc1, 0x16, 0x00, 0x01, 0x02, 0x01, 0x41, 0x81] =
    .ok [⟨17, 0, 3, 4, 1⟩, ⟨22, 0x020100, 1, 1, 1⟩] := by decide
example : (expand ⟨5, none, 1, [1, 2], [1, 2, 3]⟩).map (fun e => (e.integ, e.conf)) =
    [(1, 1), (1, 2), (1, 3), (2, 1), (2, 2), (2, 3)] := by decide

/-- Totality over ALL byte strings: the parser returns a list or an error — it never panics and never reads outside the
    data — and an error carries no list (`R.err` has no payload: never a partial list). -/
theorem parse_total (b : Bytes) : parseRecords b = .err ∨ ∃ es, parseRecords b = .ok es :=
  (parseRecords_spec b).imp_right fun ⟨_, _, _, h⟩ => ⟨_, h⟩

/-- Soundness: whatever the parser accepts IS the concatenation of well-formed records, and the entries returned are
    exactly that record list's expansion — never the entries of a well-formed prefix of something else. -/
theorem parse_sound (b : Bytes) (es : List Entry) (h : parseRecords b = .ok es) :
    ∃ rs : List Record, (∀ r ∈ rs, r.wf) ∧ b = encodeRecords rs ∧ es = (rs.flatMap expand).map view := by
  rcases parseRecords_spec b with he | ⟨rs, h1, h2, h3⟩
  · rw [he] at h; cases h
  · rw [h3] at h; cases h; exact ⟨rs, h1, h2, rfl⟩

/-- Malformed data — ANY byte string that is not a concatenation of well-formed records — gives an error (and by
    `parse_total` nothing else: not a partial list, not a panic). -/
theorem parse_malformed (b : Bytes) (h : ¬ ∃ rs : List Record, (∀ r ∈ rs, r.wf) ∧ b = encodeRecords rs) :
    parseRecords b = .err := by
  rcases parse_total b with he | ⟨es, hes⟩
  · exact he
  · obtain ⟨rs, h1, h2, _⟩ := parse_sound b es hes
    exact absurd ⟨rs, h1, h2⟩ h

/-- the hypothesis of `parse_malformed` holds e.g. for the repository's "missing auth algo" vector -/
example : ¬ ∃ rs : List Record, (∀ r ∈ rs, r.wf) ∧ ([0xc0, 0x00] : Bytes) = encodeRecords rs := by
  rintro ⟨rs, hw, he⟩
  have h1 := parse_encode rs hw
  rw [← he] at h1
  have h2 : parseRecords [0xc0, 0x00] = .err := by decide
  rw [h2] at h1
  cases h1

/-- Termination: any fuel above the length of the data gives the same answer. -/
theorem parse_fuel (b : Bytes) (f : Nat) (hf : b.length < f) : parseLoop f b [] = parseRecords b :=
  parseLoop_fuel _ _ b [] hf (by omega)

/-- Malformed, bad start byte: after any number of well-formed records, a byte that neither starts a record nor can be
    taken for one more algorithm of the last record (with no record before it: any byte but C0h/C1h) makes the whole
    result an error. -/
theorem parse_malformed_start (rs : List Record) (hw : ∀ r ∈ rs, r.wf) (b : UInt8) (rest : Bytes)
    (hb : (b >>> 1 != 0x60) = true) (hstop : rs = [] ∨ ((b >>> 6 == 1) = false ∧ (b >>> 6 == 2) = false)) :
    parseRecords (encodeRecords rs ++ b :: rest) = .err := by
  rw [parseRecords_prefix rs hw (b :: rest) fun r hr => by
    rcases hstop with rfl | hstop
    · cases hr
    · exact okAfter_cons r b rest hstop]
  exact parseLoop_err _ _ _ (by simp) (parseOne_bad_start b rest hb)

example : ((0x05 : UInt8) >>> 1 != 0x60) = true ∧ ((0x05 : UInt8) >>> 6 == 1) = false ∧ ((0x05 : UInt8) >>> 6 == 2) = false := by
  decide
example : parseRecords [0xc0, 0x11, 0x03, 0x44, 0x81, 0x05, 0xc0, 0x00, 0x00] = .err := by decide

/-- Malformed, stray tag: an integrity-tagged byte after a record's confidentiality algorithms is an error. -/
theorem parse_malformed_stray (rs : List Record) (r : Record) (hw : ∀ x ∈ rs ++ [r], x.wf) (hc : r.conf ≠ [])
    (b : UInt8) (hb : (b >>> 6 == 1) = true) (rest : Bytes) :
    parseRecords (encodeRecords (rs ++ [r]) ++ b :: rest) = .err := by
  have hb2 : (b >>> 6 == 2) = false := by
    have : b >>> 6 = 1 := by simpa using hb
    rw [this]; decide
  rw [parseRecords_prefix (rs ++ [r]) hw (b :: rest) fun r' hr => by
    obtain rfl : r = r' := by simpa using hr
    rintro _ _ ⟨rfl, rfl⟩; exact ⟨hb2, fun h => absurd h hc⟩]
  exact parseLoop_err _ _ _ (by simp) (parseOne_bad_start b rest (tag1_not_start b hb))

example : parseRecords [0xc0, 0x11, 0x03, 0x44, 0x81, 0x41] = .err := by decide

/-- Malformed, truncated record: data that ends inside a record's header or right after it (before the authentication
    algorithm that every record must carry) is an error, however many complete records came before. (A cut inside the
    algorithm lists leaves a shorter well-formed record and cannot be detected.) -/
theorem parse_malformed_truncated (rs : List Record) (hw : ∀ r ∈ rs, r.wf) (r : Record) (k : Nat) (hk0 : 0 < k)
    (hk : k ≤ r.header.length) : parseRecords (encodeRecords rs ++ r.encode.take k) = .err := by
  obtain ⟨k', rfl⟩ : ∃ k', k = k' + 1 := ⟨k - 1, by omega⟩
  obtain ⟨b0, t0, e0, hs⟩ := encode_head r
  have hcut : parseOne (r.encode.take (k' + 1)) = .err := by
    unfold Record.header at hk
    unfold Record.encode Record.header
    cases hi : r.iana <;> rw [hi] at hk <;> simp only [List.cons_append, List.nil_append, List.take_succ_cons]
    · rw [parseOne_std, if_pos (by simp at hk ⊢; omega)]
    · rw [parseOne_oem, if_pos (by simp at hk ⊢; omega)]
  rw [parseRecords_prefix rs hw _ fun r' _ => by rw [e0, List.take_succ_cons]; exact okAfter_cons r' b0 _ (start_tag b0 hs)]
  exact parseLoop_err _ _ _ (by rw [e0]; simp) hcut

example : parseRecords ([0xc0, 0x11, 0x03, 0x44, 0x81] ++ ([0xc1, 0x16, 0x00, 0x01, 0x02, 0x01, 0x41, 0x81] : Bytes).take 5) = .err := by
  decide

/-- Termination for EVERY BMC: 64 rounds are enough whatever the BMC answers (more fuel changes nothing). -/
theorem chunks_fuel (page : Nat → Option Bytes) (f : Nat) (hf : 64 ≤ f) :
    retrieveLoop 63 page f 0 [] = retrieveChunks page :=
  retrieveLoop_fuel 63 (by omega) page f 64 0 [] (by omega) (by omega) (by omega)

/-- Record data shorter than 1024 bytes, served 16 bytes per list index, is reassembled exactly — also when its length
    is an exact multiple of 16 (the last, empty chunk ends the loop) — by asking for the indices 0, 1, …, ⌊len/16⌋ once
    each, in order. (The pinned tree went on to `ListIndex == 64`, which the request layer sends as `64 & 0x3f = 0`:
    at 1024 bytes the first chunk came twice; see the example below and `chunks_reassemble_max`.) -/
theorem chunks_reassemble (data : Bytes) (h : data.length < 1024) :
    retrieveChunks (fun w => some (page data w)) = (List.range (data.length / 16 + 1), .ok data) := by
  rw [retrieveChunks_page data (by omega), show min (data.length / 16) 63 = data.length / 16 by omega]

example : (List.replicate 48 (0xAA : UInt8)).length < 1024 ∧ (List.replicate 48 (0xAA : UInt8)).length % 16 = 0 := by decide
example : retrieveChunks (fun w => some (page (List.replicate 48 0xAA) w)) = ([0, 1, 2, 3], .ok (List.replicate 48 0xAA)) := by
  decide

/-- the PINNED tree (`ListIndex == 64`), at exactly 1024 bytes (the most that 64 list indices can carry): the first
    chunk comes twice -/
example : retrieveChunksL 64 (fun w => some (page ((List.range 1024).map UInt8.ofNat) w)) =
    ((List.range 64) ++ [0], .ok ((List.range 1024).map UInt8.ofNat ++ (List.range 16).map UInt8.ofNat)) := by
  -- 64 full chunks (list indices 0…63), then `ListIndex == 64` goes out as 64 % 64 = 0: the first chunk again
  have h0 : page ((List.range 1024).map UInt8.ofNat) 0 = (List.range 16).map UInt8.ofNat := by
    simp [page, ← List.map_take, List.take_range]
  have hlen : ((List.range 1024).map UInt8.ofNat).length = 1024 := by simp
  generalize (List.range 1024).map UInt8.ofNat = data at h0 hlen ⊢
  have := retrieveLoop_full 64 data 1 64 0 (by omega) (by omega) (by omega)
  rw [retrieveLoop_last 64 _ 0 64 _ (Or.inl rfl), h0, List.take_of_length_le (show data.length ≤ 16 * (0 + 64) by omega)] at this
  rw [List.range_eq_range']
  exact this

/-- all lengths up to the 1024-byte maximum are reassembled -/
theorem chunks_reassemble_max (data : Bytes) (h : data.length ≤ 1024) :
    (retrieveChunks (fun w => some (page data w))).2 = .ok data := by
  rw [retrieveChunks_page data h]

/-- … through the response layer too: the BMC sends `channel :: page` bodies, `GetChannelCipherSuitesRsp` hands back
    the page -/
theorem chunks_reassemble_wire (ch : UInt8) (hch : ch.toNat < 16) (data : Bytes) (h : data.length < 1024) :
    retrieveChunks (pageOfBody fun i => some (pageBody ch data i)) = (List.range (data.length / 16 + 1), .ok data) := by
  rw [pageOfBody_spec ch hch data]
  exact chunks_reassemble data h

/-- Discovery end to end: the records a BMC holds (encoding shorter than 1024 bytes, split across chunks wherever the
    16-byte boundaries fall) come back as exactly one entry per combination, in order. -/
theorem retrieve_complete (ch : UInt8) (hch : ch.toNat < 16) (rs : List Record) (hw : ∀ r ∈ rs, r.wf)
    (h : (encodeRecords rs).length < 1024) :
    retrieveSupportedCipherSuites (pageOfBody fun i => some (pageBody ch (encodeRecords rs) i)) =
      (List.range ((encodeRecords rs).length / 16 + 1), .ok ((rs.flatMap expand).map view)) := by
  simp only [retrieveSupportedCipherSuites, retrieveSupportedCipherSuitesL]
  have := chunks_reassemble_wire ch hch (encodeRecords rs) h
  unfold retrieveChunks at this
  rw [this]
  simp [parse_encode rs hw]

/-- … and for any data at all the result is the parser's verdict on the whole data: malformed data gives an error, not
    the entries of the chunks that happened to parse -/
theorem retrieve_eq_parse (ch : UInt8) (hch : ch.toNat < 16) (data : Bytes) (h : data.length < 1024) :
    (retrieveSupportedCipherSuites (pageOfBody fun i => some (pageBody ch data i))).2 = parseRecords data := by
  simp only [retrieveSupportedCipherSuites, retrieveSupportedCipherSuitesL]
  have := chunks_reassemble_wire ch hch data h
  unfold retrieveChunks at this
  rw [this]
  rfl

example : (encodeRecords [⟨17, none, 3, [4], [1]⟩, ⟨0x16, some 0x020100, 1, [1], [1]⟩, ⟨1, none, 1, [], []⟩]).length = 16 := by
  decide

/-- Termination for EVERY BMC: 256 rounds are enough whatever the BMC answers. -/
theorem dcmi_fuel (bmc : Proto.Enum.Bmc) (e : Nat) (f : Nat) (hf : 256 ≤ f) :
    instLoop bmc e f [] 1 = entityInstances bmc e :=
  instLoop_fuel bmc e f 256 [] 1 (by omega) (by simp; omega) (by simp)

/-- A BMC holding any 0…255 record IDs for an entity, answering each request with its total and a page of at most
    `pageSize ≥ 1` IDs from the requested instance: the enumeration returns all of them, in order (hence without
    duplicates when the BMC's list has none). -/
theorem dcmi_pages (b : DcmiBmc) (e : Nat) (ids : List Nat) (hb : b.ids e = some ids) (hn : ids.length ≤ 255)
    (hp : 1 ≤ b.pageSize) : (entityInstances b.respond e).2 = .ok ids := by
  rw [entityInstances_spec_log b e ids hb hn hp]

/-- … with exactly the requests needed: instance start 1, then 1 + p, 1 + 2p, … while instances remain — each once, in
    order (`expectedStarts`) -/
theorem dcmi_requests (b : DcmiBmc) (e : Nat) (ids : List Nat) (hb : b.ids e = some ids) (hn : ids.length ≤ 255)
    (hp : 1 ≤ b.pageSize) :
    entityInstances b.respond e = ((expectedStarts b.pageSize ids.length 256 0).map (fun s => ⟨e, s⟩), .ok ids) :=
  entityInstances_spec_log b e ids hb hn hp

example : expectedStarts 8 20 256 0 = [1, 9, 17] ∧ expectedStarts 8 16 256 0 = [1, 9] ∧ expectedStarts 8 0 256 0 = [1] ∧
    expectedStarts 3 255 256 0 = (List.range 85).map (fun k => 3 * k + 1) := by decide +kernel

/-- … through the response layer too (record IDs are 16-bit) -/
theorem dcmi_pages_wire (b : DcmiBmc) (hb16 : ∀ e ids, b.ids e = some ids → ids.length ≤ 255 ∧ ∀ r ∈ ids, r < 65536)
    (e : Nat) (ids : List Nat) (hb : b.ids e = some ids) (hp : 1 ≤ b.pageSize) :
    (entityInstances (bmcOfBody b.respondBody) e).2 = .ok ids := by
  rw [bmcOfBody_spec b hb16]
  exact dcmi_pages b e ids hb (hb16 e ids hb).1 hp

example : (entityInstances (DcmiBmc.respond ⟨fun _ => some (List.range 20), 8⟩) 3) =
    ([⟨3, 1⟩, ⟨3, 9⟩, ⟨3, 17⟩], .ok (List.range 20)) := by decide
example : ((entityInstances (DcmiBmc.respond ⟨fun _ => some (List.range 255), 8⟩) 3).2 = .ok (List.range 255)) ∧
    ((entityInstances (DcmiBmc.respond ⟨fun _ => some [], 8⟩) 3) = ([⟨3, 1⟩], .ok [])) :=
  ⟨dcmi_pages ⟨fun _ => some (List.range 255), 8⟩ 3 _ rfl (by simp) (by decide), by decide⟩

/-- the DCMI-specific entity IDs were used: some request named one of them -/
def usesDcmi (bmc : Proto.Enum.Bmc) : Prop := ∃ q ∈ (getSensorInfo bmc).1, q.entity ∈ Proto.Enum.dcmiEntities

/-- For EVERY BMC: the DCMI-specific entity IDs are used exactly when the standard ones gave an error or no record IDs
    at all. -/
theorem fallback_iff (bmc : Proto.Enum.Bmc) :
    usesDcmi bmc ↔ ((sensorMap bmc Proto.Enum.stdEntities).2 = .err ∨
      ∃ m, (sensorMap bmc Proto.Enum.stdEntities).2 = .ok m ∧ m.count = 0) := by
  have hstdlog := sensorMapLoop_log bmc Proto.Enum.stdEntities []
  have hres := R.err_or_ok (sensorMapLoop_safe bmc Proto.Enum.stdEntities [])
  have hdisj : ∀ x, x ∈ Proto.Enum.stdEntities → x ∈ Proto.Enum.dcmiEntities → False := by decide
  -- the fall-back always makes a request for the first DCMI entity
  have hfb : ∃ q ∈ (fallback bmc).1, q.entity ∈ Proto.Enum.dcmiEntities := by
    obtain ⟨l, hl⟩ := sensorMapLoop_first bmc Gen.Facts.ipmi_EntityIDDCMIAirInlet
      [Gen.Facts.ipmi_EntityIDDCMIProcessor, Gen.Facts.ipmi_EntityIDDCMISystemBoard] []
    exact ⟨_, by rw [fallback_fst]; exact hl ▸ List.mem_cons_self, by decide⟩
  unfold usesDcmi getSensorInfo sensorMap at *
  generalize sensorMapLoop bmc Proto.Enum.stdEntities [] = x at *
  obtain ⟨l1, r1⟩ := x
  simp only [] at hstdlog hres
  have hnostd : ∀ q ∈ l1, q.entity ∈ Proto.Enum.dcmiEntities → False := fun q hq hd => hdisj _ (hstdlog q hq) hd
  obtain ⟨qf, hqf, hqfe⟩ := hfb
  rcases hres with rfl | ⟨m, rfl⟩
  · simp only []
    constructor
    · intro _; exact Or.inl trivial
    · intro _; exact ⟨qf, by simp [hqf], hqfe⟩
  · simp only []
    by_cases hc : m.count > 0
    · simp only [hc, if_true]
      constructor
      · rintro ⟨q, hq, hd⟩; exact absurd hd (hnostd q hq)
      · rintro (h | ⟨m', hm', h0⟩)
        · cases h
        · cases hm'; omega
    · simp only [hc, if_false]
      constructor
      · intro _; exact Or.inr ⟨m, rfl, by omega⟩
      · intro _; exact ⟨qf, by simp [hqf], hqfe⟩

/-- both sides of `fallback_iff` occur: a BMC with a sensor under a standard ID; one with none; one that rejects them -/
example : ¬ usesDcmi (DcmiBmc.respond ⟨fun e => if e = 3 then some [7] else some [], 8⟩) := by
  unfold usesDcmi; decide
example : usesDcmi (DcmiBmc.respond ⟨fun e => if e = 0x41 then some [7] else some [], 8⟩) ∧
    (sensorMap (DcmiBmc.respond ⟨fun e => if e = 0x41 then some [7] else some [], 8⟩) Proto.Enum.stdEntities).2
      = .ok [(7, []), (3, []), (0x37, [])] := by
  unfold usesDcmi; decide
example : usesDcmi (DcmiBmc.respond ⟨fun e => if e < 0x40 then none else some [7], 8⟩) ∧
    (sensorMap (DcmiBmc.respond ⟨fun e => if e < 0x40 then none else some [7], 8⟩) Proto.Enum.stdEntities).2 = .err := by
  unfold usesDcmi; decide

/-- The specification's BMC with record IDs under the standard entity IDs: exactly those, per entity, in order. -/
theorem sensorInfo_std (b : DcmiBmc) (hp : 1 ≤ b.pageSize) (i0 i1 i2 : List Nat)
    (h0 : b.ids 0x37 = some i0) (h1 : b.ids 0x03 = some i1) (h2 : b.ids 0x07 = some i2)
    (l0 : i0.length ≤ 255) (l1 : i1.length ≤ 255) (l2 : i2.length ≤ 255) (hpos : 0 < i0.length + i1.length + i2.length) :
    (getSensorInfo b.respond).2 = .ok ⟨i0, i1, i2⟩ := by
  obtain ⟨l, m, hl, hpick, hc⟩ := sensorMap_spec3 b hp 0x37 0x03 0x07 (by decide) (by decide) (by decide) i0 i1 i2 h0 h1 h2 l0 l1 l2
  rw [getSensorInfo_snd, entities_eq.1, hl]
  simp only [if_pos (show m.count > 0 by omega), hpick]

/-- … with nothing under the standard entity IDs (none of the three has an instance, or the BMC rejects one of them) and
    record IDs under the DCMI-specific ones: exactly those. -/
theorem sensorInfo_dcmi (b : DcmiBmc) (hp : 1 ≤ b.pageSize) (hlen : ∀ e ids, b.ids e = some ids → ids.length ≤ 255)
    (hstd : (∃ e ∈ Proto.Enum.stdEntities, b.ids e = none) ∨ (∀ e ∈ Proto.Enum.stdEntities, b.ids e = some []))
    (i0 i1 i2 : List Nat) (h0 : b.ids 0x40 = some i0) (h1 : b.ids 0x41 = some i1) (h2 : b.ids 0x42 = some i2) :
    (getSensorInfo b.respond).2 = .ok ⟨i0, i1, i2⟩ := by
  obtain ⟨l, m, hl, hpick, _⟩ := sensorMap_spec3 b hp 0x40 0x41 0x42 (by decide) (by decide) (by decide) i0 i1 i2 h0 h1 h2
    (hlen _ _ h0) (hlen _ _ h1) (hlen _ _ h2)
  have hfb : (fallback b.respond).2 = .ok ⟨i0, i1, i2⟩ := by rw [fallback_snd, entities_eq.2.1, hl]; simp only [hpick]
  rw [getSensorInfo_snd]
  rcases hstd with hrej | hempty
  · rw [sensorMap, sensorMapLoop_reject b _ [] hrej]; exact hfb
  · obtain ⟨ls, ms, hls, _, hc⟩ := sensorMap_spec3 b hp 0x37 0x03 0x07 (by decide) (by decide) (by decide) [] [] []
      (hempty 0x37 (by decide)) (hempty 0x03 (by decide)) (hempty 0x07 (by decide)) (by simp) (by simp) (by simp)
    rw [entities_eq.1, hls]
    simp only [if_neg (show ¬ ms.count > 0 by simp [hc])]; exact hfb

/-- … and when a DCMI-specific entity ID is rejected as well, the call is an error -/
theorem sensorInfo_err (b : DcmiBmc) (hp : 1 ≤ b.pageSize) (hlen : ∀ e ids, b.ids e = some ids → ids.length ≤ 255)
    (hstd : ∃ e ∈ Proto.Enum.stdEntities, b.ids e = none) (hdc : ∃ e ∈ Proto.Enum.dcmiEntities, b.ids e = none) :
    (getSensorInfo b.respond).2 = .err := by
  rw [getSensorInfo_snd, fallback_snd, sensorMap, sensorMap, sensorMapLoop_reject b _ [] hstd, sensorMapLoop_reject b _ [] hdc]

example : (getSensorInfo (DcmiBmc.respond ⟨fun e => if e = 3 then some (List.range 20) else if e < 0x40 then some [] else some [9], 8⟩)).2
    = .ok ⟨[], List.range 20, []⟩ := by decide
example : (getSensorInfo (DcmiBmc.respond ⟨fun e => if e = 7 then none else if e = 0x42 then some (List.range 9) else some [], 4⟩))
    = ([⟨0x37, 1⟩, ⟨3, 1⟩, ⟨7, 1⟩, ⟨0x40, 1⟩, ⟨0x41, 1⟩, ⟨0x42, 1⟩, ⟨0x42, 5⟩, ⟨0x42, 9⟩], .ok ⟨[], [], List.range 9⟩) := by decide

end Bmc.Proofs.C16
