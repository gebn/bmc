import Bmc.Lemmas.RequestsPacket
/-! # C06 — requests are encoded exactly as the IPMI and DCMI specifications define (property theorems only)

`Wire.Req.*` are the models of the serialisers (`SerializeTo` of every request layer, the operation table and
`buildAndSendCommand` / `buildAndSendPayload` of v2sessionless.go); `Spec.Req.*` is the independent reference parser
written from the tables. Every theorem quantifies over ALL values of the caller's fields that fit the field's wire
width (the explicit decidable `wf` predicates of `Wire/Requests.lean`) and over bodies of every length that the wrapper's
16-bit length field can carry (`bodyFits`).
In-session packets (authenticated, encrypted) are the subject of C03. -/
namespace Bmc.Proofs.C06
open Bmc Bmc.Wire Bmc.Wire.Req
open Bmc.Spec.Req (readCommand readPayload)

/-- For every operation (request NetFn of 6 bits, any command, any defining-body code, any 3-byte enterprise
    number), every 2-bit LUN and every body that fits (`bodyFits`): the transmitted datagram parses under the reference
    parser into an RMCP header (version 6, sequence FFh, class IPMI, no ACK — checked inside `parseRMCP`), a v2.0 wrapper
    with payload type IPMI, the null session (ID 0, sequence 0) and a length equal to the rest of the datagram, and an IPMI message
    with two valid checksums, rsAddr 20h, that NetFn and LUN, rqAddr 81h, that command, the group-extension byte /
    OEM IANA of the operation — and exactly that body. -/
theorem packet_parses (op : Operation) (lun : UInt8) (body : Bytes) (h : op.wf) (hl : lun.toNat < 4) (hb : bodyFits body) :
    Spec.Req.parsePacket (packetSessionless op lun body) =
      some { payloadType := 0, sessionID := 0, sequence := 0
             ipmi := some { rsAddr := 0x20, netFn := op.function.toNat, rsLUN := lun.toNat, rqAddr := 0x81, rqSeq := 1
                            rqLUN := 0, cmd := op.command.toNat
                            ext := if op.function = 0x2C then .group op.body.toNat
                                   else if op.function = 0x2E then .oem op.enterprise else .none }
             body := body } :=
  Wire.Req.packet_parses op lun body h hl hb

example : ({ function := 0x2E, enterprise := 0x00A2B3, command := 0x42 } : Operation).wf ∧ bodyFits [1, 2, 3] := by decide
example : Spec.Req.parsePacket (packetSessionless { function := 0x2C, body := 0xDC, command := 2 } 0 [1, 0, 0]) =
    some { payloadType := 0, sessionID := 0, sequence := 0,
           ipmi := some { rsAddr := 0x20, netFn := 0x2C, rsLUN := 0, rqAddr := 0x81, rqSeq := 1, rqLUN := 0, cmd := 2, ext := .group 0xDC },
           body := [1, 0, 0] } := by decide

/-- RMCP+ setup payloads (`buildAndSendPayload`): RMCP header, wrapper with that payload type, null session, length
    = rest, no IPMI message — and exactly that payload. -/
theorem payload_packet_parses (pt : UInt8) (body : Bytes) (hpt : pt.toNat < 64) (h0 : pt ≠ 0) (h2 : pt ≠ 2)
    (hb : body.length < 65536) :
    Spec.Req.parsePacket (packetPayload pt body) =
      some { payloadType := pt.toNat, sessionID := 0, sequence := 0, ipmi := none, body := body } :=
  Wire.Req.payload_packet_parses pt body hpt h0 h2 hb

example : Spec.Req.parsePacket (packetPayload 0x12 [9, 8, 7]) =
    some { payloadType := 0x12, sessionID := 0, sequence := 0, ipmi := none, body := [9, 8, 7] } := by decide

/-- the specification's (NetFn, command, defining body) of each command the library implements -/
def specCode : Cmd → Spec.Req.CmdCode
  | .getChassisStatus => Spec.Req.getChassisStatus
  | .chassisControl => Spec.Req.chassisControl
  | .getDeviceID => Spec.Req.getDeviceID
  | .getSystemGUID => Spec.Req.getSystemGUID
  | .authCaps => Spec.Req.getChannelAuthCaps
  | .setPriv => Spec.Req.setSessionPrivilegeLevel
  | .closeSession => Spec.Req.closeSession
  | .sdrRepoInfo => Spec.Req.getSDRRepositoryInfo
  | .reserveSDR => Spec.Req.reserveSDRRepository
  | .getSDR => Spec.Req.getSDR
  | .sensorReading => Spec.Req.getSensorReading
  | .sessionInfo => Spec.Req.getSessionInfo
  | .cipherSuites => Spec.Req.getChannelCipherSuites
  | .dcmiCaps => Spec.Req.getDCMICapabilitiesInfo
  | .powerReading => Spec.Req.getPowerReading
  | .dcmiSensorInfo => Spec.Req.getDCMISensorInfo

/-- the library's operation table (operation.go, operations.go; NetFns and the DCMI body code through the
    regenerated constants) is the specification's command table, entry by entry, and every entry is a well-formed
    request operation; the LUN is the BMC's (0) except for Get Sensor Reading, which uses the caller's -/
theorem operation_table (c : Cmd) :
    c.operation.wf ∧ c.operation.function.toNat = (specCode c).netFn ∧ c.operation.command.toNat = (specCode c).cmd ∧
    expectedExt c.operation = (specCode c).ext ∧
    (∀ l, c.lun l = if c = .sensorReading then l else 0) := by
  cases c <;> exact ⟨by decide, by decide, by decide, by decide, fun l => by simp [Cmd.lun, Gen.Facts.ipmi_LUNBMC]⟩

/-- Whatever request data (that fits: `bodyFits`) a command carries, the BMC — reading the datagram with the reference
    parser and dispatching on the specification's code of that command — sees that command, on the intended LUN, with exactly
    that data. -/
theorem command_packet_parses {α : Type} (c : Cmd) (ownerLUN : UInt8) (body : Bytes) (hl : ownerLUN.toNat < 4)
    (hb : bodyFits body) (parse : Bytes → Option α) :
    readCommand (specCode c) parse (packetSessionless c.operation (c.lun ownerLUN) body) =
      (parse body).map (fun v => ((if c = .sensorReading then ownerLUN.toNat else 0), v)) := by
  obtain ⟨hwf, h1, h2, h3, h4⟩ := operation_table c
  have hl' : (c.lun ownerLUN).toNat < 4 := by rw [h4]; split <;> simp [hl]
  rw [readCommand_packet c.operation (c.lun ownerLUN) body hwf hl' hb (specCode c) parse ⟨h1, h2, h3⟩, h4]
  split <;> rfl

/-! ## Request data, layer by layer: the reference parser recovers the caller's fields -/

/-- Get Channel Authentication Capabilities: every 4-bit channel, every 4-bit privilege level, both values of the
    "IPMI v2.0 extended data" flag -/
theorem authcaps_parses (g : AuthCaps) (h : g.wf) :
    Spec.Req.parseAuthCaps g.encode =
      some { v2Data := g.extendedData, channel := g.channel.toNat, privilege := g.maxPrivilegeLevel.toNat } := by
  obtain ⟨ext, c, p⟩ := g
  obtain ⟨hc, hp⟩ := h
  simp only at hc hp
  have h := authcaps_bits c hc ext
  simp only [AuthCaps.encode]
  generalize (if ext = true then c ||| 0x80 else c) = b0 at h ⊢
  obtain ⟨h1, h2, h3⟩ := h
  simp [Spec.Req.parseAuthCaps, h1, h2, h3]; omega
example : ({ extendedData := true, channel := 0xE, maxPrivilegeLevel := 4 } : AuthCaps).wf := by decide

/-- … and the whole datagram of the command, as dispatched by the BMC -/
theorem authcaps_request (g : AuthCaps) (h : g.wf) :
    readCommand Spec.Req.getChannelAuthCaps Spec.Req.parseAuthCaps
        (packetSessionless Cmd.authCaps.operation (Cmd.authCaps.lun 0) g.encode) =
      some (0, { v2Data := g.extendedData, channel := g.channel.toNat, privilege := g.maxPrivilegeLevel.toNat }) := by
  have := command_packet_parses .authCaps 0 g.encode (by decide) (by simp [bodyFits, AuthCaps.encode]) Spec.Req.parseAuthCaps
  rw [authcaps_parses g h] at this
  exact this

/-- Get Channel Cipher Suites: every 4-bit channel, 6-bit payload type, 6-bit list index; always "list by cipher suite" -/
theorem ciphersuites_parses (c : CipherSuites) (h : c.wf) :
    Spec.Req.parseCipherSuites c.encode =
      some { channel := c.channel.toNat, payloadType := c.payloadType.toNat, bySuite := true, listIndex := c.listIndex.toNat } := by
  obtain ⟨ch, pt, idx⟩ := c
  obtain ⟨hc, hp, hi⟩ := h
  simp only at hc hp hi
  have ⟨⟨a1, a2⟩, _⟩ := mask_bits ch
  have ⟨_, ⟨b1, b2⟩, _⟩ := mask_bits pt
  have ⟨_, _, c1, c2, c3⟩ := mask_bits idx
  simp only [CipherSuites.encode]
  generalize ch &&& 0x0f = x0 at a1 a2
  generalize pt &&& 0x3f = x1 at b1 b2
  generalize 0x80 ||| (idx &&& 0x3f) = x2 at c1 c2 c3
  simp [Spec.Req.parseCipherSuites, a1, a2 hc, b1, b2 hp, c1, c2, c3 hi]
example : ({ channel := 0xE, payloadType := 0, listIndex := 63 } : CipherSuites).wf := by decide

/-- Get Session Info: all 256 index values — current session (00h), Nth active session, by handle (FEh, handle
    byte follows), by ID (FFh, four ID bytes follow) -/
theorem sessioninfo_parses (g : SessionInfo) (h : g.wf) :
    Spec.Req.parseSessionInfo g.encode =
      some (if g.index = 0 then .current else if g.index = 0xFE then .handle g.handle.toNat
            else if g.index = 0xFF then .id g.id else .nth g.index.toNat) := by
  obtain ⟨i, hd, id⟩ := g
  have hid : id < 4294967296 := h
  simp only [SessionInfo.encode]
  by_cases h1 : i = 0xFE
  · subst h1; simp [Spec.Req.parseSessionInfo]
  · by_cases h2 : i = 0xFF
    · subst h2; simp [Spec.Req.parseSessionInfo, putLE32, rd32_le id hid]
    · by_cases h0 : i = 0 <;> simp [Spec.Req.parseSessionInfo, h1, h2, h0]
example : ({ index := 0xFF, id := 0xA0A1A2A3 } : SessionInfo).wf := by decide

/-- Set Session Privilege Level: every 4-bit level except Callback -/
theorem setpriv_parses (level : UInt8) (h : SetPriv.wf level) :
    ∃ b, SetPriv.encode level = .ok b ∧ Spec.Req.parseSetPriv b = some level.toNat := by
  obtain ⟨hl, h1⟩ := h
  have ⟨⟨a1, a2⟩, _⟩ := mask_bits level
  refine ⟨[level &&& 0xF], by simp [SetPriv.encode, h1], ?_⟩
  generalize level &&& 0xF = x at a1 a2
  simp [Spec.Req.parseSetPriv, a1, a2 hl]
example : SetPriv.wf 4 := by decide

/-- the reserved level Callback (01h) is refused with an error instead of being sent -/
theorem set_priv_callback : SetPriv.encode 1 = .error () := rfl

/-- … so no datagram is transmitted for it (`commandDatagram` maps over the serialiser's result: this holds of any error) -/
theorem set_priv_callback_not_sent (l : UInt8) : commandDatagram .setPriv l (SetPriv.encode 1) = .error () := rfl

/-- Close Session: by ID, or — for the null ID — ID 0 followed by the session handle -/
theorem closesession_parses (id : Nat) (handle : UInt8) (h : id < 4294967296) :
    Spec.Req.parseCloseSession (CloseSession.encode id handle) =
      some (if id = 0 then .byHandle handle.toNat else .byID id) := by
  by_cases h0 : id = 0
  · subst h0; simp [CloseSession.encode, putLE32, Spec.Req.parseCloseSession, Spec.Req.rd32]
  · simp [CloseSession.encode, putLE32, Spec.Req.parseCloseSession, rd32_le id h, h0]
example : Spec.Req.parseCloseSession (CloseSession.encode 0 7) = some (.byHandle 7) := by decide

/-- Chassis Control: every 4-bit control value -/
theorem chassiscontrol_parses (c : Nat) (h : c < 16) :
    Spec.Req.parseChassisControl (ChassisControl.encode c) = some c := by
  have e : c % 256 = c := by omega
  have e1 : c / 16 = 0 := by omega
  have e2 : c % 16 = c := by omega
  simp [ChassisControl.encode, Spec.Req.parseChassisControl, e, e1, e2]
example : Spec.Req.parseChassisControl (ChassisControl.encode 5) = some 5 := by decide

/-- Get SDR: every reservation ID, record ID, offset and length -/
theorem getsdr_parses (res rec : Nat) (off len : UInt8) (hr : res < 65536) (hi : rec < 65536) :
    Spec.Req.parseGetSDR (GetSDR.encode res rec off len) =
      some { reservation := res, record := rec, offset := off.toNat, length := len.toNat } := by
  simp [GetSDR.encode, putLE16, Spec.Req.parseGetSDR, rd16_le res hr, rd16_le rec hi]
example : Spec.Req.parseGetSDR (GetSDR.encode 0x1234 0xFFFF 5 0xFF) =
    some { reservation := 0x1234, record := 0xFFFF, offset := 5, length := 0xFF } := by decide

/-- Get Sensor Reading: every sensor number … -/
theorem sensorreading_parses (n : UInt8) : Spec.Req.parseSensorReading (SensorReading.encode n) = some n.toNat := rfl

/-- … and every owner LUN: it arrives as the rsLUN of the message -/
theorem sensorreading_request (n ownerLUN : UInt8) (hl : ownerLUN.toNat < 4) :
    readCommand Spec.Req.getSensorReading Spec.Req.parseSensorReading
        (packetSessionless Cmd.sensorReading.operation (Cmd.sensorReading.lun ownerLUN) (SensorReading.encode n)) =
      some (ownerLUN.toNat, n.toNat) :=
  command_packet_parses .sensorReading ownerLUN (SensorReading.encode n) hl (by simp [bodyFits, SensorReading.encode]) Spec.Req.parseSensorReading

/-- a command sent without request data (as Get Device ID, Get System GUID, Get Chassis Status, Get SDR Repository Info,
    Reserve SDR Repository are): the BMC sees that command with no data -/
theorem no_body_request (c : Cmd) :
    readCommand (specCode c) Spec.Req.parseEmpty (packetSessionless c.operation (c.lun 0) []) =
      some (0, ()) := by
  have := command_packet_parses c 0 [] (by decide) (by decide) Spec.Req.parseEmpty
  rw [this]; cases c <;> rfl

/-- RMCP+ Open Session Request: every tag, 4-bit privilege level, session ID, and for each of the three algorithm
    payloads either the wildcard or any 6-bit algorithm number -/
theorem opensession_parses (o : OpenSession) (h : o.wf) :
    Spec.Req.parseOpenSession o.encode =
      some { tag := o.tag.toNat, privilege := o.maxPrivilegeLevel.toNat, consoleSessionID := o.sessionID
             auth := if o.authWildcard then none else some o.auth.toNat
             integ := if o.integWildcard then none else some o.integ.toNat
             conf := if o.confWildcard then none else some o.conf.toNat } := by
  obtain ⟨tag, p, sid, aw, a, iw, i, cw, c⟩ := o
  obtain ⟨hp, hs, ha, hi, hc⟩ := h
  simp only at hp hs ha hi hc ⊢
  have ⟨⟨p1, p2⟩, _⟩ := mask_bits p
  have pa := parseAlg_encode 0 aw a ha
  have pi := parseAlg_encode 1 iw i hi
  have pc := parseAlg_encode 2 cw c hc
  have la := algPayload_length 0 aw a
  have li := algPayload_length 1 iw i
  have lc := algPayload_length 2 cw c
  unfold OpenSession.encode Spec.Req.parseOpenSession
  -- the parser cuts four pieces of eight bytes: each stays a variable until it has been cut out
  generalize algPayload 0 aw a = A at pa la
  generalize algPayload 1 iw i = I at pi li
  generalize algPayload 2 cw c = C at pc lc
  generalize p &&& 0x0f = pb at p1 p2
  have lH : ([tag, pb, 0, 0] ++ putLE32 sid).length = 8 := rfl
  generalize hH : [tag, pb, 0, 0] ++ putLE32 sid = H at lH
  rw [List.append_assoc, List.append_assoc]
  have d8 : (H ++ (A ++ (I ++ C))).drop 8 = A ++ (I ++ C) := List.drop_left' lH
  have d16 : (H ++ (A ++ (I ++ C))).drop 16 = I ++ C := by
    rw [← List.drop_drop (i := 8) (j := 8), d8, List.drop_left' la]
  have d24 : (H ++ (A ++ (I ++ C))).drop 24 = C := by
    rw [← List.drop_drop (i := 8) (j := 16), d16, List.drop_left' li]
  simp only [d8, d16, d24, List.take_left' lH, List.take_left' la, List.take_left' li, pa, pi, pc,
    List.length_append, lH, la, li, lc]
  subst hH
  simp [putLE32, p1, p2 hp, rd32_le sid hs]
example : ({ tag := 7, maxPrivilegeLevel := 4, sessionID := 1, auth := 3, integWildcard := true, integ := 200, conf := 1 } : OpenSession).wf := by
  decide

/-- … in its datagram: payload type 10h, null session, and the BMC reads the caller's proposal -/
theorem opensession_request (o : OpenSession) (h : o.wf) :
    readPayload Spec.Req.payloadOpenSessionReq Spec.Req.parseOpenSession (packetPayload ptOpenSessionReq o.encode) =
      some { tag := o.tag.toNat, privilege := o.maxPrivilegeLevel.toNat, consoleSessionID := o.sessionID
             auth := if o.authWildcard then none else some o.auth.toNat
             integ := if o.integWildcard then none else some o.integ.toNat
             conf := if o.confWildcard then none else some o.conf.toNat } := by
  rw [← opensession_parses o h]
  exact readPayload_packet ptOpenSessionReq o.encode (by decide) (by decide) (by decide)
    (by simp [OpenSession.encode, putLE32, algPayload_length]) _

/-- RAKP Message 1: every tag, BMC session ID, random number, privilege level, lookup mode and user name of at most
    16 bytes; "name-only lookup" on the wire is the negation of the caller's `PrivilegeLevelLookup` -/
theorem rakp1_parses (r : Rakp1) (h : r.wf) :
    ∃ b, r.encode = .ok b ∧
      Spec.Req.parseRakp1 b = some { tag := r.tag.toNat, bmcSessionID := r.bmcSessionID, random := r.random
                                     nameOnlyLookup := !r.privilegeLevelLookup, privilege := r.maxPrivilegeLevel.toNat
                                     username := r.username } := by
  obtain ⟨tag, sid, rm, lookup, p, user⟩ := r
  obtain ⟨hs, hr, hp, hu⟩ := h
  simp only at hs hr hp hu ⊢
  have ⟨b1, b2, b3⟩ := role_bits p hp lookup
  refine ⟨_, by simp only [Rakp1.encode, RAKP1.encode, show ¬ user.length > 16 by omega, if_false]; rfl, ?_⟩
  generalize (p &&& 0xF) ||| (if lookup = true then 0 else 0x10) = role at b1 b2 b3
  have hul : (UInt8.ofNat user.length).toNat = user.length := UInt8.toNat_ofNat_of_lt' (show _ < 256 by omega)
  have e1 : (rm ++ [role, 0, 0, UInt8.ofNat user.length] ++ user).drop 16 = [role, 0, 0, UInt8.ofNat user.length] ++ user := by
    rw [List.append_assoc]; exact List.drop_left' hr
  have e2 : (rm ++ [role, 0, 0, UInt8.ofNat user.length] ++ user).take 16 = rm := by
    rw [List.append_assoc]; exact List.take_left' hr
  simp only [putLE32, List.cons_append, List.nil_append, List.append_assoc, Spec.Req.parseRakp1]
  simp only [List.append_assoc, List.cons_append, List.nil_append] at e1 e2
  simp only [e1, e2]
  simp [b1, b2, b3, hul, rd32_le sid hs]
  omega
example : ({ bmcSessionID := 0xA0A1A2A3, random := List.replicate 16 0x55, privilegeLevelLookup := true, maxPrivilegeLevel := 4
             username := [0x61, 0x64, 0x6d, 0x69, 0x6e] } : Rakp1).wf := by decide

/-- a user name longer than 16 bytes is rejected with an error rather than truncated -/
theorem rakp1_long_username (r : Rakp1) (h : r.username.length > 16) : r.encode = .error () := by
  simp [Rakp1.encode, RAKP1.encode, h]
example : ({ username := List.replicate 17 0x41 } : Rakp1).username.length > 16 := by decide

/-- RAKP Message 3: every tag, status, BMC session ID; the AuthCode is present exactly when the status is 00h -/
theorem rakp3_parses (r : Rakp3) (h : r.wf) :
    Spec.Req.parseRakp3 r.encode =
      some { tag := r.tag.toNat, status := r.status.toNat, bmcSessionID := r.bmcSessionID
             authCode := if r.status = 0 then r.authCode else [] } := by
  obtain ⟨tag, st, sid, code⟩ := r
  have hs : sid < 4294967296 := h
  by_cases h : st = 0
  · subst h; simp [Rakp3.encode, putLE32, Spec.Req.parseRakp3, rd32_le sid hs]
  · simp [Rakp3.encode, putLE32, Spec.Req.parseRakp3, rd32_le sid hs, h]
example : ({ status := 0, bmcSessionID := 5, authCode := List.replicate 20 1 } : Rakp3).wf := by decide

/-- RAKP 1 and RAKP 3 datagrams: payload types 12h and 14h, null session, for payloads of every length below 65536 -/
theorem rakp_request {α : Type} (body : Bytes) (hb : body.length < 65536) (parse : Bytes → Option α) :
    readPayload Spec.Req.payloadRAKP1 parse (packetPayload ptRakp1 body) = parse body ∧
    readPayload Spec.Req.payloadRAKP3 parse (packetPayload ptRakp3 body) = parse body :=
  ⟨readPayload_packet ptRakp1 body (by decide) (by decide) (by decide) hb parse,
   readPayload_packet ptRakp3 body (by decide) (by decide) (by decide) hb parse⟩

/-- DCMI Get Capabilities Info: every parameter selector -/
theorem dcmicaps_parses (p : UInt8) : Spec.Req.parseDcmiCaps (DcmiCaps.encode p) = some p.toNat := rfl

/-- … sent as group extension DCh, command 01h -/
theorem dcmicaps_request (p : UInt8) :
    readCommand Spec.Req.getDCMICapabilitiesInfo Spec.Req.parseDcmiCaps
        (packetSessionless Cmd.dcmiCaps.operation (Cmd.dcmiCaps.lun 0) (DcmiCaps.encode p)) = some (0, p.toNat) :=
  command_packet_parses .dcmiCaps 0 (DcmiCaps.encode p) (by decide) (by simp [bodyFits, DcmiCaps.encode]) Spec.Req.parseDcmiCaps

/-- DCMI Get Power Reading, normal mode: the period is ignored and the attribute byte is 00h -/
theorem powerreading_normal_parses (ns : Int) :
    Spec.Req.parsePowerReading (PowerReading.encode { mode := 1, periodNs := ns }) = some .normal := by
  simp [PowerReading.encode, Spec.Req.parsePowerReading]

/-- … enhanced mode: for EVERY non-negative period the rolling-average byte is the specification's encoding of
    the period's whole seconds (`Spec.rollingByte`: coarsest unit that fits, clamped to 63 days — C20 relates it
    to durations for every number of seconds) -/
theorem powerreading_enhanced_parses (ns : Int) (h : 0 ≤ ns) :
    Spec.Req.parsePowerReading (PowerReading.encode { mode := 2, periodNs := ns }) =
      some (.enhanced (Spec.rollingByte (ns.toNat / 1000000000) / 64) (Spec.rollingByte (ns.toNat / 1000000000) % 64)) := by
  have e := rollingByteNs_toNat ns h
  simp only [PowerReading.encode]
  generalize rollingByteNs ns = b at e
  simp [Spec.Req.parsePowerReading, e]
example : Spec.Req.parsePowerReading (PowerReading.encode { mode := 2, periodNs := 300000000000 }) = some (.enhanced 1 5) := by
  decide

/-- DCMI Get DCMI Sensor Info: every sensor type, entity ID and instance; the start instance is sent only when all
    instances (00h) are requested -/
theorem dcmisensorinfo_parses (g : DcmiSensorInfo) :
    Spec.Req.parseDcmiSensorInfo g.encode =
      some { sensorType := g.type.toNat, entity := g.entity.toNat
             sel := if g.instance_ = 0 then .all g.instanceStart.toNat else .one g.instance_.toNat } := by
  obtain ⟨t, e, i, s⟩ := g
  by_cases h : i = 0 <;> simp [DcmiSensorInfo.encode, Spec.Req.parseDcmiSensorInfo, h]

/-! ## Outside the wire width (not claimed): the serialisers do not mask every field, so a value that does not fit
    spills into reserved or neighbouring bits. Each `wf` bound above is tight. -/

-- channel 1Eh sets reserved bit 4 of the first byte; channel 8Eh would read as "v2.0 data" with channel Eh
example : Spec.Req.parseAuthCaps (AuthCaps.encode { channel := 0x1E }) = none := by decide
example : Spec.Req.parseAuthCaps (AuthCaps.encode { extendedData := false, channel := 0x8E }) =
    some { v2Data := true, channel := 0xE, privilege := 0 } := by decide
-- a LUN of 4 is OR-ed into the NetFn bits: App request (06h) leaves as NetFn 07h, a response
example : Spec.Req.parsePacket (packetSessionless { function := 6, command := 1 } 4 []) = none := by decide
-- list index 64 is masked to 0 (the paging loop of RetrieveSupportedCipherSuites can reach it: see C16)
example : CipherSuites.encode { channel := 0xE, listIndex := 64 } = CipherSuites.encode { channel := 0xE, listIndex := 0 } := by
  decide

end Bmc.Proofs.C06
