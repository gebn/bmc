import Bmc.Lemmas.C15Sensor
import Bmc.Proofs.C20
import Bmc.Proofs.C07.Sdr
/-! # C15 — sensor readings are converted with the specification's formula

FULL STATEMENT OF THE PROPERTY. For every Full Sensor Record and every raw reading byte, the sensor reader returns
`L((M·x + B·10^K1)·10^K2)`, x = the raw byte read as unsigned / 1's complement / 2's complement as the record states,
L = the record's linearisation function, *to within floating-point rounding of an exact evaluation*; it returns the
reading-unavailable and scanning-disabled errors exactly when the BMC sets those flags; it refuses to build a reader
for non-linear sensors and for records without an analog data format.

WHAT IS PROVED HERE (everything except the floating-point clause). `Proto.Sensor` models `sensor_reader.go`
statement by statement, with the `float64` arithmetic of `ConvertReading` replaced by the EXACT value of the same
expression (a decimal `mantissa·10^exp10`) and the lineariser by its NAME. The theorems say: the decimal denotes
the specification's rational for ALL integers (`convert_exact`), the raw byte is interpreted as the record states
(`raw_interpretation`), the reader built is the one the specification's classification calls for, with the function
the specification names for codes 1…11, and is refused exactly for non-linear codes and the not-analog format
(`reader_selection`, `reader_refused_iff`), the two status errors are returned exactly on the two flag bits
(`flags`, `flags_iff`), and all of it composed from the bytes of a well-formed record (`sensor_reading_spec`).

WHAT IS NOT PROVED HERE (⇒ the property is PARTIAL in Lean): that the `float64` the Go code computes is within rounding of
the exact decimal (`Proofs/C15Float.lean` proves it under the standard model of floating-point arithmetic; that Go's
operations are an instance of that model stays trusted), and that `math.Log`, `math.Cbrt`, … compute the functions
`denotes` reads them as (no real analysis in Lean core). Both are checked numerically by the harness on every
run (`conv` scenario: 256 raw bytes × 3 formats × 12 functions, boundary-complete and random factors), which is
where the cube-root finding lives (the pinned tree had `math.Pow(f, 1./3)`; math.Pow of a negative base is NaN). -/
namespace Bmc.Proofs.C15
open Bmc Bmc.Wire Bmc.Proto.Sensor Bmc.Lemmas.Sensor

/-- the exact decimal of `ConvertReading`'s expression denotes `(M·x + B·10^K1)·10^K2` — for ALL integers M, B, K1,
    K2, x (in particular all 10-bit M, B, 4-bit K1, K2 and x ∈ −128…255) -/
theorem convert_exact (M B K1 K2 x : Int) :
    decToRat (convertExact M B K1 K2 x) = Spec.Sensor.linearValue M B K1 K2 x := by
  unfold convertExact decToRat Spec.Sensor.linearValue
  split
  · rename_i h
    simp only [Rat.intCast_add, Rat.intCast_mul, pow_toNat K1 h]
  · rename_i h
    have hk : 0 ≤ -K1 := by omega
    have e1 : (10 : Rat) ^ (K1 + K2) = (10 : Rat) ^ K1 * (10 : Rat) ^ K2 := Rat.zpow_add ten_ne _ _
    have e2 : (10 : Rat) ^ (-K1) * (10 : Rat) ^ K1 = 1 := by
      rw [← Rat.zpow_add ten_ne, Int.add_left_neg, Rat.zpow_zero]
    simp only [Rat.intCast_add, Rat.intCast_mul, ← pow_toNat (-K1) hk, e1]
    grind

example : convertExact (-3) 7 2 (-1) (-128) = (1084, -1) ∧ convertExact 9 171 0 (-3) 181 = (1800, -3) ∧
    convertExact 5 (-7) (-2) 3 (-1) = (-507, 1) := by decide

/-- the canonical decimal the driver prints denotes the same rational … -/
theorem printed_value (d : Int × Int) : decToRat (normalize d) = decToRat d := by
  unfold normalize
  split
  · rename_i h
    unfold decToRat; simp [h]
  · exact stripZeros_value _ _ _

/-- … and is a function of that rational alone: two canonical decimals of the same value are equal, so equal
    printed text on the Go and the Lean side means equal exact values and conversely -/
theorem printed_canonical (d1 d2 : Int × Int) (h : decToRat d1 = decToRat d2) : normalize d1 = normalize d2 :=
  canonical_unique _ _ (normalize_canonical d1) (normalize_canonical d2) (by rw [printed_value, printed_value, h])

example : normalize (convertExact 9 171 0 (-3) 181) = (18, -1) ∧ normalize (convertExact 0 0 5 (-3) 77) = (0, 0) := by decide

/-- the parser the reader holds reads the raw byte as the record's analog data format says (unsigned, 1's
    complement with both zeros, 2's complement); no parser for format 3 and beyond — every format, every byte -/
theorem raw_interpretation (fmt raw : UInt8) :
    (parserOf fmt).map (fun p => p.parse raw) = Spec.Sensor.rawValue fmt.toNat raw.toNat := by
  rw [(parser_lookup fmt).1]
  have e1 := C20.analog_unsigned raw.toBitVec
  have e2 := C20.analog_ones raw.toBitVec
  have e3 := C20.analog_twos raw.toBitVec
  simp only [UInt8.toNat_toBitVec] at e1 e2 e3
  unfold Spec.Sensor.rawValue
  generalize fmt.toNat = n
  match n with
  | 0 => simp [Parser.parse, e1]
  | 1 => simp [Parser.parse, e2]
  | 2 => simp [Parser.parse, e3]
  | n + 3 => simp

example : (parserOf 1).map (fun p => p.parse 0x80) = some (-127) ∧ (parserOf 2).map (fun p => p.parse 0x80) = some (-128) ∧
    (parserOf 0).map (fun p => p.parse 0x80) = some 128 ∧ (parserOf 1).map (fun p => p.parse 0xff) = some 0 := by decide

/-- the table of linearisers is the specification's table: keys 1…11 in order, each bound to the function of
    that code, nothing else — every key 0…255 -/
theorem lineariser_table (l : UInt8) : (lineariserOf l).map denotes = Spec.Sensor.linFnOfCode l.toNat := by
  revert l; exact forall_uint8 (by decide +kernel)

example : lineariserOf 5 = some .powTenF ∧ lineariserOf 11 = some .powFThird ∧ lineariserOf 0 = none ∧ lineariserOf 12 = none := by
  decide

/-- the linear reader built from a record and a parser -/
def linearOf (r : FullSensorRecord) (p : Parser) : LinearReader :=
  { number := r.number, ownerLUN := r.ownerLUN, parser := p, m := r.m, b := r.b, bExp := r.bExp, rExp := r.rExp }

/-- `NewSensorReader` on ANY decoded record: code 0 ↦ the linear reader; codes 1…11 ↦ the linearised reader whose
    lineariser is the function the specification names for that code; everything else (≥ 12) ↦ the non-linear
    error, whatever the format; otherwise no analog format (3) ↦ the not-analog error. The reader queries the
    record's sensor number and LUN and carries the record's factors. -/
theorem reader_selection (r : FullSensorRecord) :
    match Spec.Sensor.kindOf r.linearisation.toNat, parserOf r.analogDataFormat with
    | .nonLinear, _ => newSensorReader r = .error .nonLinear
    | _, none => newSensorReader r = .error .notAnalog
    | .linear, some p => newSensorReader r = .ok (.linear (linearOf r p))
    | .linearised f, some p => ∃ l, denotes l = f ∧ newSensorReader r = .ok (.linearised (linearOf r p) l) := by
  obtain ⟨k1, k2, _⟩ := kind_lookup r.linearisation
  have hl := lineariser_table r.linearisation
  unfold newSensorReader newLinearisedSensorReader newLinearSensorReader
  rw [k1, k2]
  unfold Spec.Sensor.kindOf
  by_cases h0 : r.linearisation.toNat = 0
  · simp only [h0, if_true, decide_true]
    cases parserOf r.analogDataFormat <;> simp [linearOf]
  · simp only [h0, if_false, ← hl]
    cases lineariserOf r.linearisation <;> cases parserOf r.analogDataFormat <;> simp [linearOf]

/-- a reader is refused exactly for non-linear codes (≥ 12) and for the not-analog format (no parser): never
    otherwise, and never with `ErrNotLinearised` -/
theorem reader_refused_iff (r : FullSensorRecord) :
    (newSensorReader r = .error .nonLinear ↔ 12 ≤ r.linearisation.toNat) ∧
    (newSensorReader r = .error .notAnalog ↔ r.linearisation.toNat < 12 ∧ 3 ≤ r.analogDataFormat.toNat) ∧
    newSensorReader r ≠ .error .notLinearised := by
  have h := reader_selection r
  -- in terms of the classification and the parser found, `reader_selection` names the outcome in each of the eight cases
  rw [← Nat.not_le, ← (kind_lookup r.linearisation).2.2, ← (parser_lookup r.analogDataFormat).2]
  generalize newSensorReader r = res, Spec.Sensor.kindOf r.linearisation.toNat = k, parserOf r.analogDataFormat = p at h ⊢
  cases k <;> cases p <;> simp only [] at h
  case linearised.some => obtain ⟨l, _, rfl⟩ := h; simp
  all_goals subst h; simp

/-- FINDING (cube root). Wherever the specification's function is defined at the exact linear value, the lineariser
    of the repaired table (`math.Cbrt` for code 0Bh: `returnsNumber true`, the source on this run by
    `lineariser_table_source`) returns a number — every lineariser, every decimal. -/
theorem lineariser_defined (l : Lineariser) (d : Int × Int)
    (h : (denotes l).definedAt (decToRat d) = true) : l.returnsNumber true (signOf d.1) = true := by
  obtain ⟨m, e⟩ := d
  by_cases hm : m < 0
  · -- a negative value: Go returns NaN for the three logarithms and the square root only (the cube root being `math.Cbrt`), and
    -- these are the functions whose domain in the specification (`0 < v`, `0 ≤ v`) leaves the negatives out: `h` is false there
    have hn := dec_neg m e hm
    have h1 : ¬ (0 < decToRat (m, e)) := fun c => Rat.not_le.mpr hn (Rat.le_of_lt c)
    have h2 : ¬ (0 ≤ decToRat (m, e)) := Rat.not_le.mpr hn
    cases l <;> simp_all [denotes, Spec.Sensor.LinFn.definedAt, Lineariser.returnsNumber, signOf]
  · -- zero or positive: every Go function returns a number (±Inf counts)
    cases l <;> simp [Lineariser.returnsNumber, signOf, hm] <;> split <;> simp

/-- the pinned tree's entry (`returnsNumber false`): `math.Pow(f, 1./3)` is NaN for a negative argument although the cube
    root of −12.6 is a real number (≈ −2.327); every other entry is unaffected by the repair -/
example : Spec.Sensor.LinFn.definedAt (denotes .powFThird) (decToRat (-126, -1)) = true ∧
    Lineariser.returnsNumber false .powFThird (signOf (-126)) = false ∧
    (∀ l s, l ≠ .powFThird → Lineariser.returnsNumber false l s = Lineariser.returnsNumber true l s) := by
  refine ⟨by decide, by decide, ?_⟩
  intro l s h
  cases l <;> first | rfl | exact absurd rfl h

/-- `Read` on a normal completion code and a response of ≥ 3 bytes `raw, flags, …` (decoded from any window into
    any used receiver): reading-unavailable (bit 5) first, then scanning disabled (bit 6 clear), else the
    conversion of the parsed raw byte with the reader's lineariser -/
theorem flags (rd : Reader) (prev : SensorReadingRsp) (raw fl c : UInt8) (rest tail : Bytes) :
    rd.read 0 (SensorReadingRsp.decodeGo prev (GoSlice.window (raw :: fl :: c :: rest) tail)) =
      match Spec.Sensor.status fl.toNat with
      | .unavailable => .unavailable
      | .scanningDisabled => .scanningDisabled
      | .valid => .value (convertExact rd.lin.m rd.lin.b rd.lin.bExp rd.lin.rExp (rd.lin.parser.parse raw)) rd.lineariser := by
  obtain ⟨p, hp, h1, h2, h3⟩ := reading_fields prev raw fl c rest tail
  have hb := flag_bits fl
  rw [hp]
  unfold Spec.Sensor.status
  rw [← hb.1, ← hb.2, ← h2, ← h3]
  cases rd <;> simp only [Reader.read, LinearReader.read, Reader.lin, Reader.lineariser, h1] <;>
    cases p.readingUnavailable <;> cases p.scanningEnabled <;> simp

/-- "exactly when the BMC sets those flags": the unavailable error iff bit 5 is set; the scanning-disabled error
    iff bit 5 is clear and bit 6 is clear (the code tests unavailable first, so with both conditions present the
    caller sees "unavailable"); a value iff bit 5 is clear and bit 6 is set. Bits 7 and 4:0 have no influence. -/
theorem flags_iff (rd : Reader) (prev : SensorReadingRsp) (raw fl c : UInt8) (rest tail : Bytes) :
    let res := rd.read 0 (SensorReadingRsp.decodeGo prev (GoSlice.window (raw :: fl :: c :: rest) tail))
    (res = .unavailable ↔ Spec.Sensor.unavailableBit fl.toNat = true) ∧
    (res = .scanningDisabled ↔ Spec.Sensor.unavailableBit fl.toNat = false ∧ Spec.Sensor.scanningBit fl.toNat = false) ∧
    ((∃ d l, res = .value d l) ↔ Spec.Sensor.unavailableBit fl.toNat = false ∧ Spec.Sensor.scanningBit fl.toNat = true) ∧
    res ≠ .err := by
  intro res
  have h : res = _ := flags rd prev raw fl c rest tail
  rw [h]
  unfold Spec.Sensor.status
  cases Spec.Sensor.unavailableBit fl.toNat <;> cases Spec.Sensor.scanningBit fl.toNat <;> simp

/-- a non-normal completion code, or a response shorter than three bytes, is an error whatever the flags -/
theorem read_error (rd : Reader) (prev : SensorReadingRsp) (cc : UInt8) (d : GoSlice) (h : cc ≠ 0 ∨ d.len < 3) :
    rd.read cc (SensorReadingRsp.decodeGo prev d) = .err := by
  rcases h with h | h
  · cases rd <;> simp only [Reader.read, LinearReader.read] <;>
      cases SensorReadingRsp.decodeGo prev d <;> simp [h]
  · rw [reading_short prev d h]
    cases rd <;> rfl

/-- what the model's outcome means in the specification's terms: the exact decimal ↦ the rational it denotes, the
    lineariser ↦ the function it computes; a transport error has no counterpart -/
def view : Except BuildErr (Reader × ReadRes) → Option Spec.Sensor.Result
  | .error _ => some .refused
  | .ok (_, .err) => none
  | .ok (_, .unavailable) => some .unavailable
  | .ok (_, .scanningDisabled) => some .scanningDisabled
  | .ok (_, .value d l) => some (.value (l.map denotes) (decToRat d))

/-- a reader and its one `Read`, in the specification's terms: the status the flags byte encodes and, for a valid reading, the
    function the lineariser stands for at the value of the formula on the reader's factors -/
theorem view_read (rd : Reader) (prev : SensorReadingRsp) (raw fl c : UInt8) (rest tail : Bytes) :
    view (.ok (rd, rd.read 0 (SensorReadingRsp.decodeGo prev (GoSlice.window (raw :: fl :: c :: rest) tail)))) =
      some (match Spec.Sensor.status fl.toNat with
        | .unavailable => .unavailable
        | .scanningDisabled => .scanningDisabled
        | .valid => .value (rd.lineariser.map denotes)
            (Spec.Sensor.linearValue rd.lin.m rd.lin.b rd.lin.bExp rd.lin.rExp (rd.lin.parser.parse raw))) := by
  rw [flags]
  cases Spec.Sensor.status fl.toNat <;> simp [view, convert_exact]

/-- THE PROPERTY, minus floating point: for every well-formed Full Sensor Record `v` (every analog format, every
    linearisation code 0…127, every 10-bit M, B, every 4-bit K1, K2 — `Spec.FullSensor.wf`), received in any window,
    every raw byte and every flags byte of a normal Get Sensor Reading response of three or more bytes: decoding the
    record, building the reader and reading once gives exactly what the specification gives — refusal, one of the
    two status errors, or the value L(v) with L the specification's function for the code and v the exact
    rational `(M·x + B·10^K1)·10^K2`, x the raw byte in the record's format. -/
theorem sensor_reading_spec (v : Spec.FullSensor) (hv : v.wf) (tail : Bytes) (raw fl c : UInt8) (rest tail2 : Bytes) :
    (conv (GoSlice.window v.encode tail) 0 (GoSlice.window (raw :: fl :: c :: rest) tail2)).map view =
      .ok (some (Spec.Sensor.reading v.analogFormat.toNat v.linearisation.toNat ⟨v.m, v.b, v.bExp, v.rExp⟩
                  raw.toNat fl.toNat)) := by
  unfold conv
  rw [C07.fullSensor_decode_wire v hv]
  have hsel := reader_selection (C07.fullSensorView v)
  have e1 : (C07.fullSensorView v).linearisation = v.linearisation := rfl
  have e2 : (C07.fullSensorView v).analogDataFormat = v.analogFormat := rfl
  rw [e1, e2] at hsel
  unfold Spec.Sensor.reading
  rw [← raw_interpretation]
  generalize Spec.Sensor.kindOf v.linearisation.toNat = k, parserOf v.analogFormat = p at hsel ⊢
  cases k <;> cases p <;> simp only [] at hsel
  case linear.some p => simp only [hsel, R.map, view_read]; rfl
  case linearised.some f p => obtain ⟨l, rfl, hsel⟩ := hsel; simp only [hsel, R.map, view_read]; rfl
  all_goals simp only [hsel]; rfl

/-- the hypotheses are satisfiable on a non-trivial record: 2's complement, linearisation 10^x, M = −3, B = 7,
    K1 = 2, K2 = −1 (DESIGN §5 C15's sample), raw 0x80, scanning enabled: value 10^((−3·(−128) + 700)/10) = 10^108.4 -/
example :
    let v : Spec.FullSensor := {
      ownerID := 0x20, channel := 0, ownerLUN := 1, number := 7, entityID := 3, logical := false,
      entityInstance := 1, initialization := 0x7f, ignoreIfAbsent := true, capabilities := 0x68, sensorType := 1,
      eventReadingType := 1, assertionMask := 0x7a95, deassertionMask := 0x7a95, readingMask := 0x3f3f,
      analogFormat := 2, rateUnit := 0, modifierUse := 0, percentage := false, baseUnit := 1, modifierUnit := 0,
      linearisation := 5, m := -3, tolerance := 1, b := 7, accuracy := 0, accuracyExp := 0, direction := 0, rExp := -1,
      bExp := 2, normalMinSpecified := false, normalMaxSpecified := false, nominalSpecified := false, nominalReading := 0,
      normalMax := 0, normalMin := 0, sensorMax := 0x7f, sensorMin := 0x80, upperNonRecoverable := 0, upperCritical := 0,
      upperNonCritical := 0, lowerNonRecoverable := 0, lowerCritical := 0, lowerNonCritical := 0, positiveHysteresis := 0,
      negativeHysteresis := 0, oem := 0, idString := { enc := .latin1, chars := [0x54, 0x31] } }
    v.wf ∧ (conv (GoSlice.ofBytes v.encode) 0 (GoSlice.ofBytes [0x80, 0x40, 0xc0])).map
        (fun o => o.toOption.map (fun (rd, res) => (rd.lineariser, res)))
      = .ok (some (some .powTenF, .value (1084, -1) (some .powTenF))) := by
  decide +kernel

end Bmc.Proofs.C15
