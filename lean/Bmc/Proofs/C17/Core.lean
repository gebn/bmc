import Bmc.Proofs.C05.Core
import Bmc.Lemmas.SessionSpec
/-! # C17 (core layers and the connection): reuse never leaks earlier data

Where the hand model of a decoder takes the receiver and never reads it (most layers: the Go method assigns every field it
sets), `X_reuse` holds by `rfl` and says so of the MODEL; that the Go method is that model, from any receiver, is
`Proofs/GenDec/X_gen_eq` (stated for every `prev`) and, composed, `Proofs/EndToEnd/ReceiverC17`. -/
namespace Bmc.Proofs.C17
open Bmc Bmc.Wire Bmc.Crypto Bmc.Proto

theorem message_reuse (prev : Message) (d : GoSlice) : Message.decodeGo 8 prev d = Message.decodeGo 8 {} d := by
  rw [Message.decodeGo_refines, Message.decodeGo_refines]

theorem v2_reuse (mac : Bytes → Bytes) (prev : V2Session) (d : GoSlice) :
    V2Session.decodeGo mac prev d = V2Session.decodeGo mac {} d := by
  rw [V2Session.decodeGo_refines, V2Session.decodeGo_refines]

theorem aes_reuse (C : Ops) (hC : C.Lawful) (key : Bytes) (prev : AESLayer) (d : GoSlice) :
    AESLayer.decodeGo C key true prev d = AESLayer.decodeGo C key true {} d := by
  rw [AESLayer.decodeGo_refines C hC, AESLayer.decodeGo_refines C hC]

/-- connection level: two session states that agree on the keys and the counter (below 2^32) — whatever commands and
    replies left in their layers — give the same result, the same transmitted bytes and the same final counter for any
    command whose request serialises (`reqFails = false`) and any reply script with an IV draw for every attempt -/
theorem session_history_independent (C : Ops) (c : Cmd) (hf : c.reqFails = false) (s s' : Sess)
    (hk : s'.keys = s.keys) (hi : s'.inbound = s.inbound) (hs : s.inbound < 4294967296)
    (ivs : List Bytes) (script : List Outcome) (hl : script.length ≤ ivs.length) :
    (sendLoop C c s' ivs script).2 = (sendLoop C c s ivs script).2 ∧
    (sendLoop C c s' ivs script).1.inbound = (sendLoop C c s ivs script).1.inbound := by
  obtain ⟨a1, a2, _, a4⟩ := sendLoop_spec C c hf s hs ivs script hl
  obtain ⟨b1, b2, _, b4⟩ := sendLoop_spec C c hf s' (by rw [hi]; exact hs) ivs script hl
  rw [hk] at b1 b2 b4
  rw [hi] at b2 b4
  refine ⟨Prod.ext (by rw [a2, b2]) (by rw [a1, b1]), by rw [a4, b4]⟩

end Bmc.Proofs.C17
