import Bmc.Lemmas.SessionSpec
import Bmc.Lemmas.MessageRoundTrip
import Bmc.Lemmas.AesRoundTrip
import Bmc.Lemmas.V2RoundTrip
/-! # C03 — every packet sent in a session is authenticated, encrypted and well-formed (property theorems only)

By `sendLoop_spec` (used in C10) every datagram a session transmits is `datagramOf C keys cmd counter iv`; the
theorems below are about that datagram, for every lawful crypto instance, key, command, request body and IV. -/
namespace Bmc.Proofs.C03
open Bmc Bmc.Wire Bmc.Crypto Bmc.Proto

/-- the message the library builds for a command -/
def requestMessage (c : Cmd) : Message :=
  { function := c.fn, body := c.body, enterprise := c.ent, command := c.cmd
    remoteAddress := 0x20, remoteLUN := c.lun, localAddress := 0x81, sequence := 1 }

/-- the serialised request message and its AES encapsulation -/
def messageBytes (c : Cmd) : Bytes := (Message.encode (requestMessage c) c.req).2
def aesPayload (C : Ops) (k : Keys) (c : Cmd) (iv : Bytes) : Bytes := AESLayer.encode C k.k2 iv (messageBytes c)

/-- SHAPE of every in-session datagram: RMCP header 06 00 FF 07; auth type 06; flags C0 = encrypted + authenticated
    + payload type IPMI; session ID; sequence number; payload length; the AES payload; 0xFF integrity pad to a
    multiple of 4 with its length byte; next header 07; and finally the AuthCode, which is the negotiated keyed hash
    under K1 of exactly the bytes from the auth-type field through the next-header field -/
theorem datagram_shape (C : Ops) (k : Keys) (c : Cmd) (inb : Nat) (iv : Bytes) :
    let ab := aesPayload C k c iv
    let len := ab.length % 65536
    let pad := (4 - (12 + len + 2) % 4) % 4
    let signed : Bytes := [6, 0xC0] ++ putLE32 k.remoteID ++ putLE32 ((inb + 1) % 4294967296) ++ putLE16 len ++ ab
      ++ List.replicate pad 0xff ++ [UInt8.ofNat pad, 7]
    datagramOf C k c inb iv = [6, 0, 0xFF, 7] ++ signed ++ integMac C k.integ k.k1 signed := by
  have e : (128 ||| 64 : UInt8) = 192 := by decide
  simp [datagramOf, attempt, initLayers, V2Session.encode, RMCP.encode, aesPayload, messageBytes, requestMessage, e]

/-- the integrity pad makes [auth type … next header] a multiple of 4 bytes and is at most 3 bytes -/
theorem integrity_pad (n : Nat) : (12 + n + (4 - (12 + n + 2) % 4) % 4 + 2) % 4 = 0 ∧ (4 - (12 + n + 2) % 4) % 4 ≤ 3 := by
  omega

/-- the AES payload is the IV followed by CBC ciphertext under the first 16 bytes of K2; decrypting it (any lawful
    block cipher) yields the 01,02,… pad correctly and returns exactly the serialised message -/
theorem payload_decrypts (C : Ops) (hC : C.Lawful) (k : Keys) (c : Cmd) (iv : Bytes) (hiv : iv.length = 16) :
    AESLayer.decode C k.k2 (aesPayload C k c iv) = .ok { contents := iv, payload := messageBytes c } :=
  AESLayer.decode_encode C hC k.k2 iv (messageBytes c) hiv

/-- … and that message is a checksum-valid IPMI message for exactly the command the caller asked for: BMC address
    0x20, the command's NetFn / LUN / number / group-extension or OEM prefix, console software ID 0x81, and the
    caller's request body -/
theorem message_is_the_command (c : Cmd) (h : (requestMessage c).WF) :
    ∃ m, Message.decode 8 (messageBytes c) = .ok m ∧ m.function = c.fn ∧ m.command = c.cmd ∧ m.body = c.body ∧
      m.enterprise = c.ent ∧ m.remoteAddress = 0x20 ∧ m.remoteLUN = c.lun ∧ m.localAddress = 0x81 ∧ m.payload = c.req := by
  have := Message.decode_encode (requestMessage c) c.req h
  exact ⟨_, this, rfl, rfl, rfl, rfl, rfl, rfl, rfl, rfl⟩

/-- the IV of each datagram is its own draw from the entropy stream (bytes 16 … 31 of the datagram) -/
theorem iv_is_own_draw (C : Ops) (k : Keys) (c : Cmd) (inb : Nat) (iv : Bytes) (hiv : iv.length = 16) :
    ((datagramOf C k c inb iv).drop 16).take 16 = iv := by
  rw [datagram_shape]
  simp [putLE32, putLE16, aesPayload, AESLayer.encode, hiv]

/-- the i-th datagram a command transmits carries the i-th draw from the entropy stream as its IV, for every script
    (`iv_is_own_draw` + `sendLoop_spec`). This is the library's share of "no IV is ever used twice"; that distinct draws
    differ is a property of crypto/rand and is not proved (C03 is PARTIAL in this). -/
theorem ith_datagram_uses_ith_draw (C : Ops) (c : Cmd) (hf : c.reqFails = false) (s : Sess) (hs : s.inbound < 4294967296)
    (ivs : List Bytes) (script : List Outcome) (hl : script.length ≤ ivs.length) (i : Nat)
    (hi : i < (sendLoop C c s ivs script).2.1.length) (hiv : (ivs.getD i []).length = 16) :
    (((sendLoop C c s ivs script).2.1.getD i []).drop 16).take 16 = ivs.getD i [] := by
  rw [(sendLoop_spec C c hf s hs ivs script hl).2.1] at hi ⊢
  rw [List.length_map, List.length_range] at hi
  rw [getD_map_range _ hi]
  exact iv_is_own_draw C s.keys c _ _ hiv

/-- THE BMC'S VIEW, outer layer: stripping the 4-byte RMCP header and decoding the session wrapper with the
    negotiated integrity function under K1 SUCCEEDS (the AuthCode verifies, the pad scan finds the computed pad) and
    yields: authenticated and encrypted flags set, payload type IPMI, the BMC's session ID, sequence number
    counter + 1, and as payload exactly the AES payload — for every command, counter, IV and lawful crypto, provided
    the payload fits the 16-bit length field -/
theorem wrapper_opens (C : Ops) (k : Keys) (hr : k.remoteID < 4294967296) (c : Cmd) (inb : Nat) (iv : Bytes)
    (hlen : (aesPayload C k c iv).length < 65536) :
    ∃ v, V2Session.decode (integMac C k.integ k.k1) ((datagramOf C k c inb iv).drop 4) = .ok v ∧
      v.authenticated = true ∧ v.encrypted = true ∧ v.payloadType = 0 ∧ v.id = k.remoteID ∧
      v.sequence = (inb + 1) % 4294967296 ∧ v.payload = aesPayload C k c iv := by
  let s : V2Session := { encrypted := true, authenticated := true, id := k.remoteID, payloadType := 0
                         sequence := (inb + 1) % 4294967296 }
  have hwf : s.WF (aesPayload C k c iv) :=
    ⟨by show (0 : UInt8).toNat < 64; decide, hr, by show (inb + 1) % 4294967296 < 4294967296; omega, hlen,
     by show (0 : Nat) < 4294967296; omega, by show (0 : Nat) < 65536; omega,
     fun _ => ⟨rfl, rfl⟩, fun h => by simp [s] at h⟩
  have hrt := V2Session.decode_encode (integMac C k.integ k.k1) s (aesPayload C k c iv) hwf
  have hd : (datagramOf C k c inb iv).drop 4 = (V2Session.encode (integMac C k.integ k.k1) s (aesPayload C k c iv)).2 := rfl
  rw [hd, hrt]
  exact ⟨_, rfl, rfl, rfl, rfl, rfl, rfl, rfl⟩

example : (requestMessage { fn := 0x2c, cmd := 2, body := 0xdc, req := [1, 2, 3] }).WF :=
  ⟨by decide, by decide, by decide, by decide, by decide, by decide, by decide, by decide⟩

end Bmc.Proofs.C03
