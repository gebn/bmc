import Bmc.Proofs.GenHs.Wrappers
import Bmc.Proofs.GenKeys.Rakp2
import Bmc.Proofs.GenKeys.Rakp3
import Bmc.Proofs.GenKeys.SIK
import Bmc.Proofs.GenKeys.ICV
import Bmc.Proofs.GenKeys.KConstant
import Bmc.Proofs.GenKeys.Tables
import Bmc.Proofs.GenOrch.DetermineCipherSuite
/-! # `newV2Session` (v2session_new.go) as RE-TRANSLATED from the Go source on every run IS the hand-written handshake model

`Gen.Hs.bmc_V2SessionlessTransport_newV2Session` is emitted by `tools/decgen -hs` from the function as the source stands now,
statement by statement (`Gen/Hs.lean`): `determineCipherSuite` (the regenerated definition of `Gen/Orch.lean`), the three wrappers
(regenerated too: `Proofs/GenHs/Wrappers.lean`) around the PARAMETERS `send_<Payload>` = `buildAndSendPayload`, `rand.Read` as the
parameter `rand_Read`, the key formulas, hash constructors and algorithm tables as the regenerated definitions of `Gen/Keys.lean`
composed with the keyed hash through the parameter `hash_Sum`, instantiated here with `Lemmas/GenKeys.lean: mac C` — the contract
of `hash.Hash` over an abstract `C.hmac` — and `hmac.Equal` as equality.

`newV2Session_gen_eq`: for EVERY option value, every answer function of the four parameters over ANY state (so also answers that
depend on everything asked before) and every abstract keyed hash of the right lengths, once `determineCipherSuite` has proposed
`cs`, the translated function returns — result AND final state — what the hand model's composition `hsRun` of `stepOpen` /
`stepRakp2` / `stepRakp4` (`Lemmas/GenHsModel.lean`; `newSession_eq_hsRun`: that composition over a reply script IS
`Proto.newSession`) returns over the same answers read as the model's decoded `OpenSessionRsp` / `RAKP2` / `RAKP4`
(`Lemmas/GenHs.lean: viewAnswers`, the identification). The final state is the state after the last request made, so the theorem
pins which requests are handed to `buildAndSendPayload`, in which order, and that nothing is asked after a failed check:

* Open Session: tag 0, the caller's privilege level, `SessionID: 1`, the three algorithms of the PROPOSAL, no wildcard; the
  response must carry the request's tag, status OK and exactly the proposed algorithms;
* then the draw of 16 random bytes, then RAKP 1: tag 0, the BMC's session ID of the Open Session Response, the draw, the caller's
  lookup mode, privilege level and user name; the response must carry tag 0 and status OK;
* the RAKP 2 AuthCode is compared BEFORE RAKP 3 is built: a mismatch returns `ErrIncorrectPassword` itself (and only that
  does), with nothing more sent; otherwise RAKP 3: tag 0, status OK, the BMC's session ID, the RAKP 3 AuthCode under the password;
* the SIK under K_G, or the password when K_G is empty; the RAKP 4 ICV check under the SIK (truncated per algorithm);
* the session: LocalID / RemoteID from the Open Session RESPONSE (console / BMC session ID), the confirmed algorithms, the SIK,
  the key-material generator HMAC_SIK, the integrity hasher keyed with K1 (truncation per algorithm), AES key = first 16 bytes of K2;
  integrity algorithms outside {1, 2, 4} and confidentiality algorithms other than 1 are refused.

Trusted: the `hash.Hash` contract (`mac`), `crypto/rand.Read` fills the slice it is given on a nil error, `ipmi.NewAES128CBC` does
not fail on a 16-byte key; pointers are non-nil. Not modelled: the gopacket decoder of the new session, the shared connection and
the timeout (listed in the doc comment of the generated definition). -/
namespace Bmc.Proofs.GenHs
open Bmc Bmc.Crypto Bmc.Proto Bmc.GoOrch Bmc.Gen.Hs Bmc.Lemmas.GenHs Bmc.Lemmas.GenKeys Bmc.Gen.Orch Bmc.Proofs.GenKeys

/-- `newV2Session` as regenerated, after `determineCipherSuite` proposed `cs` in state `s1` -/
theorem newV2Session_gen_eq (C : Ops) (hlen : ∀ a k m, (C.hmac a k m).length = a.size) {σ : Type} (fuel : Nat)
    (sendS : σ → GetChannelCipherSuitesReq → σ × GetChannelCipherSuitesRsp × Bool)
    (sendO : σ → OpenSessionReq → σ × OpenSessionRsp × Bool)
    (sendR1 : σ → RAKPMessage1 → σ × RAKPMessage2 × Bool)
    (sendR3 : σ → RAKPMessage3 → σ × RAKPMessage4 × Bool)
    (tail : Bytes) (rr : σ → Nat → σ × Option Bytes) (opts : V2SessionOpts) (s0 s1 : σ) (cs : Gen.Dec.CipherSuite)
    (hdet : bmc_V2SessionlessTransport_determineCipherSuite fuel sendS tail opts.cipherSuites s0 = (.ok cs, s1)) :
    bmc_V2SessionlessTransport_newV2Session fuel sendS sendO sendR1 sendR3 tail (mac C) rr opts s0
      = (goOutcome (hsRun C (viewAnswers sendO sendR1 sendR3 rr) (optsOf opts cs) s1).1,
          (hsRun C (viewAnswers sendO sendR1 sendR3 rr) (optsOf opts cs) s1).2) := by
  -- per exchange: the wrapper's equation, the answer named, the model's stage in the guard form of the regenerated code
  -- (`openStage`, `rakp2Stage`, `rakp4Stage`); then guard by guard, the same guard on both sides
  show _ = Prod.map goOutcome id _
  unfold bmc_V2SessionlessTransport_newV2Session hsRun
  simp only [bind_apply, hdet, cont_ok, openSession_gen_eq, viewAnswers, goOpenReq, optsOf_priv, optsOf_auth, optsOf_integ, optsOf_conf,
    show UInt32.ofNat 1 = 1 from rfl]
  generalize sendO s1 _ = x1
  obtain ⟨s2, g1, ok1⟩ := x1
  simp only [openStage]
  by_cases hW : ok1 = true ∧ g1.tag = 0 ∧ g1.status = 0
  case neg => simp only [if_neg hW, cont_err]; rfl
  simp only [if_pos hW, cont_ok, ite_apply']
  by_cases hB : (g1.authenticationPayload.algorithm != cs.authenticationAlgorithm || g1.integrityPayload.algorithm != cs.integrityAlgorithm ||
      g1.confidentialityPayload.algorithm != cs.confidentialityAlgorithm) = true
  · simp only [if_pos hB]; rfl
  simp only [if_neg hB, bind_apply, GoHs.randRead_apply, List.length_replicate]
  generalize rr s2 16 = x0
  obtain ⟨s3, d⟩ := x0
  cases d
  · rfl
  rename_i d
  simp only [cont_ok, Option.map_some, bind_apply, rakpMessage1_gen_eq, goRakp1, optsOf_lookup, optsOf_user, osrView_bmc, UInt32.ofNat_toNat]
  generalize GoKeys.copyArr 16 (List.replicate 16 0) d = rm
  generalize sendR1 s3 _ = x2
  obtain ⟨s4, g2, ok2⟩ := x2
  simp only [rakp2Stage]
  by_cases hW2 : ok2 = true ∧ g2.tag = 0 ∧ g2.status = 0
  case neg => simp only [if_neg hW2, cont_err]; rfl
  simp only [if_pos hW2, cont_ok, bind_apply]
  cases hah : authHash g1.authenticationPayload.algorithm with
  | none => simp only [Option.map_eq_none_iff.1 ((authHash_is_table _).trans hah), GoHs.optErr_none, cont_err]; rfl
  | some h =>
    obtain ⟨p, hp, hph, hpf⟩ := table_some _ h hah
    simp only [hp, GoHs.optErr_some, cont_ok, bind_apply, GoHs.sum_apply, mac_AuthCode, hph]
    -- the key formulas on the `Keys.` views of the two messages
    have r1 : Rakp1Is (keys1 ⟨0, g1.managedSystemSessionID, rm, opts.privilegeLevelLookup, opts.sessionOpts.maxPrivilegeLevel,
        opts.sessionOpts.username⟩) (optsOf opts cs) rm (osrView g1) := ⟨rfl, rfl, rfl, rfl, rfl⟩
    have k2 := calculateRAKPMessage2AuthCode_input_eq C h _ rm _ _ _ _ r1 (keys2_is g2)
    have k3 := calculateRAKPMessage3AuthCode_input_eq C h _ rm _ _ _ _ r1 (keys2_is g2)
    have ks : sikOf C h (optsOf opts cs) rm (rk2View g2) = C.hmac h (if opts.kg.isEmpty then opts.sessionOpts.password else opts.kg) _ :=
      calculateSIK_input_eq C h _ rm (osrView g1) _ _ _ r1 (keys2_is g2)
    simp only [keys1, keys2, optsOf_pass] at k2 k3 ks
    rw [← k2]
    by_cases hc2 : (!g2.authCode == rakp2Code C h (optsOf opts cs) rm (osrView g1) (rk2View g2)) = true
    · simp only [if_pos hc2]; rfl
    simp only [if_neg hc2, bind_apply, GoHs.sum_apply, mac_AuthCode, hph, ← k3, cont_ok, rakpMessage3_gen_eq, goRakp3, UInt32.ofNat_toNat]
    generalize sendR3 s4 _ = x3
    obtain ⟨s5, g4, ok4⟩ := x3
    simp only [rakp4Stage]
    by_cases hW4 : ok4 = true ∧ g4.tag = 0 ∧ g4.status = 0
    case neg => simp only [if_neg hW4, cont_err]; rfl
    simp only [if_pos hW4, cont_ok, bind_apply]
    obtain ⟨p', hp', ki⟩ := calculateRAKPMessage4ICV_mac C h _ hah (hlen h) (sikOf C h (optsOf opts cs) rm (rk2View g2)) _ rm _ _ _ _
      r1 (keys2_is g2)
    obtain rfl : p = p' := Option.some.inj (hp.symm.trans hp')
    simp only [keys1, keys2] at ki
    simp only [len0_isEmpty, ite_pure, pure_apply, cont_ok, bind_apply, GoHs.sum_apply, mac_SIK, hph, ← ks, ki]
    by_cases hc4 : (!g4.icv == icvOf C h g1.authenticationPayload.algorithm (sikOf C h (optsOf opts cs) rm (rk2View g2)) rm (osrView g1)
        (rk2View g2)) = true
    · simp only [if_pos hc4]; rfl
    simp only [if_neg hc4, bind_apply, kOf_mac, hph, hasher_table, cipher_table]
    generalize sikOf C h (optsOf opts cs) rm (rk2View g2) = sik
    by_cases hi : (!(g1.integrityPayload.algorithm == 1 || g1.integrityPayload.algorithm == 2 || g1.integrityPayload.algorithm == 4)) = true
    · simp only [if_pos hi]; rfl
    by_cases hcf : (g1.confidentialityPayload.algorithm != 1) = true
    · simp only [if_neg hi, if_pos hcf, GoHs.optErr_some, cont_ok, bind_apply]; rfl
    simp only [if_neg hi, if_neg hcf, GoHs.optErr_some, cont_ok, bind_apply, pure_apply]
    have hk1 : Gen.Keys.K_input 1 = List.replicate 20 1 := by rw [K_input_eq]; rfl
    have hk2 : Gen.Keys.K_input 2 = List.replicate 20 2 := by rw [K_input_eq]; rfl
    have h16 : 16 ≤ (C.hmac h sik (List.replicate 20 2)).length := by rw [hlen]; cases h <;> decide
    simp only [hk1, hk2, copyArr_full _ _ _ h16, Prod.map_apply, goOutcome, sessionOf, UInt32.ofNat_toNat,
      Gen.Keys.authenticationAlgorithmParams_K, hpf, id]

/-- no proposal, no session: when `determineCipherSuite` does not return a suite, `newV2Session` returns its outcome in the
    state it left — no Open Session Request is made (for every hash contract `hs`) -/
theorem newV2Session_no_suite {σ : Type} (fuel : Nat)
    (sendS : σ → GetChannelCipherSuitesReq → σ × GetChannelCipherSuitesRsp × Bool)
    (sendO : σ → OpenSessionReq → σ × OpenSessionRsp × Bool)
    (sendR1 : σ → RAKPMessage1 → σ × RAKPMessage2 × Bool)
    (sendR3 : σ → RAKPMessage3 → σ × RAKPMessage4 × Bool)
    (tail : Bytes) (hs : Gen.Keys.HashVal → Bytes → Option Bytes) (rr : σ → Nat → σ × Option Bytes) (opts : V2SessionOpts) (s0 s1 : σ)
    (r : RF Gen.Dec.CipherSuite) (hr : ∀ cs, r ≠ .ok cs)
    (hdet : bmc_V2SessionlessTransport_determineCipherSuite fuel sendS tail opts.cipherSuites s0 = (r, s1)) :
    bmc_V2SessionlessTransport_newV2Session fuel sendS sendO sendR1 sendR3 tail hs rr opts s0 = (castBad r, s1) := by
  unfold bmc_V2SessionlessTransport_newV2Session
  orch_simp [hdet]
  cases r with
  | ok cs => exact absurd rfl (hr cs)
  | _ => rfl

/-- under the `hash.Hash` contract with an HMAC of the digest's length, `newV2Session` never runs out of fuel (fuel ≥ 64:
    `determineCipherSuite_fuel_any`) and PANICS ONLY IF `determineCipherSuite` does, whatever the BMC answers: no `Sum` of a
    hash it builds reaches beyond the MAC (`truncatedHash` 12 ≤ 20, 16 ≤ 32), and `g.K(n)` of the key-material generator has a
    value (`GoHs.kOf`) -/
theorem newV2Session_total (C : Ops) (hlen : ∀ a k m, (C.hmac a k m).length = a.size) {σ : Type} (fuel : Nat) (hf : 64 ≤ fuel)
    (sendS : σ → GetChannelCipherSuitesReq → σ × GetChannelCipherSuitesRsp × Bool)
    (sendO : σ → OpenSessionReq → σ × OpenSessionRsp × Bool)
    (sendR1 : σ → RAKPMessage1 → σ × RAKPMessage2 × Bool)
    (sendR3 : σ → RAKPMessage3 → σ × RAKPMessage4 × Bool)
    (tail : Bytes) (rr : σ → Nat → σ × Option Bytes) (opts : V2SessionOpts) (s0 : σ) :
    (bmc_V2SessionlessTransport_newV2Session fuel sendS sendO sendR1 sendR3 tail (mac C) rr opts s0).1 ≠ .outOfFuel ∧
    ((bmc_V2SessionlessTransport_determineCipherSuite fuel sendS tail opts.cipherSuites s0).1 ≠ .panic →
      (bmc_V2SessionlessTransport_newV2Session fuel sendS sendO sendR1 sendR3 tail (mac C) rr opts s0).1 ≠ .panic) := by
  have hfu := Bmc.Proofs.GenOrch.determineCipherSuite_fuel_any sendS fuel hf tail opts.cipherSuites s0
  cases hd : bmc_V2SessionlessTransport_determineCipherSuite fuel sendS tail opts.cipherSuites s0 with
  | mk r s1 =>
    rw [hd] at hfu
    cases r with
    | ok cs =>
      rw [newV2Session_gen_eq C hlen fuel sendS sendO sendR1 sendR3 tail rr opts s0 s1 cs hd]
      have H := viewAnswers_error sendO sendR1 sendR3 rr
      have hnc := Lemmas.GenHs.hsRun_not_crashed C (viewAnswers sendO sendR1 sendR3 rr) (optsOf opts cs) s1
        (fun s r h => nomatch H.1 s r _ h) (fun s r h => nomatch H.2.1 s r _ h) (fun s r h => nomatch H.2.2 s r _ h)
      generalize (hsRun C (viewAnswers sendO sendR1 sendR3 rr) (optsOf opts cs) s1).1 = res at hnc
      cases res with
      | crashed => exact absurd rfl hnc
      | _ => exact ⟨nofun, fun _ => nofun⟩
    | err | panic | overread => rw [newV2Session_no_suite fuel sendS sendO sendR1 sendR3 tail _ rr opts s0 s1 _ (by intro cs h; cases h) hd]; simp
    | outOfFuel => exact absurd rfl hfu

/-- the hypothesis of `newV2Session_gen_eq` is satisfiable: a caller that gives exactly one cipher suite gets it proposed without
    any discovery (for every answer function) -/
example (C : Ops) (hlen : ∀ a k m, (C.hmac a k m).length = a.size) {σ : Type} (fuel : Nat)
    (sendS : σ → GetChannelCipherSuitesReq → σ × GetChannelCipherSuitesRsp × Bool)
    (sendO : σ → OpenSessionReq → σ × OpenSessionRsp × Bool)
    (sendR1 : σ → RAKPMessage1 → σ × RAKPMessage2 × Bool)
    (sendR3 : σ → RAKPMessage3 → σ × RAKPMessage4 × Bool)
    (tail : Bytes) (rr : σ → Nat → σ × Option Bytes) (opts : V2SessionOpts) (s0 : σ) (cs : Gen.Dec.CipherSuite)
    (h1 : opts.cipherSuites = [cs]) :
    bmc_V2SessionlessTransport_newV2Session fuel sendS sendO sendR1 sendR3 tail (mac C) rr opts s0
      = (goOutcome (hsRun C (viewAnswers sendO sendR1 sendR3 rr) (optsOf opts cs) s0).1,
          (hsRun C (viewAnswers sendO sendR1 sendR3 rr) (optsOf opts cs) s0).2) :=
  newV2Session_gen_eq C hlen fuel sendS sendO sendR1 sendR3 tail rr opts s0 s0 cs
    (by rw [h1]; simp [bmc_V2SessionlessTransport_determineCipherSuite, listIdx])

/-- the `Keys.` views handed to the key formulas do not contain the slices of the decoded RAKP 2 (`AuthCode` points into the
    receive buffer; the translator refuses a read of it after a later exchange): whatever it holds, the view is the same -/
theorem keys_view_ignores_authCode (m : RAKPMessage2) (a : Bytes) : keys2 { m with authCode := a } = keys2 m := rfl

end Bmc.Proofs.GenHs
