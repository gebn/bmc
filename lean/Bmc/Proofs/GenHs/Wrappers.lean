import Bmc.Lemmas.GenHs
/-! # `openSession`, `rakpMessage1`, `rakpMessage3` (v2sessionless.go) as RE-TRANSLATED from the Go source on every run

Each wrapper builds the payload struct around the request it is given, hands it to `buildAndSendPayload` — the PARAMETER
`send` of the regenerated definition: state, request struct ↦ new state, what the response struct holds afterwards, whether
the error is nil — and returns the response struct only if (1) the error is nil, (2) its tag is the REQUEST's tag and (3) its
status is OK; in every case exactly one payload has been handed to `buildAndSendPayload`: the request, unchanged. For EVERY
answer function over any state and every request. (The hand model has these checks inside `stepOpen` / `stepRakp2` /
`stepRakp4`: `Lemmas/GenHsModel.lean: openChecks` …, with the request's tag 0.) -/
namespace Bmc.Proofs.GenHs
open Bmc Bmc.GoOrch Bmc.Gen.Hs

theorem openSession_gen_eq {σ : Type} (send : σ → OpenSessionReq → σ × OpenSessionRsp × Bool) (r : OpenSessionReq) (s : σ) :
    bmc_V2Sessionless_openSession send r s =
      (if (send s r).2.2 = true ∧ (send s r).2.1.tag = r.tag ∧ (send s r).2.1.status = 0 then .ok (send s r).2.1 else .err, (send s r).1) := by
  unfold bmc_V2Sessionless_openSession
  orch_simp
  exact Lemmas.GenHs.wrapperResult ..

theorem rakpMessage1_gen_eq {σ : Type} (send : σ → RAKPMessage1 → σ × RAKPMessage2 × Bool) (r : RAKPMessage1) (s : σ) :
    bmc_V2Sessionless_rakpMessage1 send r s =
      (if (send s r).2.2 = true ∧ (send s r).2.1.tag = r.tag ∧ (send s r).2.1.status = 0 then .ok (send s r).2.1 else .err, (send s r).1) := by
  unfold bmc_V2Sessionless_rakpMessage1
  orch_simp
  exact Lemmas.GenHs.wrapperResult ..

theorem rakpMessage3_gen_eq {σ : Type} (send : σ → RAKPMessage3 → σ × RAKPMessage4 × Bool) (r : RAKPMessage3) (s : σ) :
    bmc_V2Sessionless_rakpMessage3 send r s =
      (if (send s r).2.2 = true ∧ (send s r).2.1.tag = r.tag ∧ (send s r).2.1.status = 0 then .ok (send s r).2.1 else .err, (send s r).1) := by
  unfold bmc_V2Sessionless_rakpMessage3
  orch_simp
  exact Lemmas.GenHs.wrapperResult ..

end Bmc.Proofs.GenHs
