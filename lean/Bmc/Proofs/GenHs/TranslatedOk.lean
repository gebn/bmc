import Bmc.Gen.Hs
/-! every function `Proofs/GenHs/*` is about is among those `tools/decgen -hs` translated on this run (one it gives up on is a broken tie) -/
namespace Bmc.Proofs.GenHs
open Bmc

theorem translated_ok : ∀ f ∈ ["bmc.V2Sessionless.openSession", "bmc.V2Sessionless.rakpMessage1", "bmc.V2Sessionless.rakpMessage3",
    "bmc.V2SessionlessTransport.newV2Session"], f ∈ Gen.Hs.translated := by decide +kernel

/-- the translator gives up on none of its targets -/
theorem gaveUp_none : Gen.Hs.gaveUp = [] := by decide

end Bmc.Proofs.GenHs
