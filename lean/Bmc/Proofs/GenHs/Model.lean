import Bmc.Lemmas.GenHsModel
/-! `hsRun` over the answers a reply script induces IS the hand model `Proto.newSession`, step by step and as a whole (result AND the
    datagrams transmitted): the equations of `Lemmas/GenHsModel.lean` as obligations of C01. So every theorem of C01 / C02 / C12
    about `newSession` is one about `hsRun`, which `newV2Session_gen_eq` ties to the current source. -/
namespace Bmc.Proofs.GenHs
open Bmc Bmc.Wire Bmc.Crypto Bmc.Proto Bmc.Lemmas.GenHs

theorem stepOpen_is_checks (o : Opts) (script : List Outcome) :
    stepOpen o script = (decoded (OpenSessionRsp.decodeGo {}) script >>= openChecks o) := stepOpen_eq o script

theorem stepRakp2_is_checks (C : Ops) (o : Opts) (rm : Bytes) (osr : OpenSessionRsp) (script : List Outcome) :
    stepRakp2 C o rm osr script = (decoded (RAKP2.decodeGo true {}) script >>= rakp2Checks C o rm osr) :=
  stepRakp2_eq C o rm osr script

theorem stepRakp4_is_checks (C : Ops) (o : Opts) (rm : Bytes) (osr : OpenSessionRsp) (rk2 : RAKP2) (h : HashAlg) (script : List Outcome) :
    stepRakp4 C o rm osr rk2 h script = (decoded (RAKP4.decodeGo {}) script >>= rakp4Checks C o rm osr rk2 h) :=
  stepRakp4_eq C o rm osr rk2 h script

/-- for every option value, every draw and every reply script -/
theorem newSession_is_hsRun (C : Ops) (o : Opts) (rm : Bytes) (script : List Outcome) :
    newSession C o rm script =
      ((hsRun C (scriptAnswers rm) o (script, [])).2.2, (hsRun C (scriptAnswers rm) o (script, [])).1) :=
  newSession_eq_hsRun C o rm script

/-- e.g. with nothing ever answered the Open Session Request is transmitted as often as the script is long, and that is all -/
example (C : Ops) (o : Opts) (rm : Bytes) :
    (hsRun C (scriptAnswers rm) o ([.lost, .lost], [])).2.2
      = List.replicate 2 (setupDatagram 0x10 (OpenSessionReq.encode 0 o.priv 1 o.auth o.integ o.conf)) := rfl

end Bmc.Proofs.GenHs
