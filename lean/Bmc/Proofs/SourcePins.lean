import Bmc.Gen.Facts
/-! # The small functions around the translated core, as they stand on this run (regenerated fact; C13, C19, C05)

No translator covers them: `Dial` / `DialV2` and the `WithTimeout` option (the default per-request timeout of one second, a FRESH
`dialConfig` per dial, not a package-level value that connections would share), `newTransport` (default port 623), the constructors
`newV2SessionlessTransport` / `newV2Sessionless` (one serialisation buffer, one back-off policy, one decoder per connection),
`SetTimeout`, `NewSession` (the default cipher-suite preference), the transport wrapper's `Close`, `serializableLayerOrEmpty`, and the
helpers of `pkg/layerexts` from which the decode chain is built (`BuildDecoder`, `Contains`, `InnermostEquals`). Their bodies are
recorded as normalised source text and pinned here; what they DO is exercised by the real-socket scenarios and the race-detector run. -/
namespace Bmc.Proofs.SourcePins

theorem pinned_sources : Bmc.Gen.Facts.pinnedSources = [
  ("bmc.Dial", "{ return DialV2(addr, opts...) }"),
  ("bmc.DialV2", "{ v2ConnectionOpenAttempts.Inc() t, err := newTransport(addr) if err != nil { v2ConnectionOpenFailures.Inc() return nil, err } v2ConnectionsOpen.Inc() c := &dialConfig{ timeout: 1 * time.Second, } for _, opt := range opts { opt(c) } return newV2SessionlessTransport(t, c), nil }"),
  ("bmc.V2Sessionless.SetTimeout", "{ s.timeout = t }"),
  ("bmc.V2SessionlessTransport.Close", "{ defer v2ConnectionsOpen.Dec() return s.Transport.Close() }"),
  ("bmc.V2SessionlessTransport.NewSession", "{ return s.NewV2Session(ctx, &V2SessionOpts{ SessionOpts: *opts, }) }"),
  ("bmc.WithTimeout", "{ return func(c *dialConfig) { c.timeout = t } }"),
  ("bmc.newTransport", "{ if !strings.Contains(addr, \":\") || strings.HasSuffix(addr, \"]\") { addr = addr + \":623\" } return transport.New(addr) }"),
  ("bmc.newV2Sessionless", "{ s := &V2Sessionless{ v2ConnectionShared: v2ConnectionShared{ transport: t, buffer: gopacket.NewSerializeBuffer(), backoff: backoff.NewExponentialBackOff(), }, timeout: timeout, } dlc := gopacket.DecodingLayerContainer(gopacket.DecodingLayerArray(nil)) dlc = dlc.Put(&s.rmcpLayer) dlc = dlc.Put(&s.sessionSelectorLayer) dlc = dlc.Put(&s.v2SessionLayer) dlc = dlc.Put(&s.messageLayer) s.decode = dlc.LayersDecoder(s.rmcpLayer.LayerType(), gopacket.NilDecodeFeedback) return s }"),
  ("bmc.newV2SessionlessTransport", "{ return &V2SessionlessTransport{ Transport: t, V2Sessionless: newV2Sessionless(t, c.timeout), } }"),
  ("bmc.serializableLayerOrEmpty", "{ if s == nil { return gopacket.Payload(nil) } return s }"),
  ("layerexts.BuildDecoder", "{ return gopacket.DecodeFunc(func(d []byte, p gopacket.PacketBuilder) error { layer := newLayer() err := layer.DecodeFromBytes(d, p) if err != nil { return err } p.AddLayer(layer) next := layer.NextLayerType() if next == gopacket.LayerTypeZero { return nil } return p.NextDecoder(next) }) }"),
  ("layerexts.DecodedTypes.Contains", "{ for i := len(ts) - 1; i >= 0; i-- { if ts[i] == needle { return nil } } return fmt.Errorf(\"%v layer not received\", needle) }"),
  ("layerexts.DecodedTypes.InnermostEquals", "{ if len(ts) == 0 { return fmt.Errorf(\"no layers received\") } if got := ts[len(ts)-1]; got != want { return fmt.Errorf(\"inner-most layer is %v, wanted %v\", got, want) } return nil }")] := rfl

end Bmc.Proofs.SourcePins
