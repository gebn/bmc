import Bmc.Lemmas.GenOrchSdr
/-! # `walkSDRs` (sdr_repository.go) as re-translated on every run is the hand-written model `Proto.SdrWalk.walk`
    (with the map key of the current tree, `header.ID`): for EVERY raw answer function over ANY state, every fuel and
    every starting state — the repository returned (or the error, or `outOfFuel`: the Go loop has no bound of its own)
    AND the final state of the answer function, i.e. the sequence of requests made. The two `gopacket.NewPacket(…,
    Lazy).Layer(…)` uses are `GoOrch.packetLayer` over the REGENERATED decoders of `ipmi.SDR` and
    `ipmi.FullSensorRecord` (`Gen/Dec.lean`, whose own equality theorems are used). -/
namespace Bmc.Proofs.GenOrch
open Bmc Bmc.GoOrch Bmc.Gen.Orch Bmc.Proto Bmc.Proto.SdrWalk Bmc.Lemmas.GenOrch Bmc.Lemmas.GenOrchSdr

theorem walkSDRs_gen_eq {σ : Type} (a : Answer σ) (junk : σ → GetSDRReq → GetSDRRsp) (fuel : Nat) (s : σ) :
    ((bmc_walkSDRs fuel (sendOf a junk) (reserveOf a) s).1.map viewRepo = ofRes (walk true a fuel s).2) ∧
    (bmc_walkSDRs fuel (sendOf a junk) (reserveOf a) s).2 = (walk true a fuel s).1 := by
  unfold bmc_walkSDRs walk
  simp only [bind_apply, call_apply, reserveOf]
  cases hc : SdrWalk.call a Wire.ReserveRsp.decode s .reserve with
  | mk s1 o =>
    cases o with
    | none => simp [RF.map, ofRes]
    | some w =>
      simp only [Option.map_some, cont_ok, withCell_apply, bind_apply]
      have hw := call_reserve_lt hc
      generalize hr : loop fuel _ _ _ = r
      have key := loop_sim (H := fun n (x : σ × Nat × SDRRepository) => walkLoop true a n x.1 w.reservationID x.2.1 x.2.2)
        (Inv := fun _ g (st : σ × GetSDRCmd) x => x = (st.1, st.2.req.recordID.toNat, viewRepo g) ∧
          st.2.req.reservationID.toNat = w.reservationID ∧ st.2.req.offset = 0 ∧ st.2.req.length = 5)
        (Sim := fun _ _ _ r o => (r.1.map viewRepo, r.2.1) = (ofRes o.2, o.1))
        (fun _ _ _ h => by obtain ⟨rfl, _⟩ := h; rfl) ?round _ _ _ _ (by exact ⟨rfl, UInt16.toNat_ofNat_of_lt' hw, rfl, rfl⟩) r hr
      case round =>
        rintro n g ⟨s, ⟨⟨rv, rid, off, len⟩, rsp0⟩⟩ _ ⟨rfl, hrv, ho, hl⟩
        simp only at hrv ho hl
        subst ho hl
        have hid : rid = 65535 ↔ rid.toNat = 0xFFFF :=
          ⟨fun h => by rw [h]; rfl, fun h => UInt16.toNat_inj.mp (by rw [h]; rfl)⟩
        have hq : ∀ o l, reqOf { reservationID := rv, recordID := rid, offset := o, length := l } =
            .getSDR w.reservationID rid.toNat o.toNat l.toNat := fun o l => by simp [reqOf, hrv]
        orch_simp [walkLoop]
        by_cases hlast : rid = 65535
        · subst hlast; rfl
        have hne : (!rid != 65535) = false := by simp [hlast]
        simp only [hne, mt hid.mpr hlast, Bool.false_eq_true, if_false, sendOf, hq, show (0 : UInt8).toNat = 0 from rfl,
          show (5 : UInt8).toNat = 5 from rfl]
        -- the header read
        rcases hc1 : SdrWalk.call a Wire.GetSDRRsp.decode s (.getSDR w.reservationID rid.toNat 0 5) with ⟨s1, _ | w1⟩
        · rfl
        have hw1 := call_getSDR_next_lt hc1
        simp only [Option.map_some, Option.getD_some, Option.isSome_some, cond_true, show (rspOf w1).payload = w1.payload from rfl]
        rw [header_decode, packetLayer]
        cases Gen.Dec.SDR.decodeGo {} (GoSlice.ofBytes w1.payload) with
        | ok gh =>
          simp only [R.map, Option.isNone_some, Bool.false_eq_true, if_false, derefOpt_some, cont_ok, Gen.Dec.SDR.toModel]
          orch_simp
          by_cases ht : gh.type_ = 1
          · have hlen : gh.length > 64 ↔ gh.length.toNat > 64 := UInt8.lt_iff_toNat_lt
            by_cases hlong : gh.length > 64
            · simp only [ht, hlong, hlen.mp hlong, beq_self_eq_true, if_true]; rfl
            simp only [ht, beq_self_eq_true, hlong, mt hlen.mpr hlong, if_true, if_false, sendOf, hq, show (5 : UInt8).toNat = 5 from rfl]
            -- the body read
            rcases hc2 : SdrWalk.call a Wire.GetSDRRsp.decode s1 (.getSDR w.reservationID rid.toNat 5 gh.length.toNat) with ⟨s2, _ | w2⟩
            · rfl
            have hw2 := call_getSDR_next_lt hc2
            simp only [Option.map_some, Option.getD_some, Option.isSome_some, cond_true, show (rspOf w2).payload = w2.payload from rfl]
            rw [fsr_decode, packetLayer]
            cases Gen.Dec.FullSensorRecord.decodeGo {} (GoSlice.ofBytes w2.payload) with
            | ok gf =>
              simp only [R.map, Option.isNone_some, Bool.false_eq_true, if_false, derefOpt_some, cont_ok]
              orch_simp [Step.Round]
              exact ⟨_, ⟨rfl, hrv, trivial, trivial⟩, fun r h => by simpa [viewRepo_mapSet, rspOf, UInt16.toNat_ofNat_of_lt' hw2] using h⟩
            | _ => rfl
          · have ht' : (gh.type_ == 1) = false := by simp [ht]
            simp only [ht, ht', Bool.false_eq_true, if_false, Step.Round]
            exact ⟨_, ⟨rfl, hrv, trivial, trivial⟩, fun r h => by simpa [rspOf, UInt16.toNat_ofNat_of_lt' hw1] using h⟩
        | _ => rfl
      clear hr
      obtain ⟨r1, s', c'⟩ := r
      obtain ⟨k1, rfl⟩ := Prod.mk.inj key
      rw [show viewRepo [] = [] from rfl] at k1
      cases r1 <;> exact ⟨k1, rfl⟩

end Bmc.Proofs.GenOrch
