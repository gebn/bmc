import Bmc.Lemmas.GenOrchSuites
import Bmc.Lemmas.GenOrchFuel
import Bmc.Proofs.GenDec.CipherSuiteRecords
/-! # `RetrieveSupportedCipherSuites` (cipher_suites.go) as re-translated on every run is the hand-written model
    `retrieveSupportedCipherSuites`: the chunk loop over list indices (with `break`, fuel) followed by the regenerated
    record parser of `Gen/Dec.lean` (whose own equality theorem is used) — result AND list indices asked for. -/
namespace Bmc.Proofs.GenOrch
open Bmc Bmc.GoOrch Bmc.Gen.Orch Bmc.Proto.Enum Bmc.Lemmas.GenOrch Bmc.Lemmas.GenOrchSuites

/-- for EVERY answer function over ANY state: 64 rounds suffice (and the record parser never runs out of its own fuel) -/
theorem RetrieveSupportedCipherSuites_fuel_any {σ : Type}
    (send : σ → GetChannelCipherSuitesReq → σ × GetChannelCipherSuitesRsp × Bool) (fuel : Nat) (hf : 64 ≤ fuel) (tail : Bytes) :
    NoFuelOut (bmc_RetrieveSupportedCipherSuites fuel send tail) := by
  intro s
  unfold bmc_RetrieveSupportedCipherSuites
  simp only [withCell_apply, bind_apply]
  generalize hr : loop fuel _ _ _ = r
  -- the list index goes up by one every round and the loop is left at 63
  have key := loop_noFuelOut (fun _ s => 63 - s.2.req.listIndex.toNat) (fun _ s => s.2.req.listIndex.toNat ≤ 63) ?round _ _ _
    (by show (0 : UInt8).toNat ≤ 63; decide) (by show 63 - (0 : UInt8).toNat < fuel; simp; omega) r hr
  case round =>
    rintro buf ⟨s, cmd⟩ hle
    orch_simp
    generalize send s cmd.req = r
    obtain ⟨s', rsp, ok⟩ := r
    cases ok
    · simp 
    · by_cases hbr : (cmd.req.listIndex == 63 || decide (rsp.cipherSuiteRecordsChunk.length < 16)) = true
      · simp [hbr]
      · simp only [Bool.or_eq_true, beq_iff_eq, not_or] at hbr
        have hne : cmd.req.listIndex.toNat ≠ 63 := fun h => hbr.1 (UInt8.toNat_inj.mp (by rw [h]; rfl))
        have hi : (cmd.req.listIndex + 1).toNat = cmd.req.listIndex.toNat + 1 := by rw [UInt8.toNat_add]; simp at hle ⊢; omega
        simp [hbr, hi]; simp at hle; omega
  obtain ⟨r1, s'⟩ := r
  cases r1 with
  | ok data => exact Proofs.GenDec.parseCipherSuiteRecordData_fuel _
  | outOfFuel => exact absurd rfl key
  | _ => nofun


/-- `RetrieveSupportedCipherSuites` as regenerated: the parsed records and the list indices asked for -/
theorem RetrieveSupportedCipherSuites_gen_eq (b : TBmc) (junk : Junk) (fuel : Nat) (hf : 64 ≤ fuel) (tail : Bytes) (log : List GetChannelCipherSuitesReq) :
    ((bmc_RetrieveSupportedCipherSuites fuel (ansOf b junk) tail log).1.map (List.map Gen.Dec.CipherSuiteRecord.toEntry)
        = RF.lift (retrieveSupportedCipherSuites (pageOf b)).2) ∧
    (bmc_RetrieveSupportedCipherSuites fuel (ansOf b junk) tail log).2.map viewReq
        = log.map viewReq ++ (retrieveSupportedCipherSuites (pageOf b)).1 := by
  have hnf := RetrieveSupportedCipherSuites_fuel_any (ansOf b junk) fuel hf tail log
  unfold bmc_RetrieveSupportedCipherSuites at hnf ⊢
  simp only [withCell_apply, bind_apply] at hnf ⊢
  generalize hr : loop fuel _ _ _ = r at hnf
  have key := loop_sim (H := fun n (x : Nat × Bytes) => retrieveLoop 63 (pageOf b) n x.1 x.2)
    (Inv := fun _ buf (s : St) x => x = (s.2.req.listIndex.toNat, buf) ∧ s.2.req.channel = 14 ∧ s.2.req.payloadType = 0 ∧
      s.2.req.listIndex.toNat ≤ 63)
    (Sim := fun _ s _ r o => r.1 = .outOfFuel ∨ (r.1 = RF.lift o.2 ∧ r.2.1.map viewReq = s.1.map viewReq ++ o.1))
    (fun _ _ _ _ => Or.inl rfl) ?round _ _ _ _ (by exact ⟨rfl, rfl, rfl, Nat.zero_le 63⟩) r hr
  case round =>
    rintro n buf ⟨log, ⟨⟨c, p, li⟩, rsp0⟩⟩ _ ⟨rfl, hc, hp, hle⟩
    simp only at hc hp hle
    subst hc hp
    have hpage : pageOf b (li.toNat % 64) = (b ⟨14, 0, li⟩).map (·.cipherSuiteRecordsChunk) := by
      simp [pageOf, Nat.mod_eq_of_lt (show li.toNat < 64 by omega)]
    orch_simp [ansOf, retrieveLoop, hpage]
    generalize b ⟨14, 0, li⟩ = o
    cases o with
    | none => simp [viewReq]
    | some rsp =>
      have hli : (li == 63) = (li.toNat == 63) := by
        rw [Bool.eq_iff_iff]; simp only [beq_iff_eq]
        exact ⟨fun h => by rw [h]; rfl, fun h => UInt8.toNat_inj.mp (by rw [h]; rfl)⟩
      by_cases hbr : (li.toNat == 63 || decide (rsp.cipherSuiteRecordsChunk.length < 16)) = true
      · simp [viewReq, hli, hbr]
      · have hne : li.toNat ≠ 63 := by intro e; simp [e] at hbr
        have hi' : (li + 1).toNat = li.toNat + 1 := by rw [UInt8.toNat_add]; simp; omega
        simp only [Step.Round, hli, hbr, Option.isSome_some, Option.getD_some, Option.map_some, cond_true, Bool.false_eq_true,
          if_false, Nat.mod_eq_of_lt (show li.toNat + 1 < 256 by omega)]
        exact ⟨(li.toNat + 1, buf ++ rsp.cipherSuiteRecordsChunk), ⟨by rw [hi'], trivial, trivial, by rw [hi']; omega⟩, fun r => Or.imp id fun ⟨h1, h2⟩ => ⟨h1, by simp [h2, viewReq]⟩⟩
  rw [retrieveSupportedCipherSuites, retrieveSupportedCipherSuitesL, retrieveChunksL,
    ← Lemmas.Enum.retrieveLoop_fuel 63 (by omega) (pageOf b) fuel 64 0 [] (by omega) (by omega) (by omega)]
  clear hr
  obtain ⟨r1, log', cmd'⟩ := r
  rcases key with rfl | ⟨rfl, k2⟩
  · exact absurd rfl hnf
  · cases hd : (retrieveLoop 63 (pageOf b) fuel 0 []).2 with
    | ok data =>
      have := Proofs.GenDec.parseCipherSuiteRecordData_gen_eq (GoSlice.window data tail)
      rw [GoSlice.vis_window] at this
      simpa [hd, k2] using this
    | _ => simp [hd, RF.map, k2]

/-- the fuel 64 suffices for every BMC (the `ListIndex == 63` guard) -/
theorem RetrieveSupportedCipherSuites_fuel (b : TBmc) (junk : Junk) (fuel : Nat) (hf : 64 ≤ fuel) (tail : Bytes)
    (log : List GetChannelCipherSuitesReq) :
    (bmc_RetrieveSupportedCipherSuites fuel (ansOf b junk) tail log).1 ≠ .outOfFuel :=
  RetrieveSupportedCipherSuites_fuel_any (ansOf b junk) fuel hf tail log

end Bmc.Proofs.GenOrch
