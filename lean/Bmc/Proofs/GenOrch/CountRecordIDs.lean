import Bmc.Lemmas.GenOrchDcmi
/-! # `sensorMap.CountRecordIDs` (pkg/dcmi/sensor_info.go) as re-translated on every run is the hand model's `SMap.count` -/
namespace Bmc.Proofs.GenOrch
open Bmc Bmc.GoOrch Bmc.Gen.Orch Bmc.Proto.Enum Bmc.Lemmas.GenOrch Bmc.Lemmas.GenOrchDcmi

/-- `CountRecordIDs` ranges over the map in an unspecified order; it is a sum, so every order gives this value -/
theorem CountRecordIDs_gen_eq (g : GMap) : dcmi_sensorMap_CountRecordIDs g = SMap.count (viewMap g) := by
  unfold dcmi_sensorMap_CountRecordIDs SMap.count viewMap
  rw [List.map_reverse, List.sum_reverse, List.map_map, List.sum_eq_foldl, List.foldl_map]
  simp only [Function.comp_apply, ids, List.length_map]

end Bmc.Proofs.GenOrch
