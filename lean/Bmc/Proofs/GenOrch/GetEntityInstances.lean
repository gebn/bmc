import Bmc.Lemmas.GenOrchDcmi
import Bmc.Lemmas.GenOrchFuel
/-! # `getEntityInstances` (pkg/dcmi/sensor_info.go) RE-TRANSLATED from the Go source on every run is the hand-written model

`Bmc.Gen.Orch.dcmi_getEntityInstances` is emitted by `tools/decgen -orch` from the source as it stands, statement by
statement, over the state monad of `Basic/GoOrch.lean`; the BMC is a parameter (`Lemmas/GenOrchDcmi.lean`: `ansOf b junk`,
for EVERY typed BMC `b` and EVERY content `junk` of the response struct after a failed command). A source change to the
function changes `Gen/Orch.lean` and breaks this obligation at build time. -/
namespace Bmc.Proofs.GenOrch
open Bmc Bmc.GoOrch Bmc.Gen.Orch Bmc.Proto.Enum Bmc.Lemmas.GenOrch Bmc.Lemmas.GenOrchDcmi

/-- for EVERY answer function over ANY state (a BMC whose answers change over time included), from every state and
    every content of the command struct: 256 rounds suffice -/
theorem getEntityInstances_fuel_any {σ : Type} (send : σ → GetDCMISensorInfoReq → σ × GetDCMISensorInfoRsp × Bool)
    (fuel : Nat) (hf : 256 ≤ fuel) : NoFuelOut (dcmi_getEntityInstances fuel send) := by
  unfold dcmi_getEntityInstances
  repeat' nofuel_step
  -- a round that goes on adds at least one record ID, and goes on only below `Instances` ≤ 255 of them
  refine fun s => loop_noFuelOut (fun st _ => 255 - st.1.length) (fun st _ => st.2 ≤ 255) ?_ fuel _ s (by simp) (by simp; omega) _ rfl
  rintro ⟨acc, total⟩ s htot
  orch_simp [forEach_pure, foldl_snoc]
  by_cases hlt : acc.length < total
  · generalize send s.1 _ = r
    obtain ⟨s', rsp, ok⟩ := r
    cases ok
    · simp [hlt]
    · by_cases hbr : (rsp.recordIDs.length == 0 || acc.length + rsp.recordIDs.length == 255) = true
      · simp [hlt, hbr]
      · have := rsp.instances.toNat_lt
        simp only [Bool.or_eq_true, beq_iff_eq, not_or] at hbr
        simp [hlt, hbr]; omega
  · simp [hlt]


/-- `getEntityInstances` as regenerated, run from any log and any contents of the command struct -/
theorem getEntityInstances_gen_eq (b : TBmc) (junk) (typ E : UInt8) (fuel : Nat) (hf : 256 ≤ fuel)
    (log : List GetDCMISensorInfoReq) (cmd : GetDCMISensorInfoCmd) (ht : cmd.req.type_ = typ) (he : cmd.req.entity = E) :
    ((dcmi_getEntityInstances fuel (ansOf b junk) (log, cmd)).1.map ids
        = RF.lift (entityInstances (handOf b typ) E.toNat).2) ∧
    (dcmi_getEntityInstances fuel (ansOf b junk) (log, cmd)).2.1.map viewReq
        = log.map viewReq ++ (entityInstances (handOf b typ) E.toNat).1 ∧
    (dcmi_getEntityInstances fuel (ansOf b junk) (log, cmd)).2.2.req.type_ = typ ∧
    (dcmi_getEntityInstances fuel (ansOf b junk) (log, cmd)).2.2.req.entity = E := by
  have hnf := getEntityInstances_fuel_any (ansOf b junk) fuel hf (log, cmd)
  unfold dcmi_getEntityInstances at hnf ⊢
  simp only [bind_apply, modifyCell_apply, cont_ok] at hnf ⊢
  generalize hr : loop fuel _ _ _ = r at hnf
  have key := loop_sim (H := fun n (x : List Nat × Nat) => instLoop (handOf b typ) E.toNat n x.1 x.2)
    (Inv := fun _ st (s : St) x => x = (ids st.1, st.2) ∧ s.2.req.type_ = typ ∧ s.2.req.entity = E ∧ s.2.req.instance_ = 0)
    (Sim := fun _ s _ r o => r.1 = .outOfFuel ∨ (r.1.map (fun st => ids st.1) = RF.lift o.2 ∧
      r.2.1.map viewReq = s.1.map viewReq ++ o.1 ∧ r.2.2.req.type_ = typ ∧ r.2.2.req.entity = E))
    (fun _ _ _ _ => Or.inl rfl) ?round _ _ _ _ ⟨rfl, ht, he, rfl⟩ r hr
  case round =>
    rintro n ⟨acc, total⟩ ⟨log, ⟨⟨t, e, i, st⟩, rsp0⟩⟩ _ ⟨rfl, ht, he, hi⟩
    simp only at ht he hi
    subst ht he hi
    -- the hand model's BMC is asked the same thing
    have hh : handOf b t e.toNat ((acc.length + 1) % 256) =
        (b ⟨t, e, 0, UInt8.ofNat (acc.length + 1)⟩).map fun r => (r.instances.toNat, r.recordIDs.map (·.toNat)) := by
      have : UInt8.ofNat ((acc.length + 1) % 256) = UInt8.ofNat (acc.length + 1) := UInt8.toNat_inj.mp (by simp)
      simp [handOf, this]
    orch_simp [ansOf, forEach_pure, foldl_snoc, instLoop, ids, List.length_map, hh]
    generalize b ⟨t, e, 0, UInt8.ofNat (acc.length + 1)⟩ = o
    by_cases hlt : acc.length < total
    · cases o with
      | none => simp [hlt, RF.map, viewReq]
      | some rsp =>
        by_cases hbr : (rsp.recordIDs.length == 0 || acc.length + rsp.recordIDs.length == 255) = true
        · simp [hlt, RF.map, viewReq, hbr]
        · simp only [hlt, Step.Round, hbr, Option.isSome_some, Option.getD_some, Option.map_some, cond_true, List.length_append,
            List.length_map, decide_true, Bool.not_true, Bool.false_eq_true, if_false, Nat.mod_eq_of_lt rsp.instances.toNat_lt]
          exact ⟨_, ⟨rfl, trivial, trivial, trivial⟩, fun r => Or.imp id fun ⟨h1, h2, h3⟩ =>
            ⟨by simpa [ids] using h1, by simp [h2, viewReq], h3⟩⟩
    · simp [hlt, RF.map]
  rw [entityInstances, ← Lemmas.Enum.instLoop_fuel (handOf b typ) E.toNat fuel 256 [] 1 (by omega) (by simp; omega) (by simp)]
  clear hr
  obtain ⟨r1, r2⟩ := r
  rcases key with rfl | ⟨k1, k2, k3⟩
  · exact absurd rfl hnf
  · cases r1 <;> simpa [RF.map, ids, k2] using ⟨k1, k3⟩

/-- the fuel 256 suffices for every BMC: the regenerated function never reports `outOfFuel` -/
theorem getEntityInstances_fuel (b : TBmc) (junk) (fuel : Nat) (hf : 256 ≤ fuel)
    (log : List GetDCMISensorInfoReq) (cmd : GetDCMISensorInfoCmd) :
    (dcmi_getEntityInstances fuel (ansOf b junk) (log, cmd)).1 ≠ .outOfFuel :=
  getEntityInstances_fuel_any (ansOf b junk) fuel hf (log, cmd)

end Bmc.Proofs.GenOrch
