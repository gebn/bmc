import Bmc.Lemmas.GenOrchSensorMap
/-! # `getSensorMap` (pkg/dcmi/sensor_info.go) as re-translated on every run is the hand-written model `sensorMap`
    (the Go map as an association list; `viewMap` reads it as the hand model's `SMap`). -/
namespace Bmc.Proofs.GenOrch
open Bmc Bmc.GoOrch Bmc.Gen.Orch Bmc.Proto.Enum Bmc.Lemmas.GenOrch Bmc.Lemmas.GenOrchDcmi

/-- `getSensorMap` as regenerated -/
theorem getSensorMap_gen_eq (b : TBmc) (junk) (typ : UInt8) (fuel : Nat) (hf : 256 ≤ fuel) (es : List UInt8)
    (log : List GetDCMISensorInfoReq) (cmd : GetDCMISensorInfoCmd) (ht : cmd.req.type_ = typ) :
    ((dcmi_getSensorMap fuel (ansOf b junk) es (log, cmd)).1.map viewMap
        = RF.lift (sensorMap (handOf b typ) (es.map (·.toNat))).2) ∧
    (dcmi_getSensorMap fuel (ansOf b junk) es (log, cmd)).2.1.map viewReq
        = log.map viewReq ++ (sensorMap (handOf b typ) (es.map (·.toNat))).1 ∧
    (dcmi_getSensorMap fuel (ansOf b junk) es (log, cmd)).2.2.req.type_ = typ ∧
    (∀ g, (dcmi_getSensorMap fuel (ansOf b junk) es (log, cmd)).1 = .ok g → (g.map (·.1)).Nodup) := by
  unfold dcmi_getSensorMap
  simp only [bind_apply, cont_pure]
  exact forEach_getEntityInstances b junk typ fuel hf _ (fun m e s => by simp only [bind_apply, modifyCell_apply, cont_ok]) es [] log cmd ht List.nodup_nil

/-- for EVERY answer function over ANY state: never out of fuel -/
theorem getSensorMap_fuel_any {σ : Type} (send : σ → GetDCMISensorInfoReq → σ × GetDCMISensorInfoRsp × Bool)
    (fuel : Nat) (hf : 256 ≤ fuel) (es : List UInt8) : NoFuelOut (dcmi_getSensorMap fuel send es) := by
  have h1 := getEntityInstances_fuel_any send fuel hf
  unfold dcmi_getSensorMap
  repeat' nofuel_step

end Bmc.Proofs.GenOrch
