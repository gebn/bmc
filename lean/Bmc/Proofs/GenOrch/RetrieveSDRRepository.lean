import Bmc.Lemmas.GenOrchRetrieve
/-! # `RetrieveSDRRepository` (sdr_repository.go) as re-translated on every run is the hand-written model
    `Proto.SdrWalk.retrieve` (the closure given to `backoff.Retry` = `attempt`, run at most `attempts` times): for EVERY
    raw answer function over ANY state, every fuel, every number of attempts and every starting state, the repository
    returned (or the error) AND the final state of the answer function — unless an attempt runs out of fuel, where the
    hand model tries again and the translation stops with the explicit outcome `outOfFuel` (the Go loop would still be
    running). -/
namespace Bmc.Proofs.GenOrch
open Bmc Bmc.GoOrch Bmc.Gen.Orch Bmc.Proto Bmc.Proto.SdrWalk Bmc.Lemmas.GenOrch Bmc.Lemmas.GenOrchSdr

theorem RetrieveSDRRepository_gen_eq {σ : Type} (a : Answer σ) (junk : σ → GetSDRReq → GetSDRRsp) (fuel attempts : Nat) (s : σ) :
    (bmc_RetrieveSDRRepository fuel (sendOf a junk) (infoOf a) (reserveOf a) attempts s).1 = .outOfFuel ∨
    ((bmc_RetrieveSDRRepository fuel (sendOf a junk) (infoOf a) (reserveOf a) attempts s).1.map viewRepo
        = (match (retrieve true a fuel attempts s).2 with | some m => .ok m | none => .err) ∧
     (bmc_RetrieveSDRRepository fuel (sendOf a junk) (infoOf a) (reserveOf a) attempts s).2 = (retrieve true a fuel attempts s).1) := by
  unfold bmc_RetrieveSDRRepository
  simp only [bind_apply]
  exact retry_retrieve a junk fuel attempts s

end Bmc.Proofs.GenOrch
