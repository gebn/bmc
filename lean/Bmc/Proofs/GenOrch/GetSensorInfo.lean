import Bmc.Lemmas.GenOrchSensorInfo
import Bmc.Proofs.GenOrch.CountRecordIDs
/-! # `GetSensorInfo` (pkg/dcmi/sensor_info.go) as re-translated on every run is the hand-written model `getSensorInfo`:
    the result AND the sequence of requests, for every typed BMC. -/
namespace Bmc.Proofs.GenOrch
open Bmc Bmc.GoOrch Bmc.Gen.Orch Bmc.Proto.Enum Bmc.Lemmas.GenOrch Bmc.Lemmas.GenOrchDcmi

/-- the table `ipmiSensorEntityIDs` as regenerated is the hand model's -/
theorem ipmiSensorEntityIDs_gen_eq : dcmi_ipmiSensorEntityIDs.map (·.toNat) = stdEntities := by decide
/-- the table `dcmiSensorEntityIDs` as regenerated is the hand model's -/
theorem dcmiSensorEntityIDs_gen_eq : dcmi_dcmiSensorEntityIDs.map (·.toNat) = dcmiEntities := by decide

/-- `GetSensorInfo` as regenerated, against the hand model: result, and the requests made -/
theorem GetSensorInfo_gen_eq (b : TBmc) (junk) (fuel : Nat) (hf : 256 ≤ fuel) (log : List GetDCMISensorInfoReq) :
    ((dcmi_GetSensorInfo fuel (ansOf b junk) log).1.map viewInfo = RF.lift (getSensorInfo (handOf b 1)).2) ∧
    (dcmi_GetSensorInfo fuel (ansOf b junk) log).2.map viewReq = log.map viewReq ++ (getSensorInfo (handOf b 1)).1 := by
  unfold dcmi_GetSensorInfo getSensorInfo
  simp only [withCell_apply, bind_apply, try_]
  obtain ⟨k1, k2, k3, k4⟩ := getSensorMap_gen_eq b junk 1 fuel hf dcmi_ipmiSensorEntityIDs log { req := { type_ := 1 } } rfl
  rw [ipmiSensorEntityIDs_gen_eq] at k1 k2
  have hres := sensorMap_safe (handOf b 1) stdEntities
  generalize dcmi_getSensorMap fuel (ansOf b junk) dcmi_ipmiSensorEntityIDs (log, { req := { type_ := 1 } }) = r at k1 k2 k3 k4 ⊢
  generalize sensorMap (handOf b 1) stdEntities = h at k1 k2 hres ⊢
  obtain ⟨r1, log', cmd'⟩ := r
  obtain ⟨l, hr⟩ := h
  -- the second half, run from where the first left the log and the command struct
  obtain ⟨f1, f2⟩ := fallback_run b junk fuel hf _ dcmiSensorEntityIDs_gen_eq log' cmd' k3
  rw [k2, List.append_assoc] at f2
  rcases map_eq_lift k1 hres with ⟨rfl, rfl⟩ | ⟨g, rfl, rfl⟩
  · simp only [cont_ok, Option.isSome_none, Bool.false_and, Bool.false_eq_true, if_false, bind_apply]
    exact ⟨f1, f2⟩
  · simp only [cont_ok, Option.isSome_some, Bool.true_and, CountRecordIDs_gen_eq]
    by_cases hc : (viewMap g).count > 0
    · simp [hc, RF.map, k2, pick_view g (k4 g rfl) 55 3 7]; rfl
    · simp only [hc, decide_false, Bool.false_eq_true, if_false, bind_apply]
      exact ⟨f1, f2⟩

/-- for EVERY answer function over ANY state (a BMC whose answers change over time included): never out of fuel -/
theorem GetSensorInfo_fuel_any {σ : Type} (send : σ → GetDCMISensorInfoReq → σ × GetDCMISensorInfoRsp × Bool)
    (fuel : Nat) (hf : 256 ≤ fuel) : NoFuelOut (dcmi_GetSensorInfo fuel send) := by
  have h1 := getSensorMap_fuel_any send fuel hf dcmi_ipmiSensorEntityIDs
  have h2 := getSensorMap_fuel_any send fuel hf dcmi_dcmiSensorEntityIDs
  unfold dcmi_GetSensorInfo
  repeat' nofuel_step

/-- the fuel 256 suffices for every BMC -/
theorem GetSensorInfo_fuel (b : TBmc) (junk) (fuel : Nat) (hf : 256 ≤ fuel) (log : List GetDCMISensorInfoReq) :
    (dcmi_GetSensorInfo fuel (ansOf b junk) log).1 ≠ .outOfFuel :=
  GetSensorInfo_fuel_any (ansOf b junk) fuel hf log

end Bmc.Proofs.GenOrch
