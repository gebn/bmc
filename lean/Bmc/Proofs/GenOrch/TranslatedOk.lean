import Bmc.Gen.Orch
/-! The inventory of `tools/decgen -orch`: a function named here that it gives up on is a broken tie. -/
namespace Bmc.Proofs.GenOrch
open Bmc

theorem translated_ok : ∀ f ∈ ["dcmi.getEntityInstances", "dcmi.getSensorMap", "dcmi.sensorMap.CountRecordIDs", "dcmi.GetSensorInfo",
    "bmc.RetrieveSupportedCipherSuites", "bmc.V2SessionlessTransport.determineCipherSuite", "bmc.walkSDRs",
    "bmc.RetrieveSDRRepository"], f ∈ Gen.Orch.translated := by decide +kernel

/-- the translator gives up on none of its targets -/
theorem gaveUp_none : Gen.Orch.gaveUp = [] := by decide

end Bmc.Proofs.GenOrch
