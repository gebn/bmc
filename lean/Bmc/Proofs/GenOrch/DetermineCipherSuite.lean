import Bmc.Lemmas.GenOrchDetermine
/-! # `determineCipherSuite` (v2session_new.go) as re-translated on every run is the hand-written model `determineFull`
    (`Proto/Suites.lean`, `Proto/Discovery.lean`): the suite proposed (or the error), whether discovery ran, and the list
    indices it asked for — for every preference list and every typed BMC. -/
namespace Bmc.Proofs.GenOrch
open Bmc Bmc.GoOrch Bmc.Gen.Orch Bmc.Proto.Enum Bmc.Lemmas.GenOrch Bmc.Lemmas.GenOrchSuites
open Bmc.Proto

/-- the table `defaultCipherSuites` (with `ipmi.CipherSuite17`, `ipmi.CipherSuite3`) as regenerated is the hand model's -/
theorem defaultCipherSuites_gen_eq : bmc_defaultCipherSuites.map viewSuite = defaultSuites := by decide

/-- `determineCipherSuite` as regenerated -/
theorem determineCipherSuite_gen_eq (b : TBmc) (junk : Junk) (fuel : Nat) (hf : 64 ≤ fuel) (tail : Bytes) (prefs : List Gen.Dec.CipherSuite)
    (log : List GetChannelCipherSuitesReq) :
    ((bmc_V2SessionlessTransport_determineCipherSuite fuel (ansOf b junk) tail prefs log).1.map viewSuite
        = RF.lift (resultOf (determineFull (prefs.map viewSuite) (pageOf b)))) ∧
    (bmc_V2SessionlessTransport_determineCipherSuite fuel (ansOf b junk) tail prefs log).2.map viewReq
        = log.map viewReq ++ (if discoveryRan (determineFull (prefs.map viewSuite) (pageOf b))
            then (retrieveSupportedCipherSuites (pageOf b)).1 else []) := by
  unfold bmc_V2SessionlessTransport_determineCipherSuite
  orch_simp
  rcases prefs with _ | ⟨p1, _ | ⟨p2, rest⟩⟩
  · -- no preference: the defaults, with discovery
    have hd : (bmc_defaultCipherSuites.length == 1) = false := by decide
    simp only [List.length_nil, beq_self_eq_true, if_true, hd, Bool.false_eq_true, if_false, List.map_nil,
      determineFull_nil, discoveryRan_after, ← defaultCipherSuites_gen_eq]
    exact discover_select b junk fuel hf tail bmc_defaultCipherSuites log _
      (by intro recs s; simp only [bind_apply, forEach_pure, cont_ok, forEachR_find]; cases List.find? _ _ <;> rfl)
  · -- one preference: no discovery
    simp [determineFull, determine, resultOf, discoveryRan, listIdx, RF.map]
  · -- several preferences: discovery
    have h0 : ((p1 :: p2 :: rest).length == 0) = false := by simp
    have h1 : ((p1 :: p2 :: rest).length == 1) = false := by simp
    simp only [h0, h1, Bool.false_eq_true, if_false, List.map_cons, determineFull_many, discoveryRan_after, if_true]
    exact discover_select b junk fuel hf tail (p1 :: p2 :: rest) log _
      (by intro recs s; simp only [bind_apply, forEach_pure, cont_ok, forEachR_find]; cases List.find? _ _ <;> rfl)

/-- for EVERY answer function over ANY state and every preference list: never out of fuel -/
theorem determineCipherSuite_fuel_any {σ : Type}
    (send : σ → GetChannelCipherSuitesReq → σ × GetChannelCipherSuitesRsp × Bool) (fuel : Nat) (hf : 64 ≤ fuel) (tail : Bytes)
    (prefs : List Gen.Dec.CipherSuite) : NoFuelOut (bmc_V2SessionlessTransport_determineCipherSuite fuel send tail prefs) := by
  have h1 := RetrieveSupportedCipherSuites_fuel_any send fuel hf tail
  unfold bmc_V2SessionlessTransport_determineCipherSuite
  repeat' nofuel_step
  split <;> repeat' nofuel_step

end Bmc.Proofs.GenOrch
