import Bmc.Lemmas.GenEnc
namespace Bmc.Proofs.GenEnc
open Bmc Bmc.Gen.Enc Bmc.Lemmas.GenEnc Bmc.Wire Bmc.Wire.Req

theorem ChassisControlReq_enc_eq (v : ChassisControlReq) (stale inner : Bytes) :
    ChassisControlReq.serializeTo v stale inner = .ok (ChassisControl.encode v.chassisControl.toNat ++ inner) := by
  unfold ChassisControlReq.serializeTo ChassisControl.encode
  -- `uint8(c.ChassisControl)` of a Go `uint` is the model's byte
  have b0 : v.chassisControl.toUInt8 = UInt8.ofNat (v.chassisControl.toNat % 256) := UInt8.toNat_inj.mp (by simp)
  enc_win [b0]
  rfl

end Bmc.Proofs.GenEnc
