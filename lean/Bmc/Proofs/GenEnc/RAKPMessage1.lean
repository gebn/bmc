import Bmc.Lemmas.GenEnc
namespace Bmc.Proofs.GenEnc
open Bmc Bmc.Gen.Enc Bmc.Lemmas.GenEnc Bmc.Wire Bmc.Wire.Req

/-- `hr`: what the Go type `[16]byte` of `RemoteConsoleRandom` guarantees. A user name over 16 bytes is refused. -/
theorem RAKPMessage1_enc_eq (v : RAKPMessage1) (hr : v.remoteConsoleRandom.length = 16) (stale inner : Bytes) :
    RAKPMessage1.serializeTo v stale inner = R.ofExcept ((Rakp1.encode v.toModel).map (· ++ inner)) := by
  unfold RAKPMessage1.serializeTo Rakp1.encode RAKP1.encode RAKPMessage1.toModel
  by_cases h : v.username.length > 16
  · simp only [h, decide_true, if_true]; rfl
  · rw [Nat.add_comm 28]
    by_cases h0 : v.username.length > 0
    · enc_win [h, h0, hr, copyInto_win (n := 16), decide_false, decide_true]
      cases v.privilegeLevelLookup <;> simp [Except.map, R.ofExcept]
    · have hn : v.username = [] := List.eq_nil_of_length_eq_zero (Nat.eq_zero_of_not_pos h0)
      enc_win [hn, hr, copyInto_win (n := 16), Nat.lt_irrefl, gt_iff_lt, decide_false]
      cases v.privilegeLevelLookup <;> simp [Except.map, R.ofExcept]

/-- the serialiser C08's RAKP 1 round trip is stated about (`Setup.RAKP1.serialize`) -/
theorem RAKPMessage1_enc_eq_setup (v : RAKPMessage1) (hr : v.remoteConsoleRandom.length = 16) (stale inner contents : Bytes) :
    RAKPMessage1.serializeTo v stale inner
      = R.ofExcept ((Setup.RAKP1.serialize (v.toSetup contents)).map (· ++ inner)) :=
  RAKPMessage1_enc_eq v hr stale inner

end Bmc.Proofs.GenEnc
