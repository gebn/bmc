import Bmc.Lemmas.GenEnc
namespace Bmc.Proofs.GenEnc
open Bmc Bmc.Gen.Enc Bmc.Lemmas.GenEnc Bmc.Wire Bmc.Wire.Req

theorem GetDCMICapabilitiesInfoReq_enc_eq (v : GetDCMICapabilitiesInfoReq) (stale inner : Bytes) :
    GetDCMICapabilitiesInfoReq.serializeTo v stale inner = .ok (DcmiCaps.encode v.parameter ++ inner) := by
  unfold GetDCMICapabilitiesInfoReq.serializeTo DcmiCaps.encode
  enc_win
  rfl

end Bmc.Proofs.GenEnc
