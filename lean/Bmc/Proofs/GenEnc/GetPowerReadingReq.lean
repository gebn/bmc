import Bmc.Lemmas.GenEnc
namespace Bmc.Proofs.GenEnc
open Bmc Bmc.Gen.Enc Bmc.Lemmas.GenEnc Bmc.Wire Bmc.Wire.Req

/-- `dcmi.rollingAvgPeriodByte` (floating point) is not translated: whatever function `rb` it is, the serialiser writes
    all three bytes — the mode, `rb Period` for the enhanced mode and 0 otherwise, and 0 -/
theorem GetPowerReadingReq_enc_eq_any (rb : Int → UInt8) (v : GetPowerReadingReq) (stale inner : Bytes) :
    GetPowerReadingReq.serializeTo rb v stale inner = .ok ([v.mode, if v.mode == 2 then rb v.period else 0, 0] ++ inner) := by
  unfold GetPowerReadingReq.serializeTo
  by_cases h : (v.mode == 2) = true <;> enc_win [h] <;> rfl

/-- with the model's `rollingByteNs` for the untranslated helper (tied to the code by correspondence) this is the model -/
theorem GetPowerReadingReq_enc_eq (v : GetPowerReadingReq) (stale inner : Bytes) :
    GetPowerReadingReq.serializeTo rollingByteNs v stale inner = .ok (PowerReading.encode v.toModel ++ inner) := by
  rw [GetPowerReadingReq_enc_eq_any]; rfl

end Bmc.Proofs.GenEnc
