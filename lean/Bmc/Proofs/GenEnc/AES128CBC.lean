import Bmc.Lemmas.GenEncAes
/-! The external calls of `(*AES128CBC).SerializeTo` are PARAMETERS of the regenerated definition (`tools/encgen/ext.go`):
`a.cipher.BlockSize()` is the constant 16 (the unexported field is only ever set from `aes.NewCipher`; `aes.BlockSize` as
type-checked), `rand.Read(iv)` is `rand_Read : Option Bytes` (the bytes drawn, `none` = the read fails), and
`cipher.NewCBCEncrypter(a.cipher, iv).CryptBlocks(toEncrypt, toEncrypt)` is `cipher_encryptCBC iv plaintext`, applied IN PLACE to what
`toEncrypt = b.Bytes()[16:]` holds at the time of the call (`GoEnc.cryptBlocksInPlace`). `toEncrypt` aliases the buffer only
because no `PrependBytes` / `AppendBytes` lies between the statement that takes it and the call: with the slice taken before
the `PrependBytes` for the IV (defect F13) the translator gives up, `AES128CBC.serializeTo` does not exist and every
theorem of this module (and `translated_ok`) fails to build. -/
namespace Bmc.Proofs.GenEnc
open Bmc Bmc.Gen.Enc Bmc.Lemmas.GenEnc Bmc.Wire Bmc.Crypto

/-- for EVERY function standing for CBC encryption that, on this input, returns as many bytes as it is given (Go's
    `CryptBlocks` writes `len(src)` bytes), every IV draw of one block, every inner payload and EVERY `stale` content of the
    trailer and IV windows: the buffer afterwards holds the IV drawn followed by the encryption, under that IV, of the inner
    payload and the confidentiality trailer 01, 02, …, n, n with n = 15 - len(inner) mod 16 -/
theorem AES128CBC_enc_param (enc : Bytes → Bytes → Bytes) (iv : Bytes) (hiv : iv.length = 16) (v : Gen.Enc.AES128CBC)
    (stale inner : Bytes)
    (henc : (enc iv (inner ++ confPad (padLen inner.length))).length = (inner ++ confPad (padLen inner.length)).length) :
    AES128CBC.serializeTo (some iv) enc v stale inner = .ok (iv ++ enc iv (inner ++ confPad (padLen inner.length))) := by
  unfold AES128CBC.serializeTo
  simp only [padLen_int]
  obtain ⟨k, _, hlen⟩ := padded_len inner
  generalize padLen inner.length = P at hlen henc ⊢
  enc_win [← Int.natCast_add, ofInt_natCast, nat_natCast, Int.toNat_natCast, hiv, randRead_some]
  rw [show _ ++ [UInt8.ofNat P] = confPad P from rfl, crypt_ok _ iv _ hiv (by omega) henc]
  simp

/-- `AES128CBC.SerializeTo` as re-translated is the hand model `Wire.AESLayer.encode` (C03 `payload_decrypts`, `iv_is_own_draw`;
    C08 `aes_roundtrip`), for every key, every IV draw, every inner payload and EVERY `stale`: CBC encryption instantiated with
    the model's `cbcEnc` over a lawful block cipher — the same identification as `Proofs/GenDec/AES128CBC.lean`. -/
theorem AES128CBC_enc_eq (C : Ops) (hC : C.Lawful) (key iv : Bytes) (hiv : iv.length = 16) (v : Gen.Enc.AES128CBC)
    (stale inner : Bytes) :
    AES128CBC.serializeTo (some iv) (fun iv pt => cbcEnc C key (pt.length / 16) iv pt) v stale inner
      = .ok (Wire.AESLayer.encode C key iv inner) := by
  obtain ⟨k, _, hlen⟩ := padded_len inner
  have hpt : (inner ++ confPad (padLen inner.length)).length
      = 16 * ((inner ++ confPad (padLen inner.length)).length / 16) := by omega
  exact AES128CBC_enc_param _ iv hiv v stale inner (by rw [cbcEnc_len C hC key _ iv _ hiv hpt]; exact hpt.symm)

/-- when `rand.Read` fails the method returns its error (and nothing else: no panic, no over-read), whatever the cipher -/
theorem AES128CBC_enc_randErr (enc : Bytes → Bytes → Bytes) (v : Gen.Enc.AES128CBC) (stale inner : Bytes) :
    AES128CBC.serializeTo none enc v stale inner = .err := by
  unfold AES128CBC.serializeTo
  simp only [padLen_int]
  generalize padLen inner.length = P
  enc_win [← Int.natCast_add, ofInt_natCast, nat_natCast, Int.toNat_natCast]
  rfl

example : toy.Lawful := toy_lawful
/-- a run: key 00…0F, IV A0…AF, a 3-byte payload (pad 01 … 0C, 0C), both windows full of FFh from an earlier packet -/
example :
    let key : Bytes := (List.range 16).map UInt8.ofNat
    let iv : Bytes := (List.range 16).map (fun i => UInt8.ofNat (0xa0 + i))
    AES128CBC.serializeTo (some iv) (fun iv pt => cbcEnc toy key (pt.length / 16) iv pt) ⟨⟩ (List.replicate 40 0xff) [1, 2, 3]
      = .ok (Wire.AESLayer.encode toy key iv [1, 2, 3]) := by
  decide +kernel

end Bmc.Proofs.GenEnc
