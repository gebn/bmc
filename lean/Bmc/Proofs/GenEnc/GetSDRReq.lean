import Bmc.Lemmas.GenEnc
namespace Bmc.Proofs.GenEnc
open Bmc Bmc.Gen.Enc Bmc.Lemmas.GenEnc Bmc.Wire Bmc.Wire.Req

theorem GetSDRReq_enc_eq (v : GetSDRReq) (stale inner : Bytes) :
    GetSDRReq.serializeTo v stale inner
      = .ok (GetSDR.encode v.reservationID.toNat v.recordID.toNat v.offset v.length ++ inner) := by
  unfold GetSDRReq.serializeTo GetSDR.encode
  enc_win
  simp

end Bmc.Proofs.GenEnc
