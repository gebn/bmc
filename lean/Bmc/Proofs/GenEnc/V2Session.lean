import Bmc.Lemmas.GenEnc
namespace Bmc.Proofs.GenEnc
open Bmc Bmc.Gen.Enc Bmc.Lemmas.GenEnc Bmc.Wire Bmc.Wire.Req

/-- for EVERY integrity function `mac` (= `executeHash` applied to the layer's `IntegrityAlgorithm`, kept uninterpreted;
    `fun _ => []` for the nil hash of the null session); options as the library sets them -/
theorem V2Session_enc_eq (mac : Bytes → Bytes) (v : Gen.Enc.V2Session) (stale inner contents payload : Bytes) :
    (V2Session.serializeTo mac v GoEnc.libraryOptions stale inner).map (fun p => (p.1.toModel contents payload, p.2))
      = .ok (Wire.V2Session.encode mac (v.toModel contents payload) inner) := by
  unfold V2Session.serializeTo Wire.V2Session.encode V2Session.toModel GoEnc.libraryOptions
  cases ha : v.authenticated <;> by_cases ho : (v.payloadDescriptor.payloadType == 2) = true <;>
  · enc_win [ho, ha, pad_eq, pad_toNat, UInt16.toNat_ofNat', Nat.reducePow]
    -- the loop writing FFh into the integrity pad wrote the model's `replicate` (`List.map_const'`)
    cases v.encrypted <;> simp [List.map_const']

end Bmc.Proofs.GenEnc
