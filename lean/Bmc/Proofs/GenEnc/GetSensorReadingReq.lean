import Bmc.Lemmas.GenEnc
namespace Bmc.Proofs.GenEnc
open Bmc Bmc.Gen.Enc Bmc.Lemmas.GenEnc Bmc.Wire Bmc.Wire.Req

theorem GetSensorReadingReq_enc_eq (v : GetSensorReadingReq) (stale inner : Bytes) :
    GetSensorReadingReq.serializeTo v stale inner = .ok (SensorReading.encode v.number ++ inner) := by
  unfold GetSensorReadingReq.serializeTo SensorReading.encode
  enc_win
  rfl

end Bmc.Proofs.GenEnc
