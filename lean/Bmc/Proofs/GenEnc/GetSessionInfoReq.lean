import Bmc.Lemmas.GenEnc
namespace Bmc.Proofs.GenEnc
open Bmc Bmc.Gen.Enc Bmc.Lemmas.GenEnc Bmc.Wire Bmc.Wire.Req

theorem GetSessionInfoReq_enc_eq (v : GetSessionInfoReq) (stale inner : Bytes) :
    GetSessionInfoReq.serializeTo v stale inner = .ok (SessionInfo.encode v.toModel ++ inner) := by
  unfold GetSessionInfoReq.serializeTo SessionInfo.encode GetSessionInfoReq.toModel
  by_cases h : (v.index == 254) = true
  · enc_win [h]; simp
  · by_cases h2 : (v.index == 255) = true <;>
    · enc_win [h, h2]; simp

end Bmc.Proofs.GenEnc
