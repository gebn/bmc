import Bmc.Lemmas.GenEnc
namespace Bmc.Proofs.GenEnc
open Bmc Bmc.Gen.Enc Bmc.Lemmas.GenEnc Bmc.Wire Bmc.Wire.Req

/-- `hc`: what the Go type `[16]byte` of `AuthCode` guarantees; options as the library sets them (`FixLengths`) -/
theorem V1Session_enc_eq (v : Gen.Enc.V1Session) (hc : v.authCode.length = 16) (stale inner contents payload : Bytes) :
    (V1Session.serializeTo v GoEnc.libraryOptions stale inner).map (fun p => (p.1.toModel contents payload, p.2))
      = .ok (Wire.V1Session.encode (v.toModel contents payload) inner) := by
  unfold V1Session.serializeTo Wire.V1Session.encode V1Session.toModel GoEnc.libraryOptions
  by_cases h : (v.authType == 0) = true <;>
  · enc_win [bne, h, hc, copyInto_win (n := 16), Bool.not_true, Bool.not_false]
    simp

end Bmc.Proofs.GenEnc
