import Bmc.Lemmas.GenEnc
namespace Bmc.Proofs.GenEnc
open Bmc Bmc.Gen.Enc Bmc.Lemmas.GenEnc Bmc.Wire Bmc.Wire.Req

/-- 8 header bytes in front of what the buffer holds, the three algorithm payloads behind it -/
theorem OpenSessionReq_enc_eq_inner (v : OpenSessionReq) (stale inner : Bytes) :
    OpenSessionReq.serializeTo v stale inner
      = .ok ((OpenSession.encode v.toModel).take 8 ++ inner ++ (OpenSession.encode v.toModel).drop 8) := by
  unfold OpenSessionReq.serializeTo OpenSession.encode OpenSessionReq.toModel
  enc_win [auth_serialise, integ_serialise, conf_serialise]
  simp [algPayload, putLE32]

/-- the Open Session Request is the innermost layer: the buffer is empty when it serialises -/
theorem OpenSessionReq_enc_eq (v : OpenSessionReq) (stale : Bytes) :
    OpenSessionReq.serializeTo v stale [] = .ok (OpenSession.encode v.toModel) := by
  rw [OpenSessionReq_enc_eq_inner]; simp

end Bmc.Proofs.GenEnc
