import Bmc.Gen.Enc
/-! The inventory of `tools/encgen`: what it translated, that it gave up on nothing, what it left as parameters. -/
namespace Bmc.Proofs.GenEnc

/-- a layer named here that the translator does not manage is a broken obligation -/
theorem translated_ok : ∀ n ∈ [
    "dcmi.GetDCMICapabilitiesInfoReq", "dcmi.GetDCMISensorInfoReq", "dcmi.GetPowerReadingReq", "ipmi.AES128CBC", "ipmi.ChassisControlReq",
    "ipmi.CloseSessionReq", "ipmi.GetChannelAuthenticationCapabilitiesReq", "ipmi.GetChannelCipherSuitesReq",
    "ipmi.GetSDRReq", "ipmi.GetSensorReadingReq", "ipmi.GetSessionInfoReq", "ipmi.Message", "ipmi.OpenSessionReq",
    "ipmi.RAKPMessage1", "ipmi.RAKPMessage3", "ipmi.SetSessionPrivilegeLevelReq", "ipmi.V1Session", "ipmi.V2Session"],
    n ∈ Bmc.Gen.Enc.translated := by decide +kernel

/-- the translator gives up on no `SerializeTo` method of `pkg/ipmi` / `pkg/dcmi` -/
theorem gaveUp_empty : Bmc.Gen.Enc.gaveUp = [] := by decide

/-- the parameters of the regenerated definitions are exactly these: two helpers kept as uninterpreted functions, and the two
    external calls of `AES128CBC.SerializeTo` (the draw of the IV, CBC encryption) — one more would weaken a theorem silently
    only if its statement did not mention it; it does: the parameter is part of the definition's type -/
theorem uninterpreted_ok : Bmc.Gen.Enc.uninterpreted
    = ["dcmi.GetPowerReadingReq: dcmi_rollingAvgPeriodByte", "ipmi.AES128CBC: rand_Read", "ipmi.AES128CBC: cipher_encryptCBC",
       "ipmi.V2Session: ipmi_executeHash_integrityAlgorithm"] := rfl

end Bmc.Proofs.GenEnc
