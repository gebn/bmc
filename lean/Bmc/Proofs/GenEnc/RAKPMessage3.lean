import Bmc.Lemmas.GenEnc
namespace Bmc.Proofs.GenEnc
open Bmc Bmc.Gen.Enc Bmc.Lemmas.GenEnc Bmc.Wire Bmc.Wire.Req

/-- the AuthCode is written (and kept) only with `StatusCodeOK`; otherwise the method clears the field -/
theorem RAKPMessage3_enc_eq (v : RAKPMessage3) (stale inner : Bytes) :
    RAKPMessage3.serializeTo v stale inner
      = .ok (if v.status == 0 then v else { v with authCode := [] }, Rakp3.encode v.toModel ++ inner) := by
  unfold RAKPMessage3.serializeTo Rakp3.encode RAKPMessage3.toModel
  by_cases h : (v.status == 0) = true
  · simp only [h, ↓reduceIte, R.pure_eq, R.bind_ok, Nat.add_comm 8]
    enc_win
    simp
  · enc_win [h]
    simp

end Bmc.Proofs.GenEnc
