import Bmc.Lemmas.GenEnc
namespace Bmc.Proofs.GenEnc
open Bmc Bmc.Gen.Enc Bmc.Lemmas.GenEnc Bmc.Wire Bmc.Wire.Req

/-- `PrivilegeLevelCallback` is refused before anything is written -/
theorem SetSessionPrivilegeLevelReq_enc_eq (v : SetSessionPrivilegeLevelReq) (stale inner : Bytes) :
    SetSessionPrivilegeLevelReq.serializeTo v stale inner
      = R.ofExcept ((SetPriv.encode v.privilegeLevel).map (· ++ inner)) := by
  unfold SetSessionPrivilegeLevelReq.serializeTo SetPriv.encode
  by_cases h : (v.privilegeLevel == 1) = true
  · simp only [h]; rfl
  · enc_win [h]; rfl

end Bmc.Proofs.GenEnc
