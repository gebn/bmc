import Bmc.Lemmas.GenEnc
namespace Bmc.Proofs.GenEnc
open Bmc Bmc.Gen.Enc Bmc.Lemmas.GenEnc Bmc.Wire Bmc.Wire.Req

theorem GetDCMISensorInfoReq_enc_eq (v : GetDCMISensorInfoReq) (stale inner : Bytes) :
    GetDCMISensorInfoReq.serializeTo v stale inner = .ok (DcmiSensorInfo.encode v.toModel ++ inner) := by
  unfold GetDCMISensorInfoReq.serializeTo DcmiSensorInfo.encode GetDCMISensorInfoReq.toModel
  by_cases h : (v.instance_ == 0) = true <;> enc_win [h] <;> simp

end Bmc.Proofs.GenEnc
