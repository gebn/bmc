import Bmc.Lemmas.GenEnc
namespace Bmc.Proofs.GenEnc
open Bmc Bmc.Gen.Enc Bmc.Lemmas.GenEnc Bmc.Wire Bmc.Wire.Req

theorem CloseSessionReq_enc_eq (v : CloseSessionReq) (stale inner : Bytes) :
    CloseSessionReq.serializeTo v stale inner = .ok (CloseSession.encode v.id.toNat v.handle ++ inner) := by
  unfold CloseSessionReq.serializeTo CloseSession.encode
  by_cases h : (v.id == 0) = true
  · have h0 : v.id = 0 := by simpa using h
    enc_win [h]; simp [h0]
  · have h1 : ¬ v.id.toNat = 0 := by
      intro e; apply h; simp; exact UInt32.toNat_inj.mp e
    enc_win [h]; simp [h1]

end Bmc.Proofs.GenEnc
