import Bmc.Lemmas.GenEnc
namespace Bmc.Proofs.GenEnc
open Bmc Bmc.Gen.Enc Bmc.Lemmas.GenEnc Bmc.Wire Bmc.Wire.Req

theorem GetChannelAuthenticationCapabilitiesReq_enc_eq (v : GetChannelAuthenticationCapabilitiesReq) (stale inner : Bytes) :
    GetChannelAuthenticationCapabilitiesReq.serializeTo v stale inner = .ok (AuthCaps.encode v.toModel ++ inner) := by
  unfold GetChannelAuthenticationCapabilitiesReq.serializeTo AuthCaps.encode GetChannelAuthenticationCapabilitiesReq.toModel
  cases v.extendedData <;> enc_win <;> simp

end Bmc.Proofs.GenEnc
