import Bmc.Lemmas.GenEnc
namespace Bmc.Proofs.GenEnc
open Bmc Bmc.Gen.Enc Bmc.Lemmas.GenEnc Bmc.Wire Bmc.Wire.Req

theorem GetChannelCipherSuitesReq_enc_eq (v : GetChannelCipherSuitesReq) (stale inner : Bytes) :
    GetChannelCipherSuitesReq.serializeTo v stale inner = .ok (CipherSuites.encode v.toModel ++ inner) := by
  unfold GetChannelCipherSuitesReq.serializeTo CipherSuites.encode GetChannelCipherSuitesReq.toModel
  enc_win
  rfl

end Bmc.Proofs.GenEnc
