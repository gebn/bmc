import Bmc.Lemmas.GenEnc
namespace Bmc.Proofs.GenEnc
open Bmc Bmc.Gen.Enc Bmc.Lemmas.GenEnc Bmc.Wire Bmc.Wire.Req

/-- options as the library sets them (`ComputeChecksums`): header in front of the inner payload, checksum 2 behind it,
    both checksums stored into the layer -/
theorem Message_enc_eq (v : Gen.Enc.Message) (stale inner contents payload : Bytes) :
    (Message.serializeTo v GoEnc.libraryOptions stale inner).map (fun p => (p.1.toModel contents payload, p.2))
      = .ok (Wire.Message.encode (v.toModel contents payload) inner) := by
  unfold Message.serializeTo Message.serializeLength Wire.Message.encode Message.toModel GoEnc.libraryOptions
  by_cases hg : (v.operation.function == 44 || v.operation.function == 45) = true
  · by_cases hq : isRequest v.operation.function = true <;>
    · enc_win [checksum_eq, isRequest_eq, isGroup, hq, hg, Bool.not_true, Bool.not_false, nat_natCast]
      simp
  · by_cases hq : isRequest v.operation.function = true <;>
    by_cases ho : (v.operation.function == 46 || v.operation.function == 47) = true <;>
    · enc_win [checksum_eq, isRequest_eq, isGroup, isOEM, hq, hg, ho, Bool.not_true, Bool.not_false, nat_natCast, u32_b1, u32_b2]
      simp [u32_b0]

end Bmc.Proofs.GenEnc
