import Bmc.Proto.Timing
import Bmc.Gen.Facts
/-! # C13 — blocking calls never outlive their context (PARTIAL)

What is proved is about the time model under assumptions A1–A3 (see `Proto/Timing.lean`); socket deadlines, timers
and the scheduler themselves are outside Lean. The assumptions are tied to the source by regenerated syntactic facts
(below) and the property is exercised over real UDP sockets by the `time` scenario. -/
namespace Bmc.Proofs.C13
open Bmc.Proto.Timing

/-- a call made with an already expired context returns at once, with an error, after at most one attempt -/
theorem expired_context (T D : Nat) (att : Nat → Att) (f i now : Nat) (h : D ≤ now) :
    run T D att (f + 1) i now = some (now, false) := by
  simp [run, h]

/-- no call reports success without having received a final response in time -/
theorem no_false_success (T D : Nat) (att : Nat → Att) (f i now t : Nat) (h : run T D att f i now = some (t, true)) :
    ∃ j, i ≤ j ∧ (att j).final = true := by
  -- the five branches of `run`: out of fuel, context expired, a final answer in time, no room for the back-off, another attempt
  fun_induction run T D att f i now with
  | case1 | case2 | case4 => simp at h
  | case3 f i now _ a tEnd answered hfin => exact ⟨i, Nat.le_refl _, (Bool.and_eq_true_iff.mp hfin).2⟩
  | case5 f i now _ a tEnd answered _ _ ih =>
    obtain ⟨j, hj, hf⟩ := ih h
    exact ⟨j, by omega, hf⟩

/-- an attempt started before the deadline takes at least a tick (A3) and ends by the deadline (A1) -/
theorem attemptEnd_bounds {T D now : Nat} (hT : 1 ≤ T) (hd : ¬ D ≤ now) (dur : Nat) :
    now + 1 ≤ attemptEnd T D now dur ∧ attemptEnd T D now dur ≤ D := by
  unfold attemptEnd; omega

/-- one retry loop returns, at a time between `now` and `max now D` -/
theorem run_bounds (T D : Nat) (hT : 1 ≤ T) (att : Nat → Att) (f i now : Nat) (hf : D - now + 1 ≤ f) :
    ∃ t r, run T D att f i now = some (t, r) ∧ now ≤ t ∧ t ≤ max now D := by
  fun_induction run T D att f i now with
  | case1 => omega
  | case2 f i now hd => exact ⟨now, false, rfl, by omega, by omega⟩
  | case3 f i now hd a | case4 f i now hd a =>
    have := attemptEnd_bounds hT hd a.dur
    exact ⟨_, _, rfl, by omega, by omega⟩
  | case5 f i now hd a tEnd answered _ hgo ih =>
    have := attemptEnd_bounds hT hd a.dur
    simp at hgo
    obtain ⟨t, r, h1, h2, h3⟩ := ih (by omega)
    exact ⟨t, r, h1, by omega, by omega⟩

/-- for EVERY behaviour of the BMC (any stream of attempt durations, outcomes and back-off proposals), any
    per-attempt timeout T ≥ 1 and any deadline D: with D − now + 1 units of fuel the call returns, no later than
    max now D, and it reports success only if some attempt received a final response -/
theorem returns_by_deadline (T D : Nat) (hT : 1 ≤ T) (att : Nat → Att) (f i now : Nat) (hf : D - now + 1 ≤ f) :
    ∃ t r, run T D att f i now = some (t, r) ∧ t ≤ max now D ∧ (r = true → ∃ j, (att j).final = true) := by
  obtain ⟨t, r, h, _, ht⟩ := run_bounds T D hT att f i now hf
  refine ⟨t, r, h, ht, fun hr => ?_⟩
  obtain ⟨j, _, hj⟩ := no_false_success T D att f i now t (hr ▸ h)
  exact ⟨j, hj⟩

/-- MULTI-STEP CALLS (session handshake, session close, one SDR walk): any number of steps, each a retry loop under the
    caller's context with ANY behaviour of the BMC at ANY step: with D − now + 1 units of fuel per step the call
    returns, no later than max now D -/
theorem sequence_returns_by_deadline (T D : Nat) (hT : 1 ≤ T) (fuel : Nat) (steps : List (Nat → Att)) (now : Nat)
    (hf : D - now + 1 ≤ fuel) :
    ∃ t r, runSeq T D fuel steps now = some (t, r) ∧ now ≤ t ∧ t ≤ max now D := by
  induction steps generalizing now with
  | nil => exact ⟨now, true, rfl, by omega, by omega⟩
  | cons att rest ih =>
    obtain ⟨t, r, h1, h2, h3⟩ := run_bounds T D hT att fuel 0 now hf
    simp only [runSeq, h1]
    cases r with
    | false => exact ⟨t, false, rfl, h2, h3⟩
    | true =>
      obtain ⟨t', r', g1, g2, g3⟩ := ih t (by omega)
      exact ⟨t', r', g1, by omega, by omega⟩

/-- SDR REPOSITORY RETRIEVAL: the outer retry over whole walks, with any back-off proposals and any BMC behaviour in
    every walk (modifications, lost reservations, black holes …): returns no later than max now D -/
theorem retrieval_returns_by_deadline (T D : Nat) (hT : 1 ≤ T) (fuel : Nat) (walk : Nat → List (Nat → Att))
    (backoff : Nat → Nat) (f i now : Nat) (hfuel : D + 1 ≤ fuel) (hf : D - now + 1 ≤ f) :
    ∃ t r, runOuter T D fuel walk backoff f i now = some (t, r) ∧ t ≤ max now D := by
  induction f generalizing i now with
  | zero => omega
  | succ f ih =>
    unfold runOuter
    by_cases hd : D ≤ now
    · simp only [hd, if_true]; exact ⟨now, false, rfl, by omega⟩
    · simp only [hd, if_false]
      obtain ⟨t, r, h1, h2, h3⟩ := sequence_returns_by_deadline T D hT fuel (walk i) now (by omega)
      rw [h1]
      cases r with
      | true => exact ⟨t, true, rfl, h3⟩
      | false =>
        simp only []
        split
        · exact ⟨t, false, rfl, h3⟩
        · rename_i hgo
          simp at hgo
          obtain ⟨t', r', g1, g2⟩ := ih (i + 1) (max (t + backoff i) (now + 1)) (by omega)
          exact ⟨t', r', g1, by omega⟩

/-- … and an expired context ends every composite call at once -/
theorem expired_context_composite (T D fuel : Nat) (att : Nat → Att) (rest : List (Nat → Att)) (walk : Nat → List (Nat → Att))
    (backoff : Nat → Nat) (f i now : Nat) (h : D ≤ now) :
    runSeq T D (fuel + 1) (att :: rest) now = some (now, false) ∧
    runOuter T D fuel walk backoff (f + 1) i now = some (now, false) := by
  constructor
  · simp [runSeq, run, h]
  · simp [runOuter, h]

example : runSeq 3 20 30 [fun _ => ⟨1, true, 0⟩, fun i => ⟨1, i == 1, 2⟩, fun _ => ⟨9, false, 2⟩] 0 = some (20, false) := by decide

/-- TIE to the source (regenerated on every run): every per-attempt context is derived from the caller's context, every
    retry loop runs under `backoff.WithContext(_, ctx)`, and `transport.Send` sets both socket deadlines from its context.
    The counts are the sites of package bmc: 3 `context.WithTimeout` = one per send loop (`buildAndSendPayload`,
    `buildAndSendCommand`, `V2Session.buildAndSend`); 4 `backoff.Retry` = those three and the outer retry of
    `RetrieveSDRRepository`; 2 deadlines = `SetWriteDeadline` and `SetReadDeadline` in `transport.Send`. -/
theorem timing_facts :
    Bmc.Gen.Facts.bmc_withTimeoutCalls = 3 ∧ Bmc.Gen.Facts.bmc_withTimeoutFromCallerCtx = true ∧
    Bmc.Gen.Facts.bmc_retryCalls = 4 ∧ Bmc.Gen.Facts.bmc_retryAllWithContext = true ∧
    Bmc.Gen.Facts.transport_deadlinesFromCtx = 2 := by decide

/-- … and no call anywhere in the library hands a context to a callee other than the enclosing function's own context
    parameter or one derived from it in the same function by `context.WithTimeout / WithDeadline / WithCancel` (no
    `context.Background()`, no stored context): the deadline of the caller reaches every blocking step. -/
theorem context_pass_through : Bmc.Gen.Facts.contextArgsForeign = [] := rfl

example : run 3 10 (fun _ => ⟨5, false, 2⟩) 12 0 0 = some (10, false) := by decide
example : run 3 10 (fun i => ⟨1, i == 2, 1⟩) 12 0 0 = some (5, true) := by decide

end Bmc.Proofs.C13
