import Bmc.Lemmas.SessionProps
import Bmc.Lemmas.SessionlessSpec
import Bmc.Gen.Facts
/-! # C09 — session sequence numbers strictly increase and are never reused (property theorems only) -/
namespace Bmc.Proofs.C09
open Bmc Bmc.Wire Bmc.Crypto Bmc.Proto

/-- one command, any reply script of any length: the datagrams transmitted carry the sequence numbers
    counter+1, counter+2, … in transmission order, all addressed to the BMC's session ID, and the counter ends at
    the last number used — so the next command continues the run -/
theorem command_seqs (C : Ops) (c : Cmd) (hf : c.reqFails = false) (s : Sess) (hs : s.inbound < 4294967296)
    (hr : s.remoteID < 4294967296) (ivs : List Bytes) (script : List Outcome) (hl : script.length ≤ ivs.length) :
    (sendLoop C c s ivs script).2.1.map seqOf
      = (List.range (sendLoop C c s ivs script).2.1.length).map (fun i => (s.inbound + i + 1) % 4294967296) ∧
    (∀ p ∈ (sendLoop C c s ivs script).2.1, sessionIDOf p = s.remoteID) ∧
    (sendLoop C c s ivs script).1.inbound = (s.inbound + (sendLoop C c s ivs script).2.1.length) % 4294967296 ∧
    (sendLoop C c s ivs script).1.remoteID = s.remoteID := by
  obtain ⟨-, h2, h3, h4⟩ := sendLoop_spec C c hf s hs ivs script hl
  rw [h2]
  simp only [List.map_map, List.length_map, List.length_range]
  refine ⟨List.map_congr_left fun i _ => (nthDatagram_fields C s.keys c _ _ i hr).2, ?_, h4, congrArg Keys.remoteID h3⟩
  intro p hp
  obtain ⟨i, -, rfl⟩ := List.mem_map.mp hp
  exact (nthDatagram_fields C s.keys c _ _ i hr).1

/-- a command whose request cannot be serialised transmits nothing and consumes no number -/
theorem serialise_failure_consumes_nothing (C : Ops) (c : Cmd) (hf : c.reqFails = true) (s : Sess) (ivs : List Bytes)
    (script : List Outcome) :
    (sendLoop C c s ivs script).2.1 = [] ∧ (sendLoop C c s ivs script).1.inbound = s.inbound := by
  obtain ⟨h1, -, h3, -⟩ := sendLoop_unserialisable C c hf s ivs script
  exact ⟨h1, h3⟩

/-- a history: commands with their IV draws and reply scripts, run one after another on the session -/
def runHistory (C : Ops) : Sess → List (Cmd × List Bytes × List Outcome) → Sess × List Bytes
  | s, [] => (s, [])
  | s, (c, ivs, script) :: rest =>
    let r := sendLoop C c s ivs script
    let r' := runHistory C r.1 rest
    (r'.1, r.2.1 ++ r'.2)

/-- HISTORY FORM: across any sequence of commands, retransmissions, temporary codes, undecodable or forged replies,
    serialisation failures and transport failures on one session, the sequence numbers the BMC receives are
    counter+1, counter+2, … with no gap and no repeat (while fewer than 2^32 datagrams are sent), every one of them
    addressed to the BMC's session ID -/
theorem history_seqs (C : Ops) (s : Sess) (hs : s.inbound < 4294967296) (hr : s.remoteID < 4294967296)
    (h : List (Cmd × List Bytes × List Outcome)) (hl : ∀ e ∈ h, e.2.2.length ≤ e.2.1.length) :
    (runHistory C s h).2.map seqOf
      = (List.range (runHistory C s h).2.length).map (fun i => (s.inbound + i + 1) % 4294967296) ∧
    (∀ p ∈ (runHistory C s h).2, sessionIDOf p = s.remoteID) := by
  induction h generalizing s with
  | nil => exact ⟨rfl, nofun⟩
  | cons e rest ih =>
    obtain ⟨c, ivs, script⟩ := e
    obtain ⟨n, -, e1, hk, hi⟩ := sendLoop_sent C c s hs ivs script (hl _ (.head _))
    have hrem : (sendLoop C c s ivs script).1.remoteID = s.remoteID := congrArg Keys.remoteID hk
    obtain ⟨b1, b2⟩ := ih (sendLoop C c s ivs script).1 (hi ▸ Nat.mod_lt _ (by decide)) (hrem ▸ hr) fun e he => hl e (.tail _ he)
    rw [hi] at b1
    rw [hrem] at b2
    simp only [runHistory]
    constructor
    · -- the command's own `n` datagrams, then the rest of the history from a counter `n` further on
      rw [List.map_append, b1, e1, List.length_append, List.length_map, List.length_range, List.range_add, List.map_append,
        List.map_map, List.map_map]
      exact congr (congrArg _ (List.map_congr_left fun i _ => (nthDatagram_fields C s.keys c _ _ i hr).2))
        (List.map_congr_left fun i _ => by simp only [Function.comp]; omega)
    · intro p hp
      rcases List.mem_append.mp hp with hp | hp
      · rw [e1] at hp
        obtain ⟨i, -, rfl⟩ := List.mem_map.mp hp
        exact (nthDatagram_fields C s.keys c _ _ i hr).1
      · exact b2 p hp

/-- strictly increasing, hence never reused, as long as the 32-bit counter does not wrap -/
theorem history_strictly_increasing (C : Ops) (s : Sess) (hr : s.remoteID < 4294967296)
    (h : List (Cmd × List Bytes × List Outcome)) (hl : ∀ e ∈ h, e.2.2.length ≤ e.2.1.length)
    (hw : s.inbound + (runHistory C s h).2.length < 4294967296) (i j : Nat) (hij : i < j)
    (hj : j < (runHistory C s h).2.length) :
    ((runHistory C s h).2.map seqOf).getD i 0 < ((runHistory C s h).2.map seqOf).getD j 0 := by
  rw [(history_seqs C s (by omega) hr h hl).1, getD_map_range _ (by omega), getD_map_range _ hj]
  omega

/-- ACROSS THE 32-BIT WRAP "strictly increasing" cannot hold for any implementation; what does hold, for every starting
    value of the counter (also 0xFFFFFFFF) and every history of fewer than 2^32 transmissions, is that NO NUMBER IS USED
    FOR TWO DATAGRAMS: the counter simply continues modulo 2^32 (… 0xFFFFFFFF, 0, 1, …). -/
theorem history_no_reuse (C : Ops) (s : Sess) (hs : s.inbound < 4294967296) (hr : s.remoteID < 4294967296)
    (h : List (Cmd × List Bytes × List Outcome)) (hl : ∀ e ∈ h, e.2.2.length ≤ e.2.1.length)
    (hn : (runHistory C s h).2.length ≤ 4294967296) (i j : Nat) (hij : i < j)
    (hj : j < (runHistory C s h).2.length) :
    ((runHistory C s h).2.map seqOf).getD i 0 ≠ ((runHistory C s h).2.map seqOf).getD j 0 := by
  rw [(history_seqs C s hs hr h hl).1, getD_map_range _ (by omega), getD_map_range _ hj]
  omega

/-- outside a session every datagram carries session ID 0 and sequence number 0, for every command and request body -/
theorem sessionless_null (c : Cmd) : sessionIDOf (slSerialize c).2 = 0 ∧ seqOf (slSerialize c).2 = 0 :=
  wrapper_fields _ rfl (fun _ => []) { payloadType := 0 } _ (by decide) (by decide) (by decide)

/-- … and that is the only datagram a session-less command ever transmits, whatever the BMC answers -/
theorem sessionless_all_null (c : Cmd) (script : List Outcome) :
    ∀ p ∈ (slSend c script).1, sessionIDOf p = 0 ∧ seqOf p = 0 := by
  intro p hp
  unfold slSend at hp
  split at hp
  · simp at hp
  · simp only [] at hp
    rw [(Bmc.Proto.slLoop_spec c _ _ script).2] at hp
    have := List.eq_of_mem_replicate hp
    rw [this]; exact sessionless_null c

/-- TIE to the source (regenerated on every run): the only function of the module that assigns to a session sequence
    counter (`…Inbound` / `…Outbound`) is `V2Session.buildAndSend` — the pre-increment the model's `attempt` mirrors.
    Another writer (a "restore", an "accept", a reset) changes this list. -/
theorem sequence_counter_writers : Bmc.Gen.Facts.seqCounterWriters = ["bmc.buildAndSend"] := rfl

end Bmc.Proofs.C09
