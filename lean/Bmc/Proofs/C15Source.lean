import Bmc.Gen.Facts
import Bmc.Proto.Sensor
/-! # C15: the sensor reader's source, as it stands on this run, is what `Proto/Sensor.lean` transcribes (regenerated facts)

The reader (`sensor_reader.go`) goes through interfaces and function values, outside the language of the statement-level
translators; its hand model is tied to the code by the `conv` correspondence (every reading of the run, bit for bit on the linear part
and four linearisations). In addition `tools/factgen` records, on every run, (a) WHICH function each of the two lookup tables holds
for which key and (b) the bodies of the five reader functions, the two table look-ups and the two adapter methods, as normalised
source text; the obligations below pin them to what the model was written from. A change to any of them — another function in a
table slot, a swapped or removed status check, a different fall-through — breaks an obligation at build time. -/
namespace Bmc.Proofs.C15
open Bmc Bmc.Proto.Sensor

/-- `linearisationLinearisers`: key ↦ function, as in the source on this run; the model's `lineariserTable` names them
    mathLog, mathLog10, mathLog2, mathExp, powTenF, mathExp2, powFNeg1, powF2, powF3, mathSqrt, powFThird (in the source
    `math.Cbrt`, not the `math.Pow(f, 1./3)` of the model's name) in this order -/
theorem lineariser_table_source : Bmc.Gen.Facts.linearisationLinearisersSrc = [
  ("LinearisationLn", "LineariserFunc(math.Log)"),
  ("LinearisationLog10", "LineariserFunc(math.Log10)"),
  ("LinearisationLog2", "LineariserFunc(math.Log2)"),
  ("LinearisationE", "LineariserFunc(math.Exp)"),
  ("LinearisationExp10", "LineariserFunc(func(f float64) float64 { return math.Pow(10, f) })"),
  ("LinearisationExp2", "LineariserFunc(math.Exp2)"),
  ("LinearisationInverse", "LineariserFunc(func(f float64) float64 { return math.Pow(f, -1) })"),
  ("LinearisationSqr", "LineariserFunc(func(f float64) float64 { return math.Pow(f, 2) })"),
  ("LinearisationCube", "LineariserFunc(func(f float64) float64 { return math.Pow(f, 3) })"),
  ("LinearisationSqrt", "LineariserFunc(math.Sqrt)"),
  ("LinearisationCubeRt", "LineariserFunc(math.Cbrt)")] := rfl

/-- `analogDataFormatParsers`: key ↦ parser function (the three parsers are regenerated scalar functions of `Gen/Prims.lean`) -/
theorem parser_table_source : Bmc.Gen.Facts.analogDataFormatParsersSrc = [
  ("AnalogDataFormatUnsigned", "AnalogDataFormatParserFunc(parseAnalogDataFormatUnsigned)"),
  ("AnalogDataFormatOnesComplement", "AnalogDataFormatParserFunc(parseAnalogDataFormatOnesComplement)"),
  ("AnalogDataFormatTwosComplement", "AnalogDataFormatParserFunc(parseAnalogDataFormatTwosComplement)")] := rfl

/-- the bodies of `NewSensorReader`, `newLinearSensorReader`, `linearSensorReader.Read`, `newLinearisedSensorReader`,
    `linearisedSensorReader.Read`, the two table look-ups and the two adapter methods -/
theorem sensor_reader_source : Bmc.Gen.Facts.sensorReaderBodies = [
  ("bmc.NewSensorReader", "{ switch { case r.Linearisation.IsLinear(): return newLinearSensorReader(r) case r.Linearisation.IsLinearised(): return newLinearisedSensorReader(r) default: return nil, fmt.Errorf(\"unsupported sensor linearisation: %v\", r.Linearisation) } }"),
  ("bmc.linearSensorReader.Read", "{ if err := ValidateResponse(s.SendCommand(ctx, &r.readingCmd)); err != nil { return 0, err } if r.readingCmd.Rsp.ReadingUnavailable { return 0, ErrSensorReadingUnavailable } if !r.readingCmd.Rsp.ScanningEnabled { return 0, ErrSensorScanningDisabled } parsed := r.parser.Parse(r.readingCmd.Rsp.Reading) return r.factors.ConvertReading(parsed), nil }"),
  ("bmc.linearisedSensorReader.Read", "{ reading, err := r.linearReader.Read(ctx, s) if err != nil { return 0, err } return r.lineariser.Linearise(reading), nil }"),
  ("bmc.newLinearSensorReader", "{ parser, err := r.AnalogDataFormat.Parser() if err != nil { return nil, err } return &linearSensorReader{ readingCmd: ipmi.GetSensorReadingCmd{ Req: ipmi.GetSensorReadingReq{ Number: r.Number, }, OwnerLUN: r.OwnerLUN, }, factors: r.ConversionFactors, parser: parser, }, nil }"),
  ("bmc.newLinearisedSensorReader", "{ reader, err := newLinearSensorReader(r) if err != nil { return nil, err } lineariser, err := r.Linearisation.Lineariser() if err != nil { return nil, err } return &linearisedSensorReader{ linearReader: reader, lineariser: lineariser, }, nil }"),
  ("ipmi.AnalogDataFormat.Parser", "{ if parser, ok := analogDataFormatParsers[f]; ok { return parser, nil } return nil, fmt.Errorf(\"no analog data format parser found for %v\", f) }"),
  ("ipmi.AnalogDataFormatParserFunc.Parse", "{ return f(r) }"),
  ("ipmi.Linearisation.Lineariser", "{ if lineariser, ok := linearisationLinearisers[l]; ok { return lineariser, nil } return nil, ErrNotLinearised }"),
  ("ipmi.LineariserFunc.Linearise", "{ return l(f) }")] := rfl

/-- the model's table has the same keys in the same order as the source's (11 entries, codes 1 … 11) -/
theorem lineariser_table_keys : lineariserTable.map (·.1) = [1, 2, 3, 4, 5, 6, 7, 8, 9, 10, 11] ∧
    Bmc.Gen.Facts.linearisationLinearisersSrc.length = 11 := by decide

end Bmc.Proofs.C15
