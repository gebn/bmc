import Bmc.Lemmas.GenDecAes
/-! The obligation (`Proofs/GenDec.lean`) for `(*ipmi.AES128CBC).DecodeFromBytes`. -/
namespace Bmc.Proofs.GenDec
open Bmc Bmc.Gen.Dec Bmc.Lemmas.GenDec Bmc.Crypto

/-- `AES128CBC.DecodeFromBytes` as re-translated is the hand model `Wire.AESLayer.decodeGo` (with the pad-start guard of the
    current tree). The external calls are PARAMETERS of the regenerated definition: `a.cipher.BlockSize()` is the constant 16
    (the field is only ever set from `aes.NewCipher`; `aes.BlockSize` as type-checked), and
    `cipher.NewCBCDecrypter(a.cipher, iv).CryptBlocks(data[16:], data[16:])` is `cipher_decryptCBC iv ciphertext`, here
    instantiated with the model's CBC decryption over a lawful block cipher (16-byte blocks); the in-place decryption is the
    slice `data` re-read afterwards (`GoDec.cryptBlocksInPlace`). -/
theorem AES128CBC_gen_eq (C : Ops) (hC : C.Lawful) (key : Bytes) (prev : AES128CBC) (d : GoSlice) :
    (AES128CBC.decodeGo (fun iv ct => cbcDec C key (ct.length / 16) iv ct) prev d).map AES128CBC.toModel
      = Wire.AESLayer.decodeGo C key true (AES128CBC.toModel prev) d := by
  rw [Wire.AESLayer.decodeGo_refines C hC]
  exact AES128CBC_pure C hC key prev d

end Bmc.Proofs.GenDec
