import Bmc.Lemmas.GenDecSuites
/-! The obligation (`Proofs/GenDec.lean`) for `parseCipherSuiteRecordData` (cipher_suites.go), which is not a layer method. -/
namespace Bmc.Proofs.GenDec
open Bmc Bmc.Gen.Dec Bmc.Lemmas.GenDec

/-- `parseCipherSuiteRecordData` (cipher_suites.go) as re-translated — the outer `for len(joined) > 0` loop and the two
    scanning loops run with FUEL `len(joined) + 1` (`GoDec.loopM`), the nested `range` product as folds — is the model
    `Proto.Enum.parseRecords` of C16 / C12 on the bytes the slice denotes, for EVERY Go slice (whatever lies behind its
    length); in particular the regenerated definition never runs out of fuel (`RF.lift` has no `outOfFuel`). -/
theorem parseCipherSuiteRecordData_gen_eq (d : GoSlice) :
    (bmc_parseCipherSuiteRecordData d).map (List.map CipherSuiteRecord.toEntry)
      = RF.lift (Proto.Enum.parseRecords d.vis) := parse_lift d

/-- the fuel the translator chose always suffices -/
theorem parseCipherSuiteRecordData_fuel (d : GoSlice) : bmc_parseCipherSuiteRecordData d ≠ RF.outOfFuel := by
  intro h
  have := parseCipherSuiteRecordData_gen_eq d
  rw [h] at this
  cases hp : Proto.Enum.parseRecords d.vis <;> rw [hp] at this <;> cases this

end Bmc.Proofs.GenDec
