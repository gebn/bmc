import Bmc.Lemmas.GenDec
/-! The obligation (`Proofs/GenDec.lean`) for `(*ipmi.GetSessionInfoRsp).DecodeFromBytes`. -/
namespace Bmc.Proofs.GenDec
open Bmc Bmc.Gen.Dec Bmc.Lemmas.GenDec

theorem GetSessionInfoRsp_gen_eq (prev : GetSessionInfoRsp) (d : GoSlice) :
    (GetSessionInfoRsp.decodeGo prev d).map GetSessionInfoRsp.toModel
      = Wire.SessionInfoRsp.decodeGo (GetSessionInfoRsp.toModel prev) d := by
  unfold GetSessionInfoRsp.decodeGo Wire.SessionInfoRsp.decodeGo
  refine R.map_guard fun h3 => ?_
  have hn : 3 ≤ d.len := Nat.le_of_not_lt h3
  go_reads hn []
  refine R.map_ite_congr (fun _ => rfl) fun _ => R.map_guard fun h6 => ?_
  have hn : 6 ≤ d.len := Nat.le_of_not_lt h6
  go_reads hn []
  refine R.map_ite_congr (fun _ => rfl) fun h18 => ?_
  have hn : 18 ≤ d.len := Nat.le_of_not_lt h18
  go_reads hn [R.map, GetSessionInfoRsp.toModel, le16_toNat, copyArr_window hn, copyAt_v4, GoSlice.window_length hn,
    Nat.reduceAdd, Nat.reduceSub]

end Bmc.Proofs.GenDec
