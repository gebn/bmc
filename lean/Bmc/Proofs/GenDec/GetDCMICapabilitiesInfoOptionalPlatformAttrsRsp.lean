import Bmc.Lemmas.GenDec
/-! The obligation (`Proofs/GenDec.lean`) for `(*dcmi.GetDCMICapabilitiesInfoOptionalPlatformAttrsRsp).DecodeFromBytes`. -/
namespace Bmc.Proofs.GenDec
open Bmc Bmc.Gen.Dec Bmc.Lemmas.GenDec

theorem GetDCMICapabilitiesInfoOptionalPlatformAttrsRsp_gen_eq (prev : GetDCMICapabilitiesInfoOptionalPlatformAttrsRsp) (d : GoSlice) :
    (GetDCMICapabilitiesInfoOptionalPlatformAttrsRsp.decodeGo prev d).map GetDCMICapabilitiesInfoOptionalPlatformAttrsRsp.toModel
      = Wire.DcmiCap3.decodeGo (GetDCMICapabilitiesInfoOptionalPlatformAttrsRsp.toModel prev) d := by
  unfold GetDCMICapabilitiesInfoOptionalPlatformAttrsRsp.decodeGo Wire.DcmiCap3.decodeGo
  refine dcmi_header _ d fun h3 => R.map_guard fun hb => ?_
  have hn : 2 ≤ (d.sub 3 d.len h3 (Nat.le_refl _)).len := Nat.le_of_not_lt hb
  go_reads hn [nat_len_sub, R.map_bind, R.map_ok, GetDCMICapabilitiesInfoOptionalPlatformAttrsRsp.toModel,
    getDCMICapabilitiesInfoRspHeader.toModel, Wire.DcmiHeader.ofBytes]

end Bmc.Proofs.GenDec
