import Bmc.Lemmas.GenDec
/-! The obligation (`Proofs/GenDec.lean`) for `(*dcmi.GetDCMICapabilitiesInfoMandatoryPlatformAttrsRsp).DecodeFromBytes`. -/
namespace Bmc.Proofs.GenDec
open Bmc Bmc.Gen.Dec Bmc.Lemmas.GenDec

theorem GetDCMICapabilitiesInfoMandatoryPlatformAttrsRsp_gen_eq (prev : GetDCMICapabilitiesInfoMandatoryPlatformAttrsRsp) (d : GoSlice) :
    (GetDCMICapabilitiesInfoMandatoryPlatformAttrsRsp.decodeGo prev d).map GetDCMICapabilitiesInfoMandatoryPlatformAttrsRsp.toModel
      = Wire.DcmiCap2.decodeGo (GetDCMICapabilitiesInfoMandatoryPlatformAttrsRsp.toModel prev) d := by
  unfold GetDCMICapabilitiesInfoMandatoryPlatformAttrsRsp.decodeGo Wire.DcmiCap2.decodeGo
  refine dcmi_header _ d fun h3 => R.map_guard fun hb => ?_
  have hn : 4 ≤ (d.sub 3 d.len h3 (Nat.le_refl _)).len := Nat.le_of_not_lt hb
  by_cases hv : (d.len - 3 == 4 || (List.getD d.vis 0 0 == 1 && List.getD d.vis 1 0 == 0)) = true
  case' neg =>
    have hn : 5 ≤ (d.sub 3 d.len h3 (Nat.le_refl _)).len := by
      have : d.len - 3 ≠ 4 := fun e => hv (by simp [e])
      have : 4 ≤ d.len - 3 := hn
      show 5 ≤ d.len - 3
      omega
  all_goals
    go_reads hn [hv, Bool.false_eq_true, nat_len_sub, R.map_bind, R.map_ok, Wire.DcmiCap2.build, Wire.DcmiHeader.isV10,
      Wire.DcmiHeader.ofBytes, GetDCMICapabilitiesInfoMandatoryPlatformAttrsRsp.toModel, getDCMICapabilitiesInfoRspHeader.toModel,
      le16_toNat, le16_pair, Int.toNat_natCast]

end Bmc.Proofs.GenDec
