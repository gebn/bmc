import Bmc.Lemmas.GenDec
/-! The obligation (`Proofs/GenDec.lean`) for `(*dcmi.GetDCMICapabilitiesInfoEnhancedSystemPowerStatisticsAttrsRsp).DecodeFromBytes`. -/
namespace Bmc.Proofs.GenDec
open Bmc Bmc.Gen.Dec Bmc.Lemmas.GenDec

theorem GetDCMICapabilitiesInfoEnhancedSystemPowerStatisticsAttrsRsp_gen_eq (prev : Cap5) (d : GoSlice) :
    (GetDCMICapabilitiesInfoEnhancedSystemPowerStatisticsAttrsRsp.decodeGo prev d).map
        GetDCMICapabilitiesInfoEnhancedSystemPowerStatisticsAttrsRsp.toModel
      = Wire.DcmiCap5.decodeGo (GetDCMICapabilitiesInfoEnhancedSystemPowerStatisticsAttrsRsp.toModel prev) d := by
  unfold GetDCMICapabilitiesInfoEnhancedSystemPowerStatisticsAttrsRsp.decodeGo Wire.DcmiCap5.decodeGo
  refine dcmi_header _ d fun h3 => R.map_guard fun hb => ?_
  have hn : 1 ≤ (d.sub 3 d.len h3 (Nat.le_refl _)).len := Nat.le_of_not_lt hb
  go_reads hn []
  generalize ((List.take (d.len - 3) (List.drop 3 d.vis)).getD 0 0).toNat = n
  refine R.map_guard fun hg => ?_
  have hbl : 1 + n ≤ (d.sub 3 d.len h3 (Nat.le_refl _)).len := Nat.le_of_not_lt hg
  have hle : d.len - (d.len - 3) + 1 + n ≤ d.len := by simp only [GoSlice.sub_len] at hbl; omega
  have e7 : GoDec.nat (((d.len : Nat) : Int) - ((d.len - 3 : Nat) : Int) + ((1 : Nat) : Int) + ((n : Nat) : Int))
      = .ok (d.len - (d.len - 3) + 1 + n) := by rw [GoDec.nat_ok _ (by omega)]; congr 1; omega
  rw [cap5_loop _ n hbl n (Nat.le_refl _) _ (List.length_replicate ..),
    Wire.idxs_ok _ _ (by simp only [List.mem_map, List.mem_range]; rintro _ ⟨i, hi, rfl⟩; omega), e7,
    GoSlice.sliceFrom_ok _ _ hbl]
  simp only [R.bind_ok, GoSlice.slice_ok d 0 _ (Nat.zero_le _) hle, R.map_ok,
    GetDCMICapabilitiesInfoEnhancedSystemPowerStatisticsAttrsRsp.toModel, getDCMICapabilitiesInfoRspHeader.toModel,
    Wire.DcmiHeader.ofBytes, List.drop_replicate, Nat.sub_self, List.replicate_zero, List.append_nil, List.map_map,
    Function.comp_def, rolling_eq]

end Bmc.Proofs.GenDec
