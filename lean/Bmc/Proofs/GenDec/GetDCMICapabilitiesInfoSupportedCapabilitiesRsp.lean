import Bmc.Lemmas.GenDec
/-! The obligation (`Proofs/GenDec.lean`) for `(*dcmi.GetDCMICapabilitiesInfoSupportedCapabilitiesRsp).DecodeFromBytes`. -/
namespace Bmc.Proofs.GenDec
open Bmc Bmc.Gen.Dec Bmc.Lemmas.GenDec

theorem GetDCMICapabilitiesInfoSupportedCapabilitiesRsp_gen_eq (prev : GetDCMICapabilitiesInfoSupportedCapabilitiesRsp) (d : GoSlice) :
    (GetDCMICapabilitiesInfoSupportedCapabilitiesRsp.decodeGo prev d).map GetDCMICapabilitiesInfoSupportedCapabilitiesRsp.toModel
      = Wire.DcmiCap1.decodeGo (GetDCMICapabilitiesInfoSupportedCapabilitiesRsp.toModel prev) d := by
  unfold GetDCMICapabilitiesInfoSupportedCapabilitiesRsp.decodeGo Wire.DcmiCap1.decodeGo
  refine dcmi_header _ d fun h3 => R.map_guard fun hb => ?_
  have hn : 3 ≤ (d.sub 3 d.len h3 (Nat.le_refl _)).len := Nat.le_of_not_lt hb
  by_cases hv : (List.getD d.vis 0 0 == 1 && List.getD d.vis 1 0 == 0) = true <;>
    go_reads hn [hv, nat_len_sub, R.map_bind, R.map_ok, Wire.DcmiCap1.build, Wire.DcmiHeader.isV10, Wire.DcmiHeader.ofBytes,
      Bool.false_eq_true, GetDCMICapabilitiesInfoSupportedCapabilitiesRsp.toModel, getDCMICapabilitiesInfoRspHeader.toModel]

end Bmc.Proofs.GenDec
