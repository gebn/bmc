import Bmc.Lemmas.GenDec
/-! The obligation (`Proofs/GenDec.lean`) for `(*ipmi.GetChannelAuthenticationCapabilitiesRsp).DecodeFromBytes`. -/
namespace Bmc.Proofs.GenDec
open Bmc Bmc.Gen.Dec Bmc.Lemmas.GenDec

theorem GetChannelAuthenticationCapabilitiesRsp_gen_eq (prev : GetChannelAuthenticationCapabilitiesRsp) (d : GoSlice) :
    (GetChannelAuthenticationCapabilitiesRsp.decodeGo prev d).map GetChannelAuthenticationCapabilitiesRsp.toModel
      = Wire.AuthCapsRsp.decodeGo (GetChannelAuthenticationCapabilitiesRsp.toModel prev) d := by
  unfold GetChannelAuthenticationCapabilitiesRsp.decodeGo Wire.AuthCapsRsp.decodeGo
  refine R.map_guard fun h => ?_
  have hn : 8 ≤ d.len := Nat.le_of_not_lt h
  go_reads hn [R.map_ok, GetChannelAuthenticationCapabilitiesRsp.toModel, pack_b7, pack_3f, pack_03, or_shl24]

end Bmc.Proofs.GenDec
