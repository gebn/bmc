import Bmc.Lemmas.GenDec
/-! The obligation (`Proofs/GenDec.lean`) for `(*ipmi.OpenSessionRsp).DecodeFromBytes`. -/
namespace Bmc.Proofs.GenDec
open Bmc Bmc.Gen.Dec Bmc.Lemmas.GenDec

theorem OpenSessionRsp_gen_eq (prev : OpenSessionRsp) (d : GoSlice) :
    (OpenSessionRsp.decodeGo prev d).map OpenSessionRsp.toModel
      = Wire.Setup.OpenSessionRsp.decodeGo (OpenSessionRsp.toModel prev) d := by
  unfold OpenSessionRsp.decodeGo
  rw [R.map_bind]
  refine (bind_congr (g := fun r => Wire.Setup.OpenSessionRsp.tailGo r.toModel d) fun r => ?_).trans ?_
  · -- the second `if` statement, on any receiver `r`
    unfold Wire.Setup.OpenSessionRsp.tailGo
    by_cases hs : (r.status == 0) = true
    · have hs' : (r.toModel.status == 0) = true := hs
      rw [if_pos hs, if_pos hs']
      refine R.map_guard fun h36 => ?_
      have hn : 36 ≤ d.len := by simp at h36; omega
      go_reads hn [← auth_deserialise r.authenticationPayload, ← integ_deserialise r.integrityPayload,
        ← conf_deserialise r.confidentialityPayload]
      refine R.map_bind_map fun a => R.map_bind_map fun i => R.map_bind_map fun k => ?_
      simp only [R.map, OpenSessionRsp.toModel, le32_toNat]
    · have hs' : ¬ (r.toModel.status == 0) = true := hs
      rw [if_neg hs, if_neg hs']; rfl
  · unfold Wire.Setup.OpenSessionRsp.decodeGo
    by_cases h1 : (d.len == 1) = true
    · have hn : 1 ≤ d.len := by simp at h1; omega
      rw [if_pos h1, if_pos h1]
      go_reads hn []
      rfl
    · rw [if_neg h1, if_neg h1]
      refine R.bind_guard fun h7 => ?_
      have hn : 7 ≤ d.len := Nat.le_of_not_lt h7
      go_reads hn [OpenSessionRsp.toModel, le32_toNat]

end Bmc.Proofs.GenDec
