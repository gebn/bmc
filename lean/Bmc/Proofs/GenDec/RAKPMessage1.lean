import Bmc.Lemmas.GenDec
import Bmc.Lemmas.SetupRakp1Refine
/-! The obligation (`Proofs/GenDec.lean`) for `(*ipmi.RAKPMessage1).DecodeFromBytes`. -/
namespace Bmc.Proofs.GenDec
open Bmc Bmc.Gen.Dec Bmc.Lemmas.GenDec

theorem RAKPMessage1_gen_eq (prev : RAKPMessage1) (d : GoSlice) :
    (RAKPMessage1.decodeGo prev d).map RAKPMessage1.toModel = Wire.Setup.RAKP1.decodeGo (RAKPMessage1.toModel prev) d := by
  unfold RAKPMessage1.decodeGo Wire.Setup.RAKP1.decodeGo
  refine R.map_guard fun h => ?_
  have hn : 28 ≤ d.len := Nat.le_of_not_lt h
  go_reads hn [Nat.reduceSub, Nat.reduceAdd, copyArr_window hn]
  refine R.map_guard fun h16 => R.map_guard fun hl => ?_
  -- `28 + lenUsername` is computed in `uint8`; with `lenUsername ≤ 16` it does not wrap
  have h28 : 28 ≤ (28 + List.getD d.vis 27 0).toNat := by
    rw [Wire.Setup.u8_add28 _ fun h => h16 ((Wire.Setup.u8_gt16 _).2 h)]; exact Nat.le_add_right ..
  simp only [GoSlice.slice_ok d 28 _ h28 (Nat.le_of_not_lt hl), R.bind_ok, R.map_ok, GoSlice.sub_vis, RAKPMessage1.toModel, le32_toNat]

end Bmc.Proofs.GenDec
