import Bmc.Lemmas.GenDec
/-! Which decoders have an obligation under `Proofs/GenDec/` (`Proofs/GenDec.lean` says what the obligations are). -/
namespace Bmc.Proofs.GenDec
open Bmc Bmc.Gen.Dec Bmc.Lemmas.GenDec

/-- every decoder with an obligation is one the translator still manages (`Gen.Dec.translated` is emitted with the code): a
    layer it gives up on breaks this -/
theorem translated_ok : ∀ n ∈ [
    "ipmi.ReserveSDRRepositoryRsp", "ipmi.GetSystemGUIDRsp", "ipmi.SetSessionPrivilegeLevelRsp", "ipmi.GetSDRRsp",
    "ipmi.SDR", "ipmi.GetSensorReadingRsp", "ipmi.GetChannelCipherSuitesRsp",
    "ipmi.GetChannelAuthenticationCapabilitiesRsp", "ipmi.GetSDRRepositoryInfoRsp", "dcmi.GetPowerReadingRsp",
    "ipmi.GetChassisStatusRsp", "ipmi.GetDeviceIDRsp", "ipmi.RAKPMessage4", "ipmi.RAKPMessage2", "ipmi.RAKPMessage1",
    "ipmi.V1Session", "ipmi.GetSessionInfoRsp", "ipmi.SessionSelector", "ipmi.OpenSessionRsp",
    "dcmi.GetDCMICapabilitiesInfoManageabilityAccessAttrsRsp", "dcmi.GetDCMICapabilitiesInfoOptionalPlatformAttrsRsp",
    "dcmi.GetDCMICapabilitiesInfoSupportedCapabilitiesRsp", "dcmi.GetDCMICapabilitiesInfoMandatoryPlatformAttrsRsp",
    "ipmi.Message", "dcmi.GetDCMICapabilitiesInfoEnhancedSystemPowerStatisticsAttrsRsp", "dcmi.GetDCMISensorInfoRsp",
    "ipmi.FullSensorRecord", "ipmi.V2Session", "ipmi.AES128CBC", "bmc.parseCipherSuiteRecordData"],
    n ∈ Bmc.Gen.Dec.translated := by decide +kernel

end Bmc.Proofs.GenDec
