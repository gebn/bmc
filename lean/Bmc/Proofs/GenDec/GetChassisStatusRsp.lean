import Bmc.Lemmas.GenDec
/-! The obligation (`Proofs/GenDec.lean`) for `(*ipmi.GetChassisStatusRsp).DecodeFromBytes`. -/
namespace Bmc.Proofs.GenDec
open Bmc Bmc.Gen.Dec Bmc.Lemmas.GenDec

theorem GetChassisStatusRsp_gen_eq (prev : GetChassisStatusRsp) (d : GoSlice) :
    (GetChassisStatusRsp.decodeGo prev d).map GetChassisStatusRsp.toModel
      = Wire.GetChassisStatusRsp.decodeGo true (GetChassisStatusRsp.toModel prev) d := by
  unfold GetChassisStatusRsp.decodeGo Wire.GetChassisStatusRsp.decodeGo
  refine R.map_guard fun h => ?_
  by_cases h3 : d.len > 3
  case' pos => have hn : 4 ≤ d.len := h3
  case' neg => have hn : 3 ≤ d.len := Nat.le_of_not_lt h
  all_goals
    go_reads hn [h3, R.ite_bind]
    split <;> simp only [R.map, GetChassisStatusRsp.toModel, pack_1f, pack_0f, pack_ff, pack_00]

end Bmc.Proofs.GenDec
