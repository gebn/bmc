import Bmc.Lemmas.GenDec
/-! The obligation (`Proofs/GenDec.lean`) for `(*ipmi.SessionSelector).DecodeFromBytes`. -/
namespace Bmc.Proofs.GenDec
open Bmc Bmc.Gen.Dec Bmc.Lemmas.GenDec

theorem SessionSelector_gen_eq (prev : SessionSelector) (d : GoSlice) :
    (SessionSelector.decodeGo prev d).map SessionSelector.toModel = Wire.Setup.Selector.decodeGo (SessionSelector.toModel prev) d := by
  unfold SessionSelector.decodeGo Wire.Setup.Selector.decodeGo
  refine R.map_guard fun h => ?_
  have hn : 1 ≤ d.len := Nat.le_of_not_lt h
  go_reads hn [R.map_ok, SessionSelector.toModel]

end Bmc.Proofs.GenDec
