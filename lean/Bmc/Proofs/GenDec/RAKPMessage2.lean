import Bmc.Lemmas.GenDec
/-! The obligation (`Proofs/GenDec.lean`) for `(*ipmi.RAKPMessage2).DecodeFromBytes`. -/
namespace Bmc.Proofs.GenDec
open Bmc Bmc.Gen.Dec Bmc.Lemmas.GenDec

theorem RAKPMessage2_gen_eq (prev : RAKPMessage2) (d : GoSlice) :
    (RAKPMessage2.decodeGo prev d).map RAKPMessage2.toModel = Wire.RAKP2.decodeGo true (RAKPMessage2.toModel prev) d := by
  unfold RAKPMessage2.decodeGo Wire.RAKP2.decodeGo
  refine R.map_guard fun h => ?_
  have hn : 8 ≤ d.len := Nat.le_of_not_lt h
  by_cases hc : (List.getD d.vis 1 0 == 0) = true
  · by_cases h40 : d.len < 40
    · go_reads hn [hc, h40, Bool.true_and, decide_true, R.bind_err, R.map_err]
    · by_cases h41 : d.len > 40
      case' pos => have hn : 41 ≤ d.len := h41
      case' neg => have hn : 40 ≤ d.len := Nat.le_of_not_lt h40
      all_goals
        go_reads hn [hc, h40, h41, Bool.true_and, decide_false, Bool.false_eq_true, R.map_ok, RAKPMessage2.toModel, le32_toNat,
          Nat.reduceSub, Nat.reduceAdd, copyArr_window hn]
  · go_reads hn [hc, Bool.false_eq_true, R.map_ok, RAKPMessage2.toModel, le32_toNat]

end Bmc.Proofs.GenDec
