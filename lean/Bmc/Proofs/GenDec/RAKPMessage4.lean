import Bmc.Lemmas.GenDec
/-! The obligation (`Proofs/GenDec.lean`) for `(*ipmi.RAKPMessage4).DecodeFromBytes`. -/
namespace Bmc.Proofs.GenDec
open Bmc Bmc.Gen.Dec Bmc.Lemmas.GenDec

theorem RAKPMessage4_gen_eq (prev : RAKPMessage4) (d : GoSlice) :
    (RAKPMessage4.decodeGo prev d).map RAKPMessage4.toModel = Wire.Setup.RAKP4.decodeGo (RAKPMessage4.toModel prev) d := by
  unfold RAKPMessage4.decodeGo Wire.Setup.RAKP4.decodeGo
  refine R.map_guard fun h => ?_
  have hn : 8 ≤ d.len := Nat.le_of_not_lt h
  by_cases hc : (List.getD d.vis 1 0 == 0 && decide (d.len > 8)) = true <;>
    go_reads hn [hc, Bool.false_eq_true, R.map_ok, RAKPMessage4.toModel, le32_toNat]

end Bmc.Proofs.GenDec
