import Bmc.Lemmas.GenDec
/-! The obligation (`Proofs/GenDec.lean`) for `(*dcmi.GetDCMISensorInfoRsp).DecodeFromBytes`. -/
namespace Bmc.Proofs.GenDec
open Bmc Bmc.Gen.Dec Bmc.Lemmas.GenDec

theorem GetDCMISensorInfoRsp_gen_eq (prev : GetDCMISensorInfoRsp) (prevM : Wire.SensorInfo) (d : GoSlice) :
    (GetDCMISensorInfoRsp.decodeGo prev d).map GetDCMISensorInfoRsp.toView
      = (Wire.SensorInfo.decodeGo prevM d).map Wire.SensorInfo.view := by
  rw [Wire.SensorInfo.decodeGo_refines]
  unfold GetDCMISensorInfoRsp.decodeGo Wire.SensorInfoView.decode
  simp only [GoSlice.vis_length]
  by_cases h : d.len < 2
  · simp only [h, if_true, R.map_err, R.ofExcept_error]
  · have h2 : 2 ≤ d.len := Nat.le_of_not_lt h
    go_reads h2 [h]
    generalize (List.getD d.vis 1 0).toNat = n
    by_cases hg : d.len < 2 + n * 2
    · simp only [hg, if_true, R.map_err, R.ofExcept_error]
    · have hn : 2 + n * 2 ≤ d.len := Nat.le_of_not_lt hg
      simp only [hg, if_false, GoSlice.slice_ok d 0 _ (Nat.zero_le _) hn, GoSlice.sliceFrom_ok d _ hn, R.bind_ok]
      rw [sensorInfo_loop d n hn n (Nat.le_refl _)]
      simp only [R.map_ok, R.ofExcept_ok, GetDCMISensorInfoRsp.toView, List.nil_append, List.map_map,
        Function.comp_def, le16_toNat, GoSlice.sub_vis, Nat.sub_zero, List.drop_zero, GoSlice.take_len_drop_vis]

end Bmc.Proofs.GenDec
