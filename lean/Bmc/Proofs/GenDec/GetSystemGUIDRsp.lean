import Bmc.Lemmas.GenDec
/-! The obligation (`Proofs/GenDec.lean`) for `(*ipmi.GetSystemGUIDRsp).DecodeFromBytes`. -/
namespace Bmc.Proofs.GenDec
open Bmc Bmc.Gen.Dec Bmc.Lemmas.GenDec

theorem GetSystemGUIDRsp_gen_eq (prev : GetSystemGUIDRsp) (d : GoSlice) :
    (GetSystemGUIDRsp.decodeGo prev d).map GetSystemGUIDRsp.toModel = Wire.GUIDRsp.decodeGo (GetSystemGUIDRsp.toModel prev) d := by
  unfold GetSystemGUIDRsp.decodeGo Wire.GUIDRsp.decodeGo
  refine R.map_guard fun h => ?_
  have hn : 16 ≤ d.len := Nat.le_of_not_lt h
  go_reads hn [R.map_ok, GetSystemGUIDRsp.toModel, Nat.reduceSub, copyArr_window hn, Nat.reduceAdd]

end Bmc.Proofs.GenDec
