import Bmc.Lemmas.GenDec
/-! The obligation (`Proofs/GenDec.lean`) for `(*ipmi.SDR).DecodeFromBytes`. -/
namespace Bmc.Proofs.GenDec
open Bmc Bmc.Gen.Dec Bmc.Lemmas.GenDec

theorem SDR_gen_eq (prev : SDR) (d : GoSlice) :
    (SDR.decodeGo prev d).map SDR.toModel = Wire.SDRHeader.decodeGo (SDR.toModel prev) d := by
  unfold SDR.decodeGo Wire.SDRHeader.decodeGo
  refine R.map_guard fun h => ?_
  have hn : 5 ≤ d.len := Nat.le_of_not_lt h
  go_reads hn [R.map_ok, SDR.toModel, le16_toNat, bcd_eq]

end Bmc.Proofs.GenDec
