import Bmc.Lemmas.GenDec
/-! The obligation (`Proofs/GenDec.lean`) for `(*ipmi.GetSDRRepositoryInfoRsp).DecodeFromBytes`. -/
namespace Bmc.Proofs.GenDec
open Bmc Bmc.Gen.Dec Bmc.Lemmas.GenDec

theorem GetSDRRepositoryInfoRsp_gen_eq (prev : GetSDRRepositoryInfoRsp) (d : GoSlice) :
    (GetSDRRepositoryInfoRsp.decodeGo prev d).map GetSDRRepositoryInfoRsp.toModel
      = Wire.SDRRepoInfoRsp.decodeGo (GetSDRRepositoryInfoRsp.toModel prev) d := by
  unfold GetSDRRepositoryInfoRsp.decodeGo Wire.SDRRepoInfoRsp.decodeGo
  refine R.map_guard fun h => ?_
  have hn : 14 ≤ d.len := Nat.le_of_not_lt h
  go_reads hn [R.map_ok, GetSDRRepositoryInfoRsp.toModel, pack_ef, le16_toNat, le32_toNat, bcd_eq, Int.toNat_natCast]

end Bmc.Proofs.GenDec
