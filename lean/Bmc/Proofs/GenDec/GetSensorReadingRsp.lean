import Bmc.Lemmas.GenDec
/-! The obligation (`Proofs/GenDec.lean`) for `(*ipmi.GetSensorReadingRsp).DecodeFromBytes`. -/
namespace Bmc.Proofs.GenDec
open Bmc Bmc.Gen.Dec Bmc.Lemmas.GenDec

theorem GetSensorReadingRsp_gen_eq (prev : GetSensorReadingRsp) (d : GoSlice) :
    (GetSensorReadingRsp.decodeGo prev d).map GetSensorReadingRsp.toModel
      = Wire.SensorReadingRsp.decodeGo (GetSensorReadingRsp.toModel prev) d := by
  unfold GetSensorReadingRsp.decodeGo Wire.SensorReadingRsp.decodeGo
  refine R.map_guard fun h => ?_
  by_cases h3 : d.len > 3
  case' pos => have hn : 4 ≤ d.len := h3
  case' neg => have hn : 3 ≤ d.len := Nat.le_of_not_lt h
  all_goals go_reads hn [h3, R.map_ok, GetSensorReadingRsp.toModel]

end Bmc.Proofs.GenDec
