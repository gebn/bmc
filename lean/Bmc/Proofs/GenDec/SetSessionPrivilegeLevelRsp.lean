import Bmc.Lemmas.GenDec
/-! The obligation (`Proofs/GenDec.lean`) for `(*ipmi.SetSessionPrivilegeLevelRsp).DecodeFromBytes`. -/
namespace Bmc.Proofs.GenDec
open Bmc Bmc.Gen.Dec Bmc.Lemmas.GenDec

theorem SetSessionPrivilegeLevelRsp_gen_eq (prev : SetSessionPrivilegeLevelRsp) (d : GoSlice) :
    (SetSessionPrivilegeLevelRsp.decodeGo prev d).map SetSessionPrivilegeLevelRsp.toModel
      = Wire.SetPrivRsp.decodeGo (SetSessionPrivilegeLevelRsp.toModel prev) d := by
  unfold SetSessionPrivilegeLevelRsp.decodeGo Wire.SetPrivRsp.decodeGo
  refine R.map_guard fun h => ?_
  have hn : 1 ≤ d.len := Nat.le_of_eq (by simpa using h : d.len = 1).symm
  go_reads hn [R.map_ok, SetSessionPrivilegeLevelRsp.toModel]

end Bmc.Proofs.GenDec
