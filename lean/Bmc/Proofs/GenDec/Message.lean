import Bmc.Lemmas.GenDec
/-! The obligation (`Proofs/GenDec.lean`) for `(*ipmi.Message).DecodeFromBytes`. -/
namespace Bmc.Proofs.GenDec
open Bmc Bmc.Gen.Dec Bmc.Lemmas.GenDec

theorem Message_gen_eq (prev : Message) (d : GoSlice) :
    (Message.decodeGo prev d).map Message.toModel = Wire.Message.decodeGo 8 (Message.toModel prev) d := by
  unfold Message.decodeGo Wire.Message.decodeGo
  refine R.map_guard fun h7 => ?_
  have hn : 7 ≤ d.len := Nat.le_of_not_lt h7
  go_reads hn [GoSlice.idx_ok d (d.len - 1) (by omega), GoSlice.slice_ok d 3 (d.len - 1) (by omega) (by omega),
    GoDec.nat_sub d.len 1 (by omega), checksum_eq, isRequest_eq]
  refine R.map_guard fun _ => R.map_guard fun _ => ?_
  by_cases hreq : Wire.isRequest (List.getD d.vis 1 0 >>> 2) = true
  · simp only [hreq, if_true, Bool.not_true, Bool.false_and, Bool.false_eq_true, if_false, Message.decodeRequest]
    exact Message.decodeDataHeader_eq _ d 6 (by omega)
  · simp only [hreq, Bool.not_false, Bool.true_and, decide_eq_true_eq, Message.decodeResponse]
    refine R.map_guard fun h8 => ?_
    rw [GoSlice.idx_ok d 6 (by omega)]
    exact Message.decodeDataHeader_eq _ d 7 (by omega)

end Bmc.Proofs.GenDec
