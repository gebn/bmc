import Bmc.Lemmas.GenDec
/-! The obligation (`Proofs/GenDec.lean`) for `(*ipmi.GetChannelCipherSuitesRsp).DecodeFromBytes`. -/
namespace Bmc.Proofs.GenDec
open Bmc Bmc.Gen.Dec Bmc.Lemmas.GenDec

theorem GetChannelCipherSuitesRsp_gen_eq (prev : GetChannelCipherSuitesRsp) (d : GoSlice) :
    (GetChannelCipherSuitesRsp.decodeGo prev d).map GetChannelCipherSuitesRsp.toModel
      = Wire.CipherSuitesRsp.decodeGo (GetChannelCipherSuitesRsp.toModel prev) d := by
  unfold GetChannelCipherSuitesRsp.decodeGo Wire.CipherSuitesRsp.decodeGo
  refine R.map_guard fun h => ?_
  by_cases h3 : d.len > 17
  case' pos => have hn : 18 ≤ d.len := h3
  case' neg => have hn : 1 ≤ d.len := Nat.le_of_not_lt h
  all_goals go_reads hn [h3, R.map_bind, R.map_ok, GetChannelCipherSuitesRsp.toModel]

end Bmc.Proofs.GenDec
