import Bmc.Lemmas.GenDec
import Bmc.Lemmas.GenDecFSR
/-! The obligation (`Proofs/GenDec.lean`) for `(*ipmi.FullSensorRecord).DecodeFromBytes`. -/
namespace Bmc.Proofs.GenDec
open Bmc Bmc.Gen.Dec Bmc.Lemmas.GenDec

/-- `FullSensorRecord.DecodeFromBytes` as re-translated — with `complement.Twos` (10- and 4-bit sign extension through
    `uint16` arithmetic and `int16(…)` / `int8(…)`), `StringEncoding.Decoder()` (the map literal `stringEncodingDecoders` as a
    finite function into the closed sum of the three decoders of `id_string.go`) and those decoders (their loops, the float
    ceiling / floor idioms, `string(runes)`) — is the hand model `Wire.FullSensorRecord.decodeGo`. -/
theorem FullSensorRecord_gen_eq (prev : FullSensorRecord) (d : GoSlice) :
    (FullSensorRecord.decodeGo prev d).map FullSensorRecord.toModel
      = Wire.FullSensorRecord.decodeGo (FullSensorRecord.toModel prev) d := by
  unfold FullSensorRecord.decodeGo Wire.FullSensorRecord.decodeGo
  refine R.map_guard fun h => ?_
  have hn : 43 ≤ d.len := Nat.le_of_not_lt h
  go_reads hn [List.set_cons_zero, List.set_cons_succ, twos10, twos4]
  rw [idDecoder_eq]
  cases hid : Wire.idDecoder (List.getD d.vis 42 0 >>> 6) (d.sub 43 d.len (by omega) (Nat.le_refl _)) (List.getD d.vis 42 0 &&& 31).toNat with
  | ok p =>
    simp only [R.map, R.bind_ok, natRes, GoDec.nat_add]
    cases d.slice 0 (43 + p.2) <;> try rfl
    simp only [R.bind_ok]
    cases d.sliceFrom (43 + p.2) <;> rfl
  | err => rfl
  | panic => rfl
  | overread => rfl

end Bmc.Proofs.GenDec
