import Bmc.Lemmas.GenDec
/-! The obligation (`Proofs/GenDec.lean`) for `(*ipmi.ReserveSDRRepositoryRsp).DecodeFromBytes`. -/
namespace Bmc.Proofs.GenDec
open Bmc Bmc.Gen.Dec Bmc.Lemmas.GenDec

theorem ReserveSDRRepositoryRsp_gen_eq (prev : ReserveSDRRepositoryRsp) (d : GoSlice) :
    (ReserveSDRRepositoryRsp.decodeGo prev d).map ReserveSDRRepositoryRsp.toModel
      = Wire.ReserveRsp.decodeGo (ReserveSDRRepositoryRsp.toModel prev) d := by
  unfold ReserveSDRRepositoryRsp.decodeGo Wire.ReserveRsp.decodeGo
  refine R.map_guard fun h => ?_
  have hn : 2 ≤ d.len := Nat.le_of_not_lt h
  go_reads hn [R.map_ok, ReserveSDRRepositoryRsp.toModel, le16_toNat]

end Bmc.Proofs.GenDec
