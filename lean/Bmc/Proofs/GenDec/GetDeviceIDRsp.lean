import Bmc.Lemmas.GenDec
/-! The obligation (`Proofs/GenDec.lean`) for `(*ipmi.GetDeviceIDRsp).DecodeFromBytes`. -/
namespace Bmc.Proofs.GenDec
open Bmc Bmc.Gen.Dec Bmc.Lemmas.GenDec

theorem GetDeviceIDRsp_gen_eq (prev : GetDeviceIDRsp) (d : GoSlice) :
    (GetDeviceIDRsp.decodeGo prev d).map GetDeviceIDRsp.toModel
      = Wire.GetDeviceIDRsp.decodeGo true (GetDeviceIDRsp.toModel prev) d := by
  unfold GetDeviceIDRsp.decodeGo Wire.GetDeviceIDRsp.decodeGo
  refine R.map_guard fun h => ?_
  by_cases h3 : d.len > 11
  case' pos => have hn : 12 ≤ d.len := h3
  case' neg => have hn : 11 ≤ d.len := Nat.le_of_not_lt h
  all_goals
    go_reads hn [h3, R.map, GetDeviceIDRsp.toModel, pack_ff, le16_toNat, or_shl24, bcd_eq', copy4_eq, Wire.le16, List.replicate]

end Bmc.Proofs.GenDec
