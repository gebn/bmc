import Bmc.Lemmas.GenDec
/-! The obligation (`Proofs/GenDec.lean`) for `(*dcmi.GetPowerReadingRsp).DecodeFromBytes`. -/
namespace Bmc.Proofs.GenDec
open Bmc Bmc.Gen.Dec Bmc.Lemmas.GenDec

theorem GetPowerReadingRsp_gen_eq (prev : GetPowerReadingRsp) (d : GoSlice) :
    (GetPowerReadingRsp.decodeGo prev d).map GetPowerReadingRsp.toModel
      = Wire.PowerReading.decodeGo (GetPowerReadingRsp.toModel prev) d := by
  unfold GetPowerReadingRsp.decodeGo Wire.PowerReading.decodeGo
  refine R.map_ite_congr (fun _ => by split <;> rfl) fun h => ?_
  have hn : 17 ≤ d.len := Nat.le_of_not_lt h
  go_reads hn [R.map_ok, GetPowerReadingRsp.toModel, le16_toNat, le32_toNat, Int.toNat_natCast]

end Bmc.Proofs.GenDec
