import Bmc.Lemmas.GenDec
/-! The obligation (`Proofs/GenDec.lean`) for `(*dcmi.GetDCMICapabilitiesInfoManageabilityAccessAttrsRsp).DecodeFromBytes`. -/
namespace Bmc.Proofs.GenDec
open Bmc Bmc.Gen.Dec Bmc.Lemmas.GenDec

theorem GetDCMICapabilitiesInfoManageabilityAccessAttrsRsp_gen_eq (prev : GetDCMICapabilitiesInfoManageabilityAccessAttrsRsp) (d : GoSlice) :
    (GetDCMICapabilitiesInfoManageabilityAccessAttrsRsp.decodeGo prev d).map GetDCMICapabilitiesInfoManageabilityAccessAttrsRsp.toModel
      = Wire.DcmiCap4.decodeGo (GetDCMICapabilitiesInfoManageabilityAccessAttrsRsp.toModel prev) d := by
  unfold GetDCMICapabilitiesInfoManageabilityAccessAttrsRsp.decodeGo Wire.DcmiCap4.decodeGo
  refine dcmi_header _ d fun h3 => R.map_guard fun hb => ?_
  have hn : 3 ≤ (d.sub 3 d.len h3 (Nat.le_refl _)).len := Nat.le_of_not_lt hb
  go_reads hn [nat_len_sub, R.map_bind, R.map_ok, GetDCMICapabilitiesInfoManageabilityAccessAttrsRsp.toModel,
    getDCMICapabilitiesInfoRspHeader.toModel, Wire.DcmiHeader.ofBytes]

end Bmc.Proofs.GenDec
