import Bmc.Lemmas.GenDec
/-! The obligation (`Proofs/GenDec.lean`) for `(*ipmi.GetSDRRsp).DecodeFromBytes`. -/
namespace Bmc.Proofs.GenDec
open Bmc Bmc.Gen.Dec Bmc.Lemmas.GenDec

theorem GetSDRRsp_gen_eq (prev : GetSDRRsp) (d : GoSlice) :
    (GetSDRRsp.decodeGo prev d).map GetSDRRsp.toModel = Wire.GetSDRRsp.decodeGo (GetSDRRsp.toModel prev) d := by
  unfold GetSDRRsp.decodeGo Wire.GetSDRRsp.decodeGo
  refine R.map_guard fun h => ?_
  have hn : 2 ≤ d.len := Nat.le_of_not_lt h
  go_reads hn [R.map_ok, GetSDRRsp.toModel, le16_toNat]

end Bmc.Proofs.GenDec
