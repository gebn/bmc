import Bmc.Lemmas.GenDec
/-! The obligation (`Proofs/GenDec.lean`) for `(*ipmi.V1Session).DecodeFromBytes`. -/
namespace Bmc.Proofs.GenDec
open Bmc Bmc.Gen.Dec Bmc.Lemmas.GenDec

theorem V1Session_gen_eq (prev : V1Session) (d : GoSlice) :
    (V1Session.decodeGo prev d).map V1Session.toModel = Wire.V1Session.decodeGo true (V1Session.toModel prev) d := by
  unfold V1Session.decodeGo Wire.V1Session.decodeGo
  refine R.map_guard fun h => ?_
  have hn : 10 ≤ d.len := Nat.le_of_not_lt h
  by_cases hc : (List.getD d.vis 0 0 == 0) = true
  · go_reads hn [hc, R.map_ok, V1Session.toModel, le32_toNat]
  · by_cases h26 : d.len < 26
    · go_reads hn [hc, h26, Bool.false_eq_true, R.bind_err, R.map_err]
    · have hn : 26 ≤ d.len := Nat.le_of_not_lt h26
      go_reads hn [hc, h26, Bool.false_eq_true, R.map_ok, V1Session.toModel, le32_toNat, Nat.reduceSub, Nat.reduceAdd,
        copyArr_window hn]

end Bmc.Proofs.GenDec
