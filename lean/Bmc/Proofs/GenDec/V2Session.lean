import Bmc.Lemmas.GenDecV2Session
/-! The obligation (`Proofs/GenDec.lean`) for `(*ipmi.V2Session).DecodeFromBytes`. -/
namespace Bmc.Proofs.GenDec
open Bmc Bmc.Gen.Dec Bmc.Lemmas.GenDec

/-- `V2Session.DecodeFromBytes` as re-translated is the hand model `Wire.V2Session.decodeGo`, for every receiver, every Go
    slice and every `mac`. The pad-scanning loop (`for b := 0xFF; offset < len(data) && b == 0xFF; offset++`) runs with FUEL
    `len(data) + 1` (the definition is in the monad `RF`; the equality with `RF.lift …` shows the fuel always suffices);
    `executeHash(s.IntegrityAlgorithm, data[:offset])` is the PARAMETER `mac` (the model's: the integrity algorithm already
    keyed, nil ⇒ no bytes) and `hmac.Equal` is equality of the byte strings. (`DecodeFromBytes` does not consult
    `payloadLayerTypes` (payload_descriptor.go): that map is only read by `NextLayerType`, which is not a byte parser.) -/
theorem V2Session_gen_eq (mac : Bytes → Bytes) (prev : V2Session) (d : GoSlice) :
    (V2Session.decodeGo mac prev d).map V2Session.toModel
      = RF.lift (Wire.V2Session.decodeGo mac (V2Session.toModel prev) d) :=
  V2Session_lift mac prev d

end Bmc.Proofs.GenDec
