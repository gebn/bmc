import Bmc.Gen.Facts
/-! # The UDP transport's source, as it stands on this run (regenerated fact; C13 and C05)

`internal/pkg/transport` is sockets and deadlines: outside every statement-level translator, and the one package of the library whose
behaviour only the real-socket scenarios (`udp`, `time`, `flood`, `concu`) exercise. The time model of C13 (assumption A1 of
`Proto/Timing.lean`: a `Send` is ONE write and ONE read, each under the deadline of the context it was given, and returns what that
read returned) and the C05 clause "no received bytes can keep a call alive" were written against exactly this text: `New`, `Send`,
`Close`, `Address` and the fields of the struct. Any change to the transport — a drain loop, a cache of sockets, a deadline taken from
somewhere else, a buffer of another size — breaks this obligation at build time. -/
namespace Bmc.Proofs.C13

theorem transport_source : Bmc.Gen.Facts.transportSource = [
  ("New", "{ raddr, err := net.ResolveUDPAddr(\"udp\", addr) if err != nil { return nil, err } conn, err := net.DialUDP(\"udp\", nil, raddr) if err != nil { return nil, err } return &transport{ conn: conn, }, nil }"),
  ("transport.Address", "{ return t.conn.RemoteAddr() }"),
  ("transport.Close", "{ return t.conn.Close() }"),
  ("transport.Send", "{ if deadline, ok := ctx.Deadline(); ok { if err := t.conn.SetWriteDeadline(deadline); err != nil { return nil, err } } n, err := t.conn.Write(b) if err != nil { return nil, err } if n != len(b) { return nil, fmt.Errorf(\"wrote incomplete message (%v/%v bytes)\", n, len(b)) } sent := time.Now() transmitBytes.Observe(float64(len(b))) if deadline, ok := ctx.Deadline(); ok { if err := t.conn.SetReadDeadline(deadline); err != nil { return nil, err } } n, _, err = t.conn.ReadFromUDP(t.recvBuf[:]) if err != nil { return nil, err } responseLatency.Observe(time.Since(sent).Seconds()) receiveBytes.Observe(float64(n)) return t.recvBuf[:n], nil }"),
  ("type transport", "conn *net.UDPConn; recvBuf [512]byte")] := rfl

end Bmc.Proofs.C13
