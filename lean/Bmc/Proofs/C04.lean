import Bmc.Lemmas.RmcpHeader
import Bmc.Lemmas.AcceptInv
import Bmc.Lemmas.TamperedAuthCode
/-! # C04 — only authentic packets addressed to this session are accepted as responses (property theorems only)

No cryptographic claim is made: "a forger cannot produce a MAC" is the integrity algorithm's job. What is proved is
the reduction: a reply is classified as a command's final answer ONLY IF it satisfies the MAC equation under K1, has the
authenticated flag set, is addressed to this session and, when encrypted, decrypts under K2 to a valid pad
(`accepted_satisfies_mac`); `accept_sound` says a command that completes had such a reply in its script, without tying the
returned code and body to it (`Lemmas.sendLoop_ok_inv` does). "An integrity algorithm was negotiated" is `integ ≠ 0`; the MAC
`integMac` is a keyed hash for the algorithms 1, 2, 4 that `newSession` can return and empty for any other number. -/
namespace Bmc.Proofs.C04
open Bmc Bmc.Wire Bmc.Crypto Bmc.Proto

/-- acceptance is sound: whenever a command returns a completion code and body, some reply `d` of the script (the statement does
    not say it is the one the code and body were taken from) was decoded such that, for its session wrapper `v2` (the bytes `p` after the RMCP header):
    * the authenticated flag is set if an integrity algorithm was negotiated;
    * the session ID is this session's;
    * the trailing AuthCode is exactly the negotiated keyed hash under K1 of everything before it;
    * if flagged encrypted, the payload decrypted under K2 to a well-formed confidentiality pad -/
theorem accept_sound (C : Ops) (c : Cmd) (hf : c.reqFails = false) (s : Sess) (hs : s.inbound < 4294967296)
    (ivs : List Bytes) (script : List Outcome) (hl : script.length ≤ ivs.length)
    (cc : UInt8) (pl : Bytes) (h : (sendLoop C c s ivs script).2.2 = .ok cc pl) :
    ∃ d r p v2, Outcome.reply d ∈ script ∧
      RMCP.decodeGo {} (GoSlice.ofBytes d) = .ok (r, p) ∧
      V2Session.decode (integMac C s.integ s.k1) p.vis = .ok v2 ∧
      (s.integ ≠ 0 → v2.authenticated = true) ∧
      v2.id = s.localID ∧
      (v2.authenticated = true → ∃ off, off ≤ p.vis.length ∧ v2.signature = p.vis.drop off ∧
          p.vis.drop off = integMac C s.integ s.k1 (p.vis.take off)) ∧
      (v2.encrypted = true → ∃ a, AESLayer.decodeGo C s.k2 true {} (GoSlice.ofBytes v2.payload) = .ok a) := by
  obtain ⟨d, v2, msg, hm, hv, hacc, -⟩ := sendLoop_ok_inv C c hf s hs ivs script hl cc pl h
  obtain ⟨r, p, hr, hdec, haes, -⟩ := onReply_message_inv C s.keys.sess (GoSlice.ofBytes d) v2 msg hv
  obtain ⟨hauth, hid, -⟩ := accept_iff.mp hacc
  exact ⟨d, r, p, v2, hm, hr, hdec, hauth, hid, (Wire.V2Session.decode_ok hdec).2, haes⟩

/-- a decoded reply with the authenticated flag clear (in a session with integrity), or addressed to another
    session, is treated exactly like a reply that did not decode: a retry, never a result -/
theorem unauthenticated_or_foreign_is_retry (C : Ops) (k : Keys) (c : Cmd) (d : Bytes) (v2 : V2Session) (msg : Message)
    (hv : view (onReply C k.sess (GoSlice.ofBytes d)) = (.message, some (v2, msg)))
    (hbad : (k.integ ≠ 0 ∧ v2.authenticated = false) ∨ v2.id ≠ k.localID) : classify C k c d = .retry := by
  have : accept k c v2 msg = false := Bool.eq_false_iff.mpr fun h => by
    obtain ⟨hauth, hid, -⟩ := accept_iff.mp h
    rcases hbad with ⟨h1, h2⟩ | h
    · rw [hauth h1] at h2; cases h2
    · exact h hid
  rw [classify_of_view hv, this]; rfl

/-- `accept_sound` for one reply: in a session with an integrity algorithm, a datagram classified as the command's final
    response decoded to a wrapper with the authenticated flag set, and its bytes from some offset on are the negotiated keyed
    hash under K1 of the bytes before. Whatever happened to it on the way (a flipped bit, say), a datagram that yields a result
    is itself a valid MAC'd packet under K1. -/
theorem accepted_satisfies_mac (C : Ops) (k : Keys) (hk : k.integ ≠ 0) (c : Cmd) (d : Bytes) (cc : UInt8) (pl : Bytes)
    (h : classify C k c d = .final cc pl) :
    ∃ r p v2 off, RMCP.decodeGo {} (GoSlice.ofBytes d) = .ok (r, p) ∧
      V2Session.decodeGo (integMac C k.integ k.k1) {} p = .ok v2 ∧ v2.authenticated = true ∧
      p.vis.drop off = integMac C k.integ k.k1 (p.vis.take off) := by
  obtain ⟨v2, msg, hv, hacc, -⟩ := classify_final_inv C k c d cc pl h
  obtain ⟨r, p, hr, hdec, -⟩ := onReply_message_inv C k.sess (GoSlice.ofBytes d) v2 msg hv
  have ha := (accept_iff.mp hacc).1 hk
  obtain ⟨off, -, -, hmac⟩ := (Wire.V2Session.decode_ok hdec).2 ha
  exact ⟨r, p, v2, off, hr, V2Session.decodeGo_eq_ok.mpr hdec, ha, hmac⟩

/-- TAMPERED AUTHCODE: take the response a conforming BMC sends (any command, completion code, body, sequence number, IV)
    and put ANY OTHER bytes where its AuthCode was — one bit flipped, some bytes cut off or added, the code of another
    key, nothing at all: the datagram no longer decodes, the library treats it as if no valid response had arrived
    (retry), and what it carried never reaches the caller. With the genuine code it is the command's final response. No
    assumption on the hash: this is about WHERE the code is looked for and WHAT it is compared with. -/
theorem tampered_authcode_is_retry (C : Ops) (hC : C.Lawful) (k : Keys) (c : Cmd) (cc : UInt8) (data : Bytes) (seq : Nat) (iv : Bytes)
    (hiv : iv.length = 16) (hm : (responseMsg c cc).WF) (hid : k.localID < 4294967296) (hseq : seq < 4294967296)
    (hlen : (responseAes C k c cc data iv).length < 65536) (code : Bytes) :
    classify C k c (responseWithCode C k c cc data seq iv code) =
      if code = responseCode C k c cc data seq iv then (if isTemp cc then .retry else .final cc data) else .retry := by
  by_cases h : code = responseCode C k c cc data seq iv
  · rw [if_pos h, h, ← responseDatagram_eq C k c cc data seq iv hlen]
    exact classify_response C hC k c cc data seq iv hiv hm hid hseq hlen
  · rw [if_neg h]
    exact classify_tampered_code C k c cc data seq iv code hlen h

/-- THE BYTES THE AUTHCODE DOES NOT COVER. The four RMCP header bytes in front of the session wrapper are outside the
    authenticated region (which starts at the auth-type byte). Whatever is done to them — any single bit or all 32 —
    the reply is either classified EXACTLY as the reply with the regular header `06 00 FF 07` (same completion code, same
    body, or the same retry), or, when the low four bits of the class byte no longer say IPMI, treated as if no valid
    response had arrived. It can never change the value the caller receives. -/
theorem rmcp_header_cannot_change_the_value (C : Ops) (k : Keys) (c : Cmd) (b0 b1 b2 b3 : UInt8) (rest : Bytes) :
    classify C k c (b0 :: b1 :: b2 :: b3 :: rest) =
      if b3 &&& 0xF = 7 then classify C k c (6 :: 0 :: 0xFF :: 7 :: rest) else .retry := by
  unfold classify
  rw [onReply_header C k.sess b0 b1 b2 b3 rest]
  by_cases hc : b3 &&& 0xF = 7 <;> simp only [hc, if_true, if_false]

/-- in particular for the response of a conforming BMC: with ANY RMCP header whose class nibble is 7 it is still the
    command's final response, with any other class it is a retry -/
theorem response_with_any_header (C : Ops) (hC : C.Lawful) (k : Keys) (c : Cmd) (cc : UInt8) (data : Bytes) (seq : Nat) (iv : Bytes)
    (hiv : iv.length = 16) (hm : (responseMsg c cc).WF) (hid : k.localID < 4294967296) (hseq : seq < 4294967296)
    (hlen : (responseAes C k c cc data iv).length < 65536) (b0 b1 b2 b3 : UInt8) :
    classify C k c (b0 :: b1 :: b2 :: b3 :: (responseDatagram C k c cc data seq iv).drop 4) =
      if b3 &&& 0xF = 7 then (if isTemp cc then .retry else .final cc data) else .retry := by
  rw [rmcp_header_cannot_change_the_value]
  rw [show (6 : UInt8) :: 0 :: 0xFF :: 7 :: (responseDatagram C k c cc data seq iv).drop 4 = responseDatagram C k c cc data seq iv from rfl,
    classify_response C hC k c cc data seq iv hiv hm hid hseq hlen]

end Bmc.Proofs.C04
