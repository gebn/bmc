import Bmc.Lemmas.DcmiRefine
/-! # C05 (pkg/dcmi): no panic, no out-of-range slice, no dependence on memory beyond the datagram — per layer.

For every receiver state and every Go slice (any capacity, any bytes beyond its length) each decoder returns a value
or an error, and that outcome is a function of the visible bytes only. -/
namespace Bmc.Proofs.C05
open Bmc Bmc.Wire

theorem dcmiCap1_total (prev : DcmiCap1) (d : GoSlice) :
    DcmiCap1.decodeGo prev d = R.ofExcept (DcmiCap1.decode d.vis) := DcmiCap1.decodeGo_refines prev d
theorem dcmiCap1_safe (prev : DcmiCap1) (d : GoSlice) : (DcmiCap1.decodeGo prev d).bad = false := by
  rw [dcmiCap1_total]; exact R.bad_ofExcept _

theorem dcmiCap2_total (prev : DcmiCap2) (d : GoSlice) :
    DcmiCap2.decodeGo prev d = R.ofExcept (DcmiCap2.decode d.vis) := DcmiCap2.decodeGo_refines prev d
theorem dcmiCap2_safe (prev : DcmiCap2) (d : GoSlice) : (DcmiCap2.decodeGo prev d).bad = false := by
  rw [dcmiCap2_total]; exact R.bad_ofExcept _

theorem dcmiCap3_total (prev : DcmiCap3) (d : GoSlice) :
    DcmiCap3.decodeGo prev d = R.ofExcept (DcmiCap3.decode d.vis) := DcmiCap3.decodeGo_refines prev d
theorem dcmiCap3_safe (prev : DcmiCap3) (d : GoSlice) : (DcmiCap3.decodeGo prev d).bad = false := by
  rw [dcmiCap3_total]; exact R.bad_ofExcept _

theorem dcmiCap4_total (prev : DcmiCap4) (d : GoSlice) :
    DcmiCap4.decodeGo prev d = R.ofExcept (DcmiCap4.decode d.vis) := DcmiCap4.decodeGo_refines prev d
theorem dcmiCap4_safe (prev : DcmiCap4) (d : GoSlice) : (DcmiCap4.decodeGo prev d).bad = false := by
  rw [dcmiCap4_total]; exact R.bad_ofExcept _

/-- parameter 5: the count byte never makes the loop index past `len`, whatever lies beyond it -/
theorem dcmiCap5_total (prev : DcmiCap5) (d : GoSlice) :
    DcmiCap5.decodeGo prev d = R.ofExcept (DcmiCap5.decode d.vis) := DcmiCap5.decodeGo_refines prev d
theorem dcmiCap5_safe (prev : DcmiCap5) (d : GoSlice) : (DcmiCap5.decodeGo prev d).bad = false := by
  rw [dcmiCap5_total]; exact R.bad_ofExcept _

theorem powerReading_total (prev : PowerReading) (d : GoSlice) :
    PowerReading.decodeGo prev d = R.ofExcept (PowerReading.decode d.vis) := PowerReading.decodeGo_refines prev d
theorem powerReading_safe (prev : PowerReading) (d : GoSlice) : (PowerReading.decodeGo prev d).bad = false := by
  rw [powerReading_total]; exact R.bad_ofExcept _

/-- Get DCMI Sensor Info: the guard `2 + 2n` keeps every `data[offset:]` and the `Uint16` read inside `len`; what a
    caller sees of the receiver (`view`) is a function of the visible bytes only -/
theorem sensorInfo_total (prev : SensorInfo) (d : GoSlice) :
    (SensorInfo.decodeGo prev d).map SensorInfo.view = R.ofExcept (SensorInfoView.decode d.vis) :=
  SensorInfo.decodeGo_refines prev d
theorem sensorInfo_safe (prev : SensorInfo) (d : GoSlice) : (SensorInfo.decodeGo prev d).bad = false := by
  rw [← R.bad_map SensorInfo.view, sensorInfo_total]; exact R.bad_ofExcept _

end Bmc.Proofs.C05
