import Bmc.Wire.DeviceID
import Bmc.Wire.Chassis
/-! # C05: no panic, no out-of-range slice, no dependence on memory beyond the datagram — per layer -/
namespace Bmc.Proofs.C05
open Bmc Bmc.Wire

/-- Get Device ID: for every receiver state and every Go slice (any capacity, any bytes beyond its length) the
    decoder returns a value or an error, and the value is a function of the visible bytes only -/
theorem deviceID_total (prev : GetDeviceIDRsp) (d : GoSlice) :
    GetDeviceIDRsp.decodeGo true prev d = R.ofExcept (GetDeviceIDRsp.decode d.vis) :=
  GetDeviceIDRsp.decodeGo_refines prev d

theorem deviceID_safe (prev : GetDeviceIDRsp) (d : GoSlice) : (GetDeviceIDRsp.decodeGo true prev d).bad = false := by
  rw [deviceID_total]; exact R.bad_ofExcept _

theorem chassis_total (prev : GetChassisStatusRsp) (d : GoSlice) :
    GetChassisStatusRsp.decodeGo true prev d = GetChassisStatusRsp.decode d.vis ∧
    (GetChassisStatusRsp.decodeGo true prev d).bad = false :=
  GetChassisStatusRsp.decodeGo_canon prev d

end Bmc.Proofs.C05
