import Bmc.Proofs.C05.Core
import Bmc.Proofs.C05.Setup
import Bmc.Lemmas.SessionlessSpec
import Bmc.Lemmas.GenHsModel
import Bmc.Lemmas.SetupBridge
/-! # C05 — totality of the session-less command call and of session establishment

`Core.call_total` covers in-session commands. Here: a session-less command and the three exchanges of the RAKP
handshake return a value or an error for EVERY reply script of every length — the bytes of any reply, at any position
of the exchange, can never produce the `crashed` outcome (a panic or a slice beyond the received datagram). -/
namespace Bmc.Proofs.C05
open Bmc Bmc.Wire Bmc.Crypto Bmc.Proto

/-- the session-less decoding chain (RMCP → selector → null session wrapper → message) never crashes -/
theorem slChain_total (l : SlLayers) (d : GoSlice) : (slOnReply l d).2 ≠ .crash := by
  show (slView (slOnReply l d)).1 ≠ .crash
  rw [slOnReply_view_eq]
  rcases R.err_or_ok (rmcp_safe {} d) with e | ⟨⟨r, p⟩, e⟩ <;> rw [e]
  · nofun
  refine apply_ite_ne Prod.fst nofun ?_
  cases V2Session.decode (fun _ => []) p.vis
  · nofun
  refine apply_ite_ne Prod.fst nofun ?_
  cases Message.decode 8 _ <;> nofun

/-- a session-less command returns a value or an error for EVERY reply script -/
theorem sessionless_call_total (c : Cmd) (script : List Outcome) : (slSend c script).2 ≠ .crashed := by
  unfold slSend
  split
  · simp
  · simp only []
    generalize (slSerialize c).1 = l
    generalize (slSerialize c).2 = pkt
    induction script generalizing l with
    | nil => simp [slLoop]
    | cons o rest ih =>
      cases o with
      | lost => simp only [slLoop]; exact ih _
      | reply d =>
        simp only [slLoop]
        have hc := slChain_total l (GoSlice.ofBytes d)
        split
        · rename_i heq; rw [heq] at hc; exact absurd rfl hc
        · split
          · simp
          · exact ih _
        · exact ih _

open Bmc.Lemmas.SetupBridge in
/-- the two compact decoders of the handshake model are the complete ones with `Contents` forgotten, so they inherit their
    safety -/
theorem hsOpenSessionRsp_safe (prev : Wire.OpenSessionRsp) (d : GoSlice) : (Wire.OpenSessionRsp.decodeGo prev d).bad = false := by
  have e : prev = forgetOpen
      { tag := prev.tag, status := prev.status, maxPriv := prev.maxPriv, consoleSID := prev.consoleSessionID,
        bmcSID := prev.bmcSessionID, auth := ⟨prev.authWild, prev.auth⟩, integ := ⟨prev.integWild, prev.integ⟩,
        conf := ⟨prev.confWild, prev.conf⟩ } := rfl
  rw [e, openSessionRsp_bridge, R.bad_map]
  exact openSessionRsp_safe _ d

open Bmc.Lemmas.SetupBridge in
theorem hsRakp4_safe (prev : Wire.RAKP4) (d : GoSlice) : (Wire.RAKP4.decodeGo prev d).bad = false := by
  rw [rakp4_bridge prev {}, R.bad_map]
  exact rakp4_safe _ d

/-- one attempt of a handshake exchange never crashes on any reply -/
theorem payloadReply_total (d : GoSlice) : payloadReply d ≠ .crash := by
  unfold payloadReply
  rcases R.err_or_ok (rmcp_safe {} d) with e | ⟨⟨r, p⟩, e⟩ <;> rw [e]
  · nofun
  iterate 3 refine apply_ite_ne id nofun ?_
  rcases R.err_or_ok (v2_safe (fun _ => []) {} p) with e | ⟨v, e⟩ <;> rw [e]
  · nofun
  refine apply_ite_ne id nofun (apply_ite_ne id ?_ nofun)
  rcases R.err_or_ok (message_safe {} (GoSlice.ofBytes v.payload)) with e | ⟨m, e⟩ <;> rw [e] <;> nofun

theorem exchange_total (script : List Outcome) : (exchange script).2 ≠ some .crash := by
  induction script with
  | nil => simp [exchange]
  | cons o rest ih =>
    cases o with
    | lost => simp only [exchange]; exact ih
    | reply d =>
      simp only [exchange]
      split
      · exact ih
      · exact fun h => payloadReply_total _ (Option.some.inj h)

theorem exchangePayload_total (script : List Outcome) : exchangePayload script ≠ .error .crashed := by
  have := exchange_total script
  unfold exchangePayload
  split <;> simp_all

open Bmc.Lemmas.GenHs in
/-- an exchange followed by a decoder that never panics or over-reads never ends with `crashed` -/
theorem decoded_total {α : Type} {dec : GoSlice → R α} (hd : ∀ p, (dec p).bad = false) (script : List Outcome) :
    decoded dec script ≠ .error .crashed := by
  unfold decoded
  split
  · rename_i e he; intro h; cases h; exact exchangePayload_total script he
  · rename_i p _
    rcases R.err_or_ok (hd p) with e | ⟨v, e⟩ <;> rw [e] <;> nofun

/-- SESSION ESTABLISHMENT IS TOTAL: for every credential set, suite, random and EVERY reply script — any bytes, truncated
    at any length, substituted at any of the three exchanges — `newSession` ends with a session, the incorrect-password
    error or an error; never a panic or a read beyond a received datagram -/
theorem handshake_total (C : Ops) (o : Opts) (rm : Bytes) (script : List Outcome) :
    (newSession C o rm script).2 ≠ .crashed := by
  rw [Lemmas.GenHs.newSession_eq_hsRun]
  refine Lemmas.GenHs.hsRun_not_crashed C _ o _ (fun s r => decoded_total (hsOpenSessionRsp_safe {}) _) (fun s r => ?_)
    (fun s r => decoded_total (hsRakp4_safe {}) _)
  simp only [Lemmas.GenHs.scriptAnswers]
  split
  · exact fun h => nomatch h
  · exact decoded_total (rakp2_safe {}) _

end Bmc.Proofs.C05
