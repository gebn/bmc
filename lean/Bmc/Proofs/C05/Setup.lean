import Bmc.Lemmas.SetupOpenRefine
import Bmc.Lemmas.SetupRakp1Refine
import Bmc.Lemmas.Rakp2Refine
import Bmc.Lemmas.V1Refine
import Bmc.Wire.Rakp4
import Bmc.Wire.Selector
/-! # C05 (session-setup layers): for every receiver state and every Go slice (any capacity, any bytes beyond its
    length) the decoder returns a value or an error — never a panic, never a read beyond `len` — and the outcome
    is a function of the visible bytes only.
    RAKP Message 2 and the v1.5 session header are proved for their REPAIRED variants (`guard40 = true`,
    `resetAuthCode = true`); the pinned tree's RAKP Message 2 does panic / over-read, see `Wire/Rakp2.lean`. -/
namespace Bmc.Proofs.C05
open Bmc Bmc.Wire

theorem openSessionRsp_total (prev : Setup.OpenSessionRsp) (d : GoSlice) :
    Setup.OpenSessionRsp.decodeGo prev d = R.ofExcept (Setup.OpenSessionRsp.decode d.vis) :=
  Setup.OpenSessionRsp.decodeGo_refines prev d
theorem openSessionRsp_safe (prev : Setup.OpenSessionRsp) (d : GoSlice) :
    (Setup.OpenSessionRsp.decodeGo prev d).bad = false := by rw [openSessionRsp_total]; exact R.bad_ofExcept _

theorem rakp1_total (prev : Setup.RAKP1) (d : GoSlice) :
    Setup.RAKP1.decodeGo prev d = R.ofExcept (Setup.RAKP1.decode d.vis) := Setup.RAKP1.decodeGo_refines prev d
theorem rakp1_safe (prev : Setup.RAKP1) (d : GoSlice) : (Setup.RAKP1.decodeGo prev d).bad = false := by
  rw [rakp1_total]; exact R.bad_ofExcept _

theorem rakp2_total (prev : RAKP2) (d : GoSlice) : RAKP2.decodeGo true prev d = R.ofExcept (RAKP2.decode d.vis) :=
  RAKP2.decodeGo_refines prev d
theorem rakp2_safe (prev : RAKP2) (d : GoSlice) : (RAKP2.decodeGo true prev d).bad = false := by
  rw [rakp2_total]; exact R.bad_ofExcept _

theorem rakp4_total (prev : Setup.RAKP4) (d : GoSlice) :
    Setup.RAKP4.decodeGo prev d = R.ofExcept (Setup.RAKP4.decode d.vis) := Setup.RAKP4.decodeGo_refines prev d
theorem rakp4_safe (prev : Setup.RAKP4) (d : GoSlice) : (Setup.RAKP4.decodeGo prev d).bad = false := by
  rw [rakp4_total]; exact R.bad_ofExcept _

theorem selector_total (prev : Setup.Selector) (d : GoSlice) :
    Setup.Selector.decodeGo prev d = R.ofExcept (Setup.Selector.decode d.vis) := Setup.Selector.decodeGo_refines prev d
theorem selector_safe (prev : Setup.Selector) (d : GoSlice) : (Setup.Selector.decodeGo prev d).bad = false := by
  rw [selector_total]; exact R.bad_ofExcept _

theorem v1_total (prev : V1Session) (d : GoSlice) :
    V1Session.decodeGo true prev d = R.ofExcept (V1Session.decode d.vis) := V1Session.decodeGo_refines prev d
theorem v1_safe (prev : V1Session) (d : GoSlice) : (V1Session.decodeGo true prev d).bad = false := by
  rw [v1_total]; exact R.bad_ofExcept _

/-- PINNED TREE: RAKP Message 2 with status 00 and 8 ≤ len < 40 panics on an exact-capacity slice and reads
    beyond the datagram inside a window of the receive buffer -/
example : (RAKP2.decodeGo false {} (GoSlice.ofBytes [1, 0, 0, 0, 4, 3, 2, 1])).bad = true ∧
    RAKP2.decodeGo false {} (GoSlice.ofBytes [1, 0, 0, 0, 4, 3, 2, 1]) = R.panic ∧
    RAKP2.decodeGo false {} (GoSlice.window [1, 0, 0, 0, 4, 3, 2, 1] (List.replicate 48 0xEE)) = R.overread := by
  decide

end Bmc.Proofs.C05
