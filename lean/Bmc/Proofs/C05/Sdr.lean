import Bmc.Wire.Simple
import Bmc.Lemmas.SdrRefine
/-! # C05 (SDR group): no panic, no out-of-range slice, no dependence on memory beyond the datagram — per layer.
    Each statement is for every receiver state and every Go slice (any capacity, any bytes beyond its length). -/
namespace Bmc.Proofs.C05
open Bmc Bmc.Wire Bmc.Lemmas.Sdr

theorem sdrRepoInfo_total (prev : SDRRepoInfoRsp) (d : GoSlice) :
    SDRRepoInfoRsp.decodeGo prev d = SDRRepoInfoRsp.decode d.vis ∧ (SDRRepoInfoRsp.decodeGo prev d).bad = false :=
  SDRRepoInfoRsp.decodeGo_canon prev d

theorem reserveSDR_total (prev : ReserveRsp) (d : GoSlice) :
    ReserveRsp.decodeGo prev d = ReserveRsp.decode d.vis ∧ (ReserveRsp.decodeGo prev d).bad = false :=
  ReserveRsp.decodeGo_canon prev d

theorem getSDR_total (prev : GetSDRRsp) (d : GoSlice) :
    GetSDRRsp.decodeGo prev d = GetSDRRsp.decode d.vis ∧ (GetSDRRsp.decodeGo prev d).bad = false :=
  GetSDRRsp.decodeGo_canon prev d

theorem sdrHeader_total (prev : SDRHeader) (d : GoSlice) :
    SDRHeader.decodeGo prev d = SDRHeader.decode d.vis ∧ (SDRHeader.decodeGo prev d).bad = false :=
  SDRHeader.decodeGo_canon prev d

theorem sensorReading_total (prev : SensorReadingRsp) (d : GoSlice) :
    SensorReadingRsp.decodeGo prev d = SensorReadingRsp.decode d.vis ∧ (SensorReadingRsp.decodeGo prev d).bad = false :=
  SensorReadingRsp.decodeGo_canon prev d

/-- the ID string decoders, for EVERY value of the encoding byte, every data and every character count (also counts
    the 5-bit field cannot hold): an error or a value that is a function of the visible bytes -/
theorem idString_total (enc : UInt8) (d : GoSlice) (c : Nat) : idDecoder enc d c = R.ofOption (idPure enc d.vis c) :=
  idDecoder_pure enc d c

theorem idString_safe (enc : UInt8) (d : GoSlice) (c : Nat) : (idDecoder enc d c).bad = false := by
  rw [idString_total]; cases idPure enc d.vis c <;> rfl

/-- Full Sensor Record, including the slice expressions `data[:43+consumed]` / `data[43+consumed:]` whose bound comes
    from the string decoder -/
theorem fullSensor_total (prev : FullSensorRecord) (d : GoSlice) :
    FullSensorRecord.decodeGo prev d = R.ofExcept (FullSensorRecord.decode d.vis) :=
  FullSensorRecord.decodeGo_refines prev d

theorem fullSensor_safe (prev : FullSensorRecord) (d : GoSlice) : (FullSensorRecord.decodeGo prev d).bad = false := by
  rw [fullSensor_total]; exact R.bad_ofExcept _

end Bmc.Proofs.C05
