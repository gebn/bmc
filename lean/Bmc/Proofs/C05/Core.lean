import Bmc.Lemmas.MessageRefine
import Bmc.Lemmas.V2Refine
import Bmc.Lemmas.AesRefine
import Bmc.Lemmas.SessionLaws
/-! # C05 (core layers and the receive path): message, v2.0 wrapper, AES layer; the decoding chain of an
    in-session reply; the whole in-session command — for every byte string, no panic and no over-read -/
namespace Bmc.Proofs.C05
open Bmc Bmc.Wire Bmc.Crypto Bmc.Proto

/-- IPMI message: every receiver state, every Go slice -/
theorem message_total (prev : Message) (d : GoSlice) :
    Message.decodeGo 8 prev d = R.ofExcept (Message.decode 8 d.vis) := Message.decodeGo_refines prev d
theorem message_safe (prev : Message) (d : GoSlice) : (Message.decodeGo 8 prev d).bad = false := by
  rw [message_total]; exact R.bad_ofExcept _

/-- v2.0 session wrapper, for any integrity function (incl. none) -/
theorem v2_total (mac : Bytes → Bytes) (prev : V2Session) (d : GoSlice) :
    V2Session.decodeGo mac prev d = R.ofExcept (V2Session.decode mac d.vis) := V2Session.decodeGo_refines mac prev d
theorem v2_safe (mac : Bytes → Bytes) (prev : V2Session) (d : GoSlice) : (V2Session.decodeGo mac prev d).bad = false := by
  rw [v2_total]; exact R.bad_ofExcept _

/-- AES-128-CBC layer: for every lawful block cipher and key, and EVERY plaintext the ciphertext may decrypt to —
    "a party that knows the session keys" -/
theorem aes_total (C : Ops) (hC : C.Lawful) (key : Bytes) (prev : AESLayer) (d : GoSlice) :
    AESLayer.decodeGo C key true prev d = R.ofExcept (AESLayer.decode C key d.vis) :=
  AESLayer.decodeGo_refines C hC key prev d
theorem aes_safe (C : Ops) (hC : C.Lawful) (key : Bytes) (prev : AESLayer) (d : GoSlice) :
    (AESLayer.decodeGo C key true prev d).bad = false := by
  rw [aes_total C hC]; exact R.bad_ofExcept _

theorem rmcp_safe (prev : RMCP) (d : GoSlice) : (RMCP.decodeGo prev d).bad = false := by
  unfold RMCP.decodeGo
  by_cases h : d.len < 4
  · rw [if_pos h]; rfl
  have hn : 4 ≤ d.len := Nat.le_of_not_lt h
  simp only [h, if_false, GoSlice.idx_of_le hn, GoSlice.sliceFrom_of_le hn, Nat.reduceLT, Nat.le_refl, R.bind_ok, R.pure_eq]
  rfl

/-- the whole decoding chain of a reply delivered inside a session (RMCP → selector → session wrapper →
    confidentiality layer → message) never crashes, whatever the datagram -/
theorem decodeChain_total (C : Ops) (hC : C.Lawful) (s : Sess) (d : GoSlice) : (onReply C s d).2 ≠ .crash := by
  -- a decoder that is `ofExcept` of something leaves its `match` two arms, neither of them the crash; the `if`s around
  -- it end in `.notMessage`, in `.fail` (`nofun`) or in the step of the next layer (`hm`, `hw`)
  have hm : ∀ (s : Sess) (mi : GoSlice), (onMessage s mi).2 ≠ .crash := by
    intro s mi
    unfold onMessage
    rw [message_total]
    split
    · nofun
    · cases Message.decode 8 mi.vis <;> nofun
  have hw : ∀ (s : Sess) (v : V2Session), (onWrapper C s v).2 ≠ .crash := by
    intro s v
    unfold onWrapper
    rw [aes_total C hC]
    cases AESLayer.decode C s.k2 (GoSlice.ofBytes v.payload).vis <;> simp only [R.ofExcept_ok, R.ofExcept_error] <;>
      repeat' split
    all_goals first | exact hm _ _ | nofun
  unfold onReply
  have := rmcp_safe s.rmcp d
  cases hr : RMCP.decodeGo s.rmcp d with
  | ok rp =>
    dsimp only
    rw [v2_total]
    cases V2Session.decode (integMac C s.integ s.k1) rp.2.vis <;> simp only [R.ofExcept_ok, R.ofExcept_error] <;>
      repeat' split
    all_goals first | exact hw _ _ | nofun
  | err => nofun
  | _ => rw [hr] at this; cases this

/-- an in-session command returns a value or an error for EVERY reply script of every length -/
theorem call_total (C : Ops) (hC : C.Lawful) (c : Cmd) (s : Sess) (ivs : List Bytes) (script : List Outcome) :
    (sendLoop C c s ivs script).2.2 ≠ .crashed := by
  induction script generalizing s ivs with
  | nil => simp [sendLoop]
  | cons o rest ih =>
    cases ivs with
    | nil => simp [sendLoop]
    | cons iv ivs =>
      unfold sendLoop
      split
      · simp
      · cases o with
        | lost => simp
        | reply d =>
          simp only []
          have hc := decodeChain_total C hC (attempt C (initLayers s c) c iv).1 (GoSlice.ofBytes d)
          split
          · rename_i heq; rw [heq] at hc; exact absurd rfl hc
          · split
            · simp
            · exact ih _ _
          · exact ih _ _

end Bmc.Proofs.C05
