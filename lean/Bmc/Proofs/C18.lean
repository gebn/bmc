import Bmc.Proto.Metrics
import Bmc.Gen.Facts
import Bmc.Lemmas.MetricsWire
import Bmc.Proofs.C05.Core
/-! # C18 — exported metrics account exactly for what happened

For EVERY history of dials, session opens/closes and commands (each with any sequence of per-attempt outcomes):
the counters of the instrumentation model equal the quantities counted directly from the history. -/
namespace Bmc.Proofs.C18
open Bmc.Proto.Metrics

/-- what a history contains, counted directly -/
def calls (name : String) : List Ev → Nat
  | [] => 0
  | .cmd n _ _ _ :: rest => (if n = name then 1 else 0) + calls name rest
  | .closeSess _ :: rest => (if "Close Session" = name then 1 else 0) + calls name rest
  | _ :: rest => calls name rest

def failedCalls (name : String) : List Ev → Nat
  | [] => 0
  | .cmd n s b atts :: rest => (if n = name ∧ ¬(succeeds s atts = true ∧ b = true) then 1 else 0) + failedCalls name rest
  | .closeSess atts :: rest => (if "Close Session" = name ∧ ¬(succeeds true atts = true) then 1 else 0) + failedCalls name rest
  | _ :: rest => failedCalls name rest

def extraTransmissions : List Ev → Nat
  | [] => 0
  | .cmd _ s _ atts :: rest => (closureRuns s atts - 1) + extraTransmissions rest
  | .closeSess atts :: rest => (closureRuns true atts - 1) + extraTransmissions rest
  | _ :: rest => extraTransmissions rest

def responsesIn (c : Nat) : List Ev → Nat
  | [] => 0
  | .cmd _ s _ atts :: rest => responsesOf s c atts + responsesIn c rest
  | .closeSess atts :: rest => responsesOf true c atts + responsesIn c rest
  | _ :: rest => responsesIn c rest

def count (p : Ev → Bool) : List Ev → Nat
  | [] => 0
  | e :: rest => (if p e then 1 else 0) + count p rest

def isOpen : Ev → Bool | .openOk | .openFail => true | _ => false
def isOpenFail : Ev → Bool | .openFail => true | _ => false
def isOpenOk : Ev → Bool | .openOk => true | _ => false
def isCloseSess : Ev → Bool | .closeSess _ => true | _ => false
def isDial : Ev → Bool | .dialOk | .dialFail => true | _ => false
def isDialFail : Ev → Bool | .dialFail => true | _ => false
def isDialOk : Ev → Bool | .dialOk => true | _ => false
def isCloseConn : Ev → Bool | .closeConn => true | _ => false

theorem cnt_bump {κ : Type} [DecidableEq κ] (k k' : κ) (l : List (κ × Nat)) :
    cnt k' (bump k l) = cnt k' l + (if k = k' then 1 else 0) := by
  induction l with
  | nil => simp [bump, cnt]
  | cons x rest ih =>
    obtain ⟨a, n⟩ := x
    simp only [bump]
    split
    · rename_i h; subst h
      simp only [cnt]
      split <;> simp_all
    · rename_i h
      simp only [cnt]
      split
      · rename_i h2; subst h2; simp; exact fun e => h e.symm
      · exact ih

theorem loop_laws (s : Bool) (m : M) (first : Bool) (atts : List Att) :
    (loop s m first atts).1.retries = m.retries + (closureRuns s atts - (if first then 1 else 0)) ∧
    (loop s m first atts).2 = succeeds s atts ∧
    (∀ c, cnt c (loop s m first atts).1.responses = cnt c m.responses + responsesOf s c atts) ∧
    (loop s m first atts).1.cmdAttempts = m.cmdAttempts ∧ (loop s m first atts).1.cmdFailures = m.cmdFailures ∧
    (loop s m first atts).1.connAttempts = m.connAttempts ∧ (loop s m first atts).1.connFailures = m.connFailures ∧
    (loop s m first atts).1.connOpen = m.connOpen ∧ (loop s m first atts).1.sessAttempts = m.sessAttempts ∧
    (loop s m first atts).1.sessFailures = m.sessFailures ∧ (loop s m first atts).1.sessOpen = m.sessOpen := by
  induction atts generalizing m first with
  | nil => cases first <;> simp [loop, closureRuns, succeeds, responsesOf]
  | cons a rest ih =>
    cases a with
    | final c =>
      cases first <;> simp [loop, closureRuns, succeeds, responsesOf, cnt_bump] <;> (intro c'; split <;> simp_all)
    | temp c =>
      simp only [loop, closureRuns, succeeds, responsesOf]
      obtain ⟨h1, h2, h3, h4⟩ := ih { m with retries := if first then m.retries else m.retries + 1, responses := bump c m.responses } false
      refine ⟨?_, h2, ?_, h4⟩
      · rw [h1]; cases first <;> simp <;> omega
      · intro c'; rw [h3 c', cnt_bump, Nat.add_assoc]
    | junk =>
      simp only [loop, closureRuns, succeeds, responsesOf]
      obtain ⟨h1, h2, h3, h4⟩ := ih { m with retries := if first then m.retries else m.retries + 1 } false
      refine ⟨?_, h2, h3, h4⟩
      rw [h1]; cases first <;> simp <;> omega
    | lost =>
      cases s with
      | true => cases first <;> simp [loop, closureRuns, succeeds, responsesOf]
      | false =>
        simp only [loop, closureRuns, succeeds, responsesOf, Bool.false_eq_true, if_false]
        obtain ⟨h1, h2, h3, h4⟩ := ih { m with retries := if first then m.retries else m.retries + 1 } false
        refine ⟨?_, h2, h3, h4⟩
        rw [h1]; cases first <;> simp <;> omega
    | cancelled => cases first <;> simp [loop, closureRuns, succeeds, responsesOf]

theorem command_laws (m : M) (name : String) (s b : Bool) (atts : List Att) :
    (∀ n, cnt n (command m name s b atts).cmdAttempts = cnt n m.cmdAttempts + (if name = n then 1 else 0)) ∧
    (∀ n, cnt n (command m name s b atts).cmdFailures
        = cnt n m.cmdFailures + (if name = n ∧ ¬(succeeds s atts = true ∧ b = true) then 1 else 0)) ∧
    (command m name s b atts).retries = m.retries + (closureRuns s atts - 1) ∧
    (∀ c, cnt c (command m name s b atts).responses = cnt c m.responses + responsesOf s c atts) ∧
    (command m name s b atts).connAttempts = m.connAttempts ∧ (command m name s b atts).connFailures = m.connFailures ∧
    (command m name s b atts).connOpen = m.connOpen ∧ (command m name s b atts).sessAttempts = m.sessAttempts ∧
    (command m name s b atts).sessFailures = m.sessFailures ∧ (command m name s b atts).sessOpen = m.sessOpen := by
  unfold command
  obtain ⟨h1, h2, h3, h4, h5, h6, h7, h8, h9, h10, h11⟩ := loop_laws s { m with cmdAttempts := bump name m.cmdAttempts } true atts
  simp only [] at h1 h2 h3 h4 h5 h6 h7 h8 h9 h10 h11 ⊢
  rw [h2]
  by_cases hok : (succeeds s atts && b) = true
  · have hb : succeeds s atts = true ∧ b = true := by simpa using hok
    rw [if_pos hok]
    refine ⟨fun n => by rw [h4, cnt_bump], fun n => by rw [h5]; simp [hb], by have := h1; simp at this; omega, h3, h6, h7, h8, h9, h10, h11⟩
  · have hb : ¬(succeeds s atts = true ∧ b = true) := by simpa using hok
    rw [if_neg hok]
    refine ⟨fun n => by simp only [h4, cnt_bump], fun n => by simp only [cnt_bump, h5, hb, not_false_eq_true, and_true],
      by have := h1; simp at this; simp only []; omega, h3, h6, h7, h8, h9, h10, h11⟩

def runFrom (m : M) (h : List Ev) : M := h.foldl step m

/-- conservation for ONE event, with the tally of the rest of the history carried along on both sides, so that the
    induction step of `conservation` is transitivity -/
theorem step_laws (m : M) (e : Ev) (h : List Ev) :
    (∀ n, cnt n (step m e).cmdAttempts + calls n h = cnt n m.cmdAttempts + calls n (e :: h)) ∧
    (∀ n, cnt n (step m e).cmdFailures + failedCalls n h = cnt n m.cmdFailures + failedCalls n (e :: h)) ∧
    (step m e).retries + extraTransmissions h = m.retries + extraTransmissions (e :: h) ∧
    (∀ c, cnt c (step m e).responses + responsesIn c h = cnt c m.responses + responsesIn c (e :: h)) ∧
    (step m e).sessAttempts + count isOpen h = m.sessAttempts + count isOpen (e :: h) ∧
    (step m e).sessFailures + count isOpenFail h = m.sessFailures + count isOpenFail (e :: h) ∧
    (step m e).sessOpen + count isOpenOk h - count isCloseSess h
      = m.sessOpen + count isOpenOk (e :: h) - count isCloseSess (e :: h) ∧
    (step m e).connAttempts + count isDial h = m.connAttempts + count isDial (e :: h) ∧
    (step m e).connFailures + count isDialFail h = m.connFailures + count isDialFail (e :: h) ∧
    (step m e).connOpen + count isDialOk h - count isCloseConn h
      = m.connOpen + count isDialOk (e :: h) - count isCloseConn (e :: h) := by
  -- per event: `step` moves the counters of that event only (a dial / open / close event one or two of them by one; a command, and
  -- the Close Session command, the four of `command_laws` by the amounts stated there, the latter also the session gauge), and the
  -- tally clause for that event (`calls` … `count`) adds the same amount on the right; what is left is arithmetic, over Int for the gauges
  cases e <;>
    simp [step, command_laws, calls, failedCalls, extraTransmissions, responsesIn, count, isOpen, isOpenFail, isOpenOk,
      isCloseSess, isDial, isDialFail, isDialOk, isCloseConn, Nat.add_assoc] <;> omega

/-- CONSERVATION: for every history, from any starting values, every exported counter changes by exactly what
    happened: command attempts = calls made, per name; command failures = calls that returned an error; retries =
    runs of the retry closure beyond the first of each call (`extraTransmissions`; a run that meets the context's end
    counts and transmits nothing); responses per completion code = valid responses
    received; session / connection open attempts and failures = opens tried and failed; the two gauges = opens minus
    closes -/
theorem conservation (m : M) (h : List Ev) :
    (∀ n, cnt n (runFrom m h).cmdAttempts = cnt n m.cmdAttempts + calls n h) ∧
    (∀ n, cnt n (runFrom m h).cmdFailures = cnt n m.cmdFailures + failedCalls n h) ∧
    (runFrom m h).retries = m.retries + extraTransmissions h ∧
    (∀ c, cnt c (runFrom m h).responses = cnt c m.responses + responsesIn c h) ∧
    (runFrom m h).sessAttempts = m.sessAttempts + count isOpen h ∧
    (runFrom m h).sessFailures = m.sessFailures + count isOpenFail h ∧
    (runFrom m h).sessOpen = m.sessOpen + count isOpenOk h
        - count isCloseSess h ∧
    (runFrom m h).connAttempts = m.connAttempts + count isDial h ∧
    (runFrom m h).connFailures = m.connFailures + count isDialFail h ∧
    (runFrom m h).connOpen = m.connOpen + count isDialOk h
        - count isCloseConn h := by
  induction h generalizing m with
  | nil => simp [runFrom, calls, failedCalls, extraTransmissions, responsesIn, count]
  | cons e rest ih =>
    obtain ⟨a1, a2, a3, a4, a5, a6, a7, a8, a9, a10⟩ := ih (step m e)
    obtain ⟨s1, s2, s3, s4, s5, s6, s7, s8, s9, s10⟩ := step_laws m e rest
    exact ⟨fun n => (a1 n).trans (s1 n), fun n => (a2 n).trans (s2 n), a3.trans s3, fun c => (a4 c).trans (s4 c),
      a5.trans s5, a6.trans s6, a7.trans s7, a8.trans s8, a9.trans s9, a10.trans s10⟩

/-- matched opens and closes leave the gauges where they were: no history makes them drift -/
theorem gauges_do_not_drift (m : M) (h : List Ev)
    (hs : count isOpenOk h = count isCloseSess h)
    (hc : count isDialOk h = count isCloseConn h) :
    (runFrom m h).sessOpen = m.sessOpen ∧ (runFrom m h).connOpen = m.connOpen := by
  obtain ⟨_, _, _, _, _, _, a7, _, _, a10⟩ := conservation m h
  rw [a7, a10, hs, hc]; omega

open Bmc Bmc.Wire Bmc.Crypto Bmc.Proto in
/-- WIRE ACCOUNTING: the abstract per-attempt outcomes the theorems above quantify over are a function `attOf` of the
    session keys, the command and the BYTES of each reply; with it, for every in-session command whose request serialises and
    every reply script (any bytes, any length, a drawn IV for each reply) under any lawful cipher: the retry counter grows by the number of datagrams the byte-level
    loop model transmits beyond the first (plus the one closure run that notices the expired context when the script
    runs out), and the failure counter grows exactly when the loop returns no response or the body does not decode -/
theorem wire_accounting (C : Ops) (hC : C.Lawful) (c : Cmd) (hf : c.reqFails = false) (s : Sess) (hs : s.inbound < 4294967296)
    (ivs : List Bytes) (script : List Outcome) (hl : script.length ≤ ivs.length) (m : M) (name : String) (b : Bool) :
    let r := sendLoop C c s ivs script
    let m' := command m name true b (script.map (attOf C s.keys c))
    m'.retries = m.retries + (r.2.1.length + (if r.2.2 = .ctxExpired then 1 else 0) - 1) ∧
    (∀ n, cnt n m'.cmdFailures = cnt n m.cmdFailures +
      (if name = n ∧ ¬((match r.2.2 with | .ok _ _ => true | _ => false) = true ∧ b = true) then 1 else 0)) ∧
    (∀ n, cnt n m'.cmdAttempts = cnt n m.cmdAttempts + (if name = n then 1 else 0)) := by
  -- `classify` says `.crash` in its first arm only, where the decoding chain itself ended with `.crash`: never (`decodeChain_total`)
  have hn : noCrash C s.keys c script := by
    intro d _ hcr
    have ht := Bmc.Proofs.C05.decodeChain_total C hC s.keys.sess (GoSlice.ofBytes d)
    unfold classify view at hcr
    split at hcr
    · rename_i heq; exact ht (congrArg Prod.fst heq)
    · split at hcr <;> cases hcr
    · cases hcr
  obtain ⟨h1, h2, _, _⟩ := sendLoop_spec C c hf s hs ivs script hl
  obtain ⟨c1, c2, c3, _⟩ := command_laws m name true b (script.map (attOf C s.keys c))
  obtain ⟨w1, w2⟩ := metrics_wire C s.keys c script hn
  simp only []
  rw [c3, w2, h1, h2]
  refine ⟨by simp, fun n => ?_, c1⟩
  rw [c2 n, w1]
  rfl

/-- TIE to the source (regenerated on every run): every instrumentation site of the module, as
    `<metric>.<method>@<package>.<function>` with multiplicity — exactly the increments `Proto/Metrics.lean` models
    (attempts, failures ×2 and the duration timer in each of the two `SendCommand`s; retries and responses in each of the
    two retry closures; session and connection open / close accounting) plus the transport's byte / latency histograms,
    which no property constrains. An increment added, removed or moved to a function of another name changes this list (the
    entries carry no receiver: a move between two methods called `Close` does not; nor does a move within a function). -/
theorem instrumentation_sites : Bmc.Gen.Facts.metricSites =
    ["commandAttempts.Inc@bmc.SendCommand",
     "commandAttempts.Inc@bmc.SendCommand",
     "commandDuration.NewTimer@bmc.SendCommand",
     "commandDuration.NewTimer@bmc.SendCommand",
     "commandFailures.Inc@bmc.SendCommand",
     "commandFailures.Inc@bmc.SendCommand",
     "commandFailures.Inc@bmc.SendCommand",
     "commandFailures.Inc@bmc.SendCommand",
     "commandResponses.Inc@bmc.buildAndSend",
     "commandResponses.Inc@bmc.buildAndSendCommand",
     "commandRetries.Inc@bmc.buildAndSend",
     "commandRetries.Inc@bmc.buildAndSendCommand",
     "receiveBytes.Observe@transport.Send",
     "responseLatency.Observe@transport.Send",
     "sessionOpenAttempts.Inc@bmc.NewV2Session",
     "sessionOpenFailures.Inc@bmc.NewV2Session",
     "sessionsOpen.Dec@bmc.closeSession",
     "sessionsOpen.Inc@bmc.NewV2Session",
     "transmitBytes.Observe@transport.Send",
     "v2ConnectionOpenAttempts.Inc@bmc.DialV2",
     "v2ConnectionOpenFailures.Inc@bmc.DialV2",
     "v2ConnectionsOpen.Dec@bmc.Close",
     "v2ConnectionsOpen.Inc@bmc.DialV2"] := rfl

example : (run [.dialOk, .openOk, .cmd "Get Device ID" true true [.junk, .temp 0xC0, .final 0], .closeSess [.final 0], .closeConn]).retries = 2 := by
  decide

end Bmc.Proofs.C18
