import Bmc.Lemmas.SdrWalkRetrieve
/-! # C14 — SDR repository retrieval returns one consistent, complete set of records (property theorems only)

    Model of `sdr_repository.go`: `Proto/SdrWalk.lean` (`walk`, `attempt`, `retrieve`, functions of the BMC's answer
    function). Specification of the SDR Repository Device: `Spec/Repo.lean` (`Repo`, `World` = a BMC with the
    modifications still to come). `bmc : Answer World` is that BMC as an answer function; `fullView recs` is the
    expected result: the type-01h records in repository order, each under its own ID, decoded by
    `FullSensorRecord.decode` (whose agreement with the specification's table is C07's `fullSensor_decode_spec`).

    All theorems are for `keyOwn = true`, the REPAIRED map key (`header.ID`). The pinned tree keys by the ID that was
    requested (`keyOwn = false`); the `example` marked DEFECT below exhibits its failure. -/
namespace Bmc.Proofs.C14
open Bmc Bmc.Wire Bmc.Spec Bmc.Proto.SdrWalk Bmc.Lemmas.SdrWalk

/-- For a non-empty repository of ANY size whose Record IDs are distinct, not FFFFh and 0000h at most for the first record, whose
    Full Sensor Records have at most 64 bytes after the header (the library's limit) and decode: against the
    conforming BMC holding it, `walkSDRs` returns exactly the Full Sensor Records, in repository order, each under the
    record's OWN ID — whatever other record types lie between them — given one unit of fuel per record plus one
    (fuel-suffices: the loop runs `recs.length` times and is left on the FFFFh link). -/
theorem walk_complete (R : Repo) (fuel : Nat) (hwf : wfStore R.store.recs) (hne : R.store.recs ≠ [])
    (hfull : wfFull R.store.recs) (hfuel : R.store.recs.length < fuel) :
    (walk true bmc fuel (World.quiet R)).2 = .ok (fullView R.store.recs) := by
  rw [walk_complete_quiet R fuel hwf hne hfull hfuel]

/-- … and so does `RetrieveSDRRepository`, at the first attempt (the timestamps read the same before and after) -/
theorem retrieve_complete (R : Repo) (fuel n : Nat) (hwf : wfStore R.store.recs) (hne : R.store.recs ≠ [])
    (hfull : wfFull R.store.recs) (hfuel : R.store.recs.length < fuel) :
    (retrieve true bmc fuel (n + 1) (World.quiet R)).2 = some (fullView R.store.recs) := by
  rw [retrieve_complete_quiet R fuel n hwf hne hfull hfuel]

/-- "each exactly once, under the record's own ID, with every field equal to the reference decoding": an entry `(k, f)`
    is in the result iff the repository holds a type-01h record with ID `k` whose key-and-body bytes decode to `f`;
    no key occurs twice; and where those bytes are the specification's encoding of field values `v` (every field of
    the §43.1 table, all four ID string encodings, every length), `f` is exactly those values (by C07). -/
theorem result_exact (recs : List SdrRec) (hwf : wfStore recs) :
    (∀ k f, (k, f) ∈ fullView recs ↔ ∃ r ∈ recs, r.typ = 1 ∧ r.id = k ∧ FullSensorRecord.decode r.body = .ok f) ∧
    ((fullView recs).map (·.1)).Nodup ∧
    (∀ r ∈ recs, r.typ = 1 → ∀ v : Spec.FullSensor, v.wf → r.body = v.encode → (r.id, C07.fullSensorView v) ∈ fullView recs) := by
  refine ⟨fullView_mem recs, fullView_nodup recs hwf, ?_⟩
  intro r hr ht v hv hb
  exact (fullView_mem recs _ _).mpr ⟨r, hr, ht, rfl, by rw [hb, C07.fullSensor_decode_spec v hv]⟩

/-- a repository for the examples: first record ID 0005h (Full Sensor Record "CPU Temp" of the library's own test),
    an FRU Device Locator 0002h, a second Full Sensor Record with ID 0100h, an OEM record 0001h -/
def exampleRepo : Repo :=
  { store := { recs := [⟨0x0005, 0x01, C07.cpuTemp.encode⟩, ⟨0x0002, 0x11, [1, 2, 3]⟩,
                        ⟨0x0100, 0x01, ({ C07.cpuTemp with number := 2, idString := ⟨.packed6, [0x38, 0x24]⟩ } : Spec.FullSensor).encode⟩,
                        ⟨0x0001, 0xC0, [0x57, 0x01, 0x00]⟩]
               addTs := 100, eraseTs := 7 } }

example : wfStore exampleRepo.store.recs ∧ exampleRepo.store.recs ≠ [] ∧ wfFull exampleRepo.store.recs ∧
    exampleRepo.store.recs.length < 5 := by decide +kernel

/-- the repaired walk returns the two Full Sensor Records under 0005h and 0100h … -/
example : ((walk true bmc 5 (World.quiet exampleRepo)).2, (walk true bmc 4 (World.quiet exampleRepo)).2) =
    (.ok (fullView exampleRepo.store.recs), .outOfFuel) ∧
    (fullView exampleRepo.store.recs).map (·.1) = [0x0005, 0x0100] := by decide +kernel

/-- DEFECT of the pinned tree (`keyOwn = false`, `repo[getSDRCmd.Req.RecordID] = …`): the first record is requested
    as 0000h and is stored under that key although its own ID is 0005h -/
example : (match (walk false bmc 5 (World.quiet exampleRepo)).2 with | .ok m => m.map (·.1) | _ => []) = [0x0000, 0x0100] := by
  decide +kernel

/-- ANY BMC (no assumption on the answer function): if any Get SDR of a walk fails or completes with a code other than
    00h — C5h "reservation cancelled" in particular — `walkSDRs` does not return a map -/
theorem modified_discarded_getSDR {σ : Type} (k : Bool) (a : Answer σ) (fuel : Nat) (s : σ)
    (h : ∃ e ∈ (walk k (logged a) fuel (s, [])).1.2, badGetSDR e = true) (m : SDRRepository) :
    (walk k (logged a) fuel (s, [])).2 ≠ .ok m := by
  intro hm
  obtain ⟨e, he, hb⟩ := h
  have := walk_log k a fuel s (walk k (logged a) fuel (s, [])).1.1 (walk k (logged a) fuel (s, [])).1.2 m
    (by rw [← hm])
  rw [this e he] at hb
  exact Bool.noConfusion hb

/-- ANY BMC: a walk that did not return a map makes the closure return its error … -/
theorem modified_discarded_walk {σ : Type} (k : Bool) (a : Answer σ) (fuel : Nat) (s s1 s2 : σ) (i1 : SDRRepoInfoRsp)
    (r : Res SDRRepository) (h1 : call a SDRRepoInfoRsp.decode s .repoInfo = (s1, some i1))
    (h2 : walk k a fuel s1 = (s2, r)) (hr : ∀ m, r ≠ .ok m) : attempt k a fuel s = (s2, r) := by
  unfold attempt
  rw [h1]
  simp only
  rw [h2]
  cases r with
  | ok m => exact absurd rfl (hr m)
  | err => rfl
  | outOfFuel => rfl

/-- … and a newer addition or erase timestamp in the final Get SDR Repository Info makes it drop the candidate the
    walk did return -/
theorem modified_discarded_timestamp {σ : Type} (k : Bool) (a : Answer σ) (fuel : Nat) (s s1 s2 s3 : σ)
    (i1 i2 : SDRRepoInfoRsp) (cand : SDRRepository)
    (h1 : call a SDRRepoInfoRsp.decode s .repoInfo = (s1, some i1)) (h2 : walk k a fuel s1 = (s2, .ok cand))
    (h3 : call a SDRRepoInfoRsp.decode s2 .repoInfo = (s3, some i2))
    (hnew : i1.lastAddition < i2.lastAddition ∨ i1.lastErase < i2.lastErase) : attempt k a fuel s = (s3, .err) := by
  unfold attempt
  rw [h1]
  simp only
  rw [h2]
  simp only
  rw [h3]
  simp only
  rw [if_pos hnew]

/-- ANY BMC: whenever the closure did not return a candidate, the retry loop runs it again from the BMC's current
    state — a new Get SDR Repository Info, a new reservation, an empty map — as long as the context allows -/
theorem modified_discarded_repeat {σ : Type} (k : Bool) (a : Answer σ) (fuel n : Nat) (s s' : σ) (r : Res SDRRepository)
    (h : attempt k a fuel s = (s', r)) (hr : ∀ m, r ≠ .ok m) :
    retrieve k a fuel (n + 1) s = retrieve k a fuel n s' := by
  rw [retrieve, h]
  cases r with
  | ok m => exact absurd rfl (hr m)
  | err => rfl
  | outOfFuel => rfl

/-- a BMC whose reservation is lost just before the 2nd Get SDR (the body read of the first record): C5h, the walk is
    repeated; one attempt is not enough, two are -/
def loseWorld : World := { repo := exampleRepo, sched := [(true, []), (true, [.lose])] }
example : ((retrieve true bmc 5 1 loseWorld).2, (retrieve true bmc 5 2 loseWorld).2) =
    (none, some (fullView exampleRepo.store.recs)) := by decide +kernel

/-- For a BMC whose repository may be modified (records added, deleted) and whose reservation may be lost before ANY
    request, any number of times, each modification bumping its timestamp and every store it passes through being
    well formed (`World.Inv`): whatever `RetrieveSDRRepository` returns is exactly the Full Sensor Records the
    repository holds at the instant the final Get SDR Repository Info of the successful run is answered (`w'` is the
    BMC at that instant) … -/
theorem snapshot (fuel n : Nat) (w w' : World) (m : SDRRepository) (hInv : w.Inv)
    (h : retrieve true bmc fuel n w = (w', some m)) : m = fullView w'.repo.store.recs := by
  have := (retrieve_sound fuel n w hInv).2 m (by rw [h])
  rwa [h] at this

/-- … and during that whole run — from the answer to its initial Get SDR Repository Info to the answer to its final one —
    the records did not change: every read of the run saw that one state -/
theorem snapshot_run (fuel : Nat) (w w' : World) (m : SDRRepository) (hInv : w.Inv)
    (h : attempt true bmc fuel w = (w', .ok m)) :
    m = fullView w'.repo.store.recs ∧ w'.repo.store.recs = (w.answer .info).1.repo.store.recs :=
  attempt_sound fuel w w' m hInv h

/-- the hypothesis is satisfiable on a BMC that changes under the walk: just before the 6th Get SDR (the header read
    of the last record) the Full Sensor Record 0005h, which the walk has already collected, is deleted -/
def modWorld : World :=
  { repo := exampleRepo
    sched := [(true, []), (true, []), (true, []), (true, []), (true, []), (true, [.delete 0x0005])] }
example : modWorld.Inv := inv_of_prefixes modWorld (by decide +kernel)

/-- on it the walk itself notices nothing — no partial read follows the deletion, so no C5h — and returns the stale
    candidate {0005h, 0100h}; the erase timestamp of the final Get SDR Repository Info is newer, the candidate is
    dropped (one attempt: error), and the second run returns the repository as it then stands: {0100h} -/
example : (match (walk true bmc 6 modWorld).2 with | .ok m => m.map (·.1) | _ => []) = [0x0005, 0x0100] ∧
    (retrieve true bmc 6 1 modWorld).2 = none ∧
    (match (retrieve true bmc 6 2 modWorld).2 with | some m => m.map (·.1) | none => []) = [0x0100] := by
  decide +kernel

end Bmc.Proofs.C14
