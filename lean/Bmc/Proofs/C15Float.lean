import Bmc.Lemmas.FloatModel
import Bmc.Lemmas.Binary64
import Bmc.Spec.Sensor
import Bmc.Gen.Facts
/-! # C15, the floating-point clause under the STANDARD MODEL of floating-point arithmetic (property-support theorems)

`Proofs/C15.lean` proves the reader against the specification with `ConvertReading`'s arithmetic replaced by its exact value.
Here the arithmetic itself is modelled: `ConvertReading` computes

    mX := int64(f.M) * int64(raw);  b10k1 := float64(f.B) * math.Pow10(int(f.BExp));
    return (float64(mX) + b10k1) * math.Pow10(int(f.RExp))

Conversions `float64(mX)`, `float64(f.B)` are exact (integers below 2⁵³); `math.Pow10(k)` for |k| < 32 is one table entry (k ≥ 0) or
one division `1 / 10^|k|` (k < 0), i.e. the correctly rounded 10^k; the product, the sum and the final product are one IEEE-754
operation each. So the value returned is `convertFloat R …` for the rounding `R` of binary64 — FIVE roundings. The theorem holds for
EVERY rounding function with relative error ≤ u (`FloatModel.Rounding`: the standard model; IEEE-754 binary64 round-to-nearest has
u = 2⁻⁵³ on the normal range; for the factors a record can hold — |M|, |B| ≤ 512, −8 ≤ K1, K2 ≤ 7, −128 ≤ x ≤ 255 — every exact
intermediate value is 0 or lies between 10⁻¹⁶ and 5.2·10¹⁶ in magnitude, far inside that range): the result is within
`((1+u)⁵ − 1)·(|M·x| + |B|·10^K1)·10^K2` of the specification's value, hence within `6u` of that magnitude — EXACTLY the tolerance
the correspondence check applies to the real `float64` on every run (`c15LinearCheck`: ratio ≤ 6). What stays trusted:
that Go's `float64` operations are correctly rounded (IEEE-754), i.e. that they are an instance of `Rounding`. -/
namespace Bmc.Proofs.C15
open Bmc Bmc.FloatModel

/-- the body of `(*ConversionFactors).ConvertReading` AS IT STANDS IN THE SOURCE ON THIS RUN (regenerated by `tools/factgen`) is the
    three statements `convertFloat` transcribes: an exact int64 product, `float64(B) * Pow10(K1)`, and `(float64(mX) + b10k1) *
    Pow10(K2)` — five roundings. A rewrite of the expression (another association, an integer fraction, a fused form) breaks this
    obligation, because the error analysis below would no longer be about the code. -/
theorem convertReading_source : Bmc.Gen.Facts.convertReadingBody =
    "{ mX := int64(f.M) * int64(raw) b10k1 := float64(f.B) * math.Pow10(int(f.BExp)) return (float64(mX) + b10k1) * math.Pow10(int(f.RExp)) }" := rfl

theorem ab_pow10 (k : Int) : ab ((10 : Rat) ^ k) = (10 : Rat) ^ k := ab_of_nonneg _ (Rat.zpow_nonneg (by decide))

/-- the five-rounding value stands for the specification's value: magnitude at most `(|M·x| + |B|·10^K1)·10^K2`, accumulated
    factor `(1+u)⁵` -/
theorem convert_approx (R : Rounding) (M B K1 K2 x : Int) :
    Approx (convertFloat R M B K1 K2 x) (Spec.Sensor.linearValue M B K1 K2 x)
      ((ab ((M : Rat) * (x : Rat)) + ab (B : Rat) * (10 : Rat) ^ K1) * (10 : Rat) ^ K2) ((1 + R.u) ^ 5) := by
  have p1 := (Approx.exact ((10 : Rat) ^ K1)).rnd R
  have m1 := ((Approx.exact (B : Rat)).mul p1).rnd R
  have s := (((Approx.exact ((M : Rat) * (x : Rat))).mono m1.c1).add m1).rnd R
  have p2 := (Approx.exact ((10 : Rat) ^ K2)).rnd R
  have r := (s.mul p2).rnd R
  rw [ab_pow10, ab_pow10] at r
  have e : (1 : Rat) * (1 * (1 + R.u)) * (1 + R.u) * (1 + R.u) * (1 * (1 + R.u)) * (1 + R.u) = (1 + R.u) ^ 5 := by grind
  rwa [e] at r

theorem convert_error (R : Rounding) (M B K1 K2 x : Int) :
    ab (convertFloat R M B K1 K2 x - Spec.Sensor.linearValue M B K1 K2 x) ≤
      (ab ((M : Rat) * (x : Rat)) + ab (B : Rat) * (10 : Rat) ^ K1) * (10 : Rat) ^ K2 * ((1 + R.u) ^ 5 - 1) :=
  (convert_approx R M B K1 K2 x).err

/-- `(1+u)⁵ − 1 ≤ 6u` for every u ≤ 1 % (binary64: u = 2⁻⁵³) -/
theorem five_roundings (u : Rat) (h0 : 0 ≤ u) (h : u ≤ 1 / 100) : (1 + u) ^ 5 - 1 ≤ 6 * u := by
  have h2 : u * u ≤ u * (1 / 100) := Rat.mul_le_mul_of_nonneg_left h h0
  have u2 : 0 ≤ u * u := Rat.mul_nonneg h0 h0
  have h3 : u * u * u ≤ u * u * (1 / 100) := Rat.mul_le_mul_of_nonneg_left h u2
  have u3 : 0 ≤ u * u * u := Rat.mul_nonneg u2 h0
  have h4 : u * u * u * u ≤ u * u * u * (1 / 100) := Rat.mul_le_mul_of_nonneg_left h u3
  have u4 : 0 ≤ u * u * u * u := Rat.mul_nonneg u3 h0
  have h5 : u * u * u * u * u ≤ u * u * u * u * (1 / 100) := Rat.mul_le_mul_of_nonneg_left h u4
  have e : (1 + u) ^ 5 - 1 = 5 * u + 10 * (u * u) + 10 * (u * u * u) + 5 * (u * u * u * u) + u * u * u * u * u := by grind
  rw [e]
  grind

/-- **the tolerance of the correspondence check is a theorem**: under any rounding with u ≤ 1 %, `ConvertReading` is within
    `6·u·(|M·x| + |B|·10^K1)·10^K2` of `(M·x + B·10^K1)·10^K2`, for ALL integers M, B, K1, K2, x -/
theorem convert_within_6u (R : Rounding) (hu : R.u ≤ 1 / 100) (M B K1 K2 x : Int) :
    ab (convertFloat R M B K1 K2 x - Spec.Sensor.linearValue M B K1 K2 x) ≤
      6 * R.u * ((ab ((M : Rat) * (x : Rat)) + ab (B : Rat) * (10 : Rat) ^ K1) * (10 : Rat) ^ K2) := by
  have h := convert_approx R M B K1 K2 x
  have := Rat.mul_le_mul_of_nonneg_left (five_roundings R.u R.u_nonneg hu) h.magA
  have := h.err
  grind

/-- **binary64**: IEEE-754 round-to-nearest-even (`Lemmas/Binary64.lean: rnd64`, an INSTANCE of the standard model with u = 2⁻⁵³,
    `rnd64_err`) — the five-rounding value, which the driver computes exactly and the correspondence run compares BIT FOR BIT with
    the `float64` the real `ConvertReading` returned, is within 6·2⁻⁵³ of the magnitude from the specification's value -/
theorem convert_binary64_within_6u (M B K1 K2 x : Int) :
    ab (convertFloat Rounding.binary64 M B K1 K2 x - Spec.Sensor.linearValue M B K1 K2 x) ≤
      6 * u64 * ((ab ((M : Rat) * (x : Rat)) + ab (B : Rat) * (10 : Rat) ^ K1) * (10 : Rat) ^ K2) :=
  convert_within_6u Rounding.binary64 binary64_u_small M B K1 K2 x

/-- the sample of DESIGN §5 (M = −3, B = 7, K1 = 2, K2 = −1, x = −128): exactly 108.4, computed 108.4 rounded to binary64 -/
example : convertFloat Rounding.binary64 (-3) 7 2 (-1) (-128) = 3813985934429389 / 35184372088832 := by decide +kernel

/-- `rnd64` never falls back: it is rounding to 53 significant bits on every non-zero rational (re-exported for the audit) -/
theorem binary64_is_rounding_to_53_bits (x : Rat) (hx : x ≠ 0) :
    rnd64 x = (nearestEven (x / (pow2 (expOf x) * c52)) : Rat) * (pow2 (expOf x) * c52) ∧ exponentOk x = true :=
  ⟨rnd64_eq x hx, exponentOk_of_ne_zero x hx⟩

/-- the square root the driver evaluates for the bit-for-bit comparison of linearisation 0Ah (`math.Sqrt`) is the correctly rounded one:
    within half a unit in the last place of √v, for EVERY positive rational (re-exported for the audit) -/
theorem sqrt64_is_correctly_rounded (v : Rat) (hv : 0 < v) :
    (sqrt64 v - sqrtUlp v / 2) * (sqrt64 v - sqrtUlp v / 2) ≤ v ∧
    v ≤ (sqrt64 v + sqrtUlp v / 2) * (sqrt64 v + sqrtUlp v / 2) ∧ sqrtUlp v ≤ sqrt64 v :=
  sqrt64_correctly_rounded v hv

/-- `convertFloat` at binary64 with its definition unfolded: the five nested `rnd64`s. (`Driver.Conv.linearFloat`, whose value the
    driver prints as `~lin=`, computes the same nesting through `let`s on the reader's integers; no theorem states that.) -/
theorem driver_prints_convertFloat (M B K1 K2 x : Int) :
    Rounding.binary64.rnd (Rounding.binary64.rnd ((M : Rat) * (x : Rat) + Rounding.binary64.rnd ((B : Rat) * Rounding.binary64.rnd ((10 : Rat) ^ K1)))
      * Rounding.binary64.rnd ((10 : Rat) ^ K2)) = convertFloat Rounding.binary64 M B K1 K2 x := rfl

/-- with exact arithmetic (u = 0, an instance of `Rounding`) the model IS the specification's value -/
theorem convert_exact_rounding (M B K1 K2 x : Int) :
    convertFloat Rounding.exact M B K1 K2 x = Spec.Sensor.linearValue M B K1 K2 x := rfl

end Bmc.Proofs.C15
