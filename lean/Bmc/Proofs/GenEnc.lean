import Bmc.Proofs.GenEnc.TranslatedOk
import Bmc.Proofs.GenEnc.GetSensorReadingReq
import Bmc.Proofs.GenEnc.GetDCMICapabilitiesInfoReq
import Bmc.Proofs.GenEnc.GetDCMISensorInfoReq
import Bmc.Proofs.GenEnc.ChassisControlReq
import Bmc.Proofs.GenEnc.CloseSessionReq
import Bmc.Proofs.GenEnc.GetChannelAuthenticationCapabilitiesReq
import Bmc.Proofs.GenEnc.GetChannelCipherSuitesReq
import Bmc.Proofs.GenEnc.GetSDRReq
import Bmc.Proofs.GenEnc.GetSessionInfoReq
import Bmc.Proofs.GenEnc.SetSessionPrivilegeLevelReq
import Bmc.Proofs.GenEnc.OpenSessionReq
import Bmc.Proofs.GenEnc.RAKPMessage3
import Bmc.Proofs.GenEnc.RAKPMessage1
import Bmc.Proofs.GenEnc.V1Session
import Bmc.Proofs.GenEnc.Message
import Bmc.Proofs.GenEnc.GetPowerReadingReq
import Bmc.Proofs.GenEnc.V2Session
import Bmc.Proofs.GenEnc.AES128CBC
/-! # The serialisers RE-TRANSLATED from the Go source on every run are the hand-written encoder models (property-support theorems)

`Bmc.Gen.Enc.T.serializeTo` is emitted by `tools/encgen` from `(*T).SerializeTo` of the source as it stands, statement by
statement, over the model of gopacket's `SerializeBuffer` of `Basic/GoEnc.lean`: the bytes handed back by `PrependBytes` /
`AppendBytes` have INDETERMINATE content (`stale`: whatever an earlier packet left in the reused buffer) and the result is
what the buffer holds after the method (`inner` = what it held before). Each `T_enc_eq` says this IS the model
`Bmc.Wire.…encode` that C06 / C08 reason about — for every layer value, every inner payload and EVERY `stale`, i.e. the
serialiser writes every byte it claims. A source change to one of these serialisers (a byte left unwritten on one
path, two fields swapped, a changed mask) changes `Gen/Enc.lean` and breaks the corresponding obligation at build time. -/
