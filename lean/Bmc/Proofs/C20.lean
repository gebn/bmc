import Bmc.Gen.Prims
import Bmc.Spec.Prim
import Bmc.Prim.Checksum
import Bmc.Lemmas.StringsSpec
import Bmc.Lemmas.Packed6Spec
/-! # C20 — primitive value conversions are correct on their entire domains (property theorems only)

`Bmc.Gen.*` are the Go functions as translated from SSA on this run (tie T2); `Bmc.Prim.*` are the
hand models of the looping functions (tie T3); `Bmc.Spec.*` are the mathematical definitions. -/
namespace Bmc.Proofs.C20
open Bmc Bmc.Gen Bmc.Prim

/-- BCD: high nibble is tens, low nibble is units (wrapping like the uint8 arithmetic) -/
theorem bcd_decode : ∀ b : BitVec 8, (bcdDecode b).toNat = Spec.bcd b.toNat :=
  forall_bv8 (by decide +kernel)

/-- 8-bit one's complement, both zeros map to 0 -/
theorem ones_spec : ∀ b : BitVec 8, (ones b).toInt = Spec.ones8 b.toNat :=
  forall_bv8 (by decide +kernel)

/-- two's complement of the 10-bit fields (M, B, accuracy), from the two big-endian bytes the decoders build -/
theorem twos_10 : ∀ n : Nat, n < 1024 →
    (twos (BitVec.ofNat 8 (n / 256)) (BitVec.ofNat 8 (n % 256)) 10).toInt = Spec.twos 10 n := by
  decide +kernel

/-- two's complement of the 4-bit exponents (K1, K2) -/
theorem twos_4 : ∀ n : Nat, n < 16 → (twos 0 (BitVec.ofNat 8 n) 4).toInt = Spec.twos 4 n := by
  decide +kernel

/-- every width 1…8 in one statement -/
theorem twos_le8 : ∀ bits : Nat, bits < 9 → 1 ≤ bits → ∀ n : Nat, n < 2 ^ bits →
    (twos 0 (BitVec.ofNat 8 n) (BitVec.ofNat 8 bits)).toInt = Spec.twos bits n := by
  decide +kernel

theorem analog_unsigned : ∀ b : BitVec 8, (adfUnsigned b).toInt = b.toNat := forall_bv8 (by decide +kernel)
theorem analog_ones : ∀ b : BitVec 8, (adfOnes b).toInt = Spec.ones8 b.toNat := forall_bv8 (by decide +kernel)
theorem analog_twos : ∀ b : BitVec 8, (adfTwos b).toInt = Spec.twos 8 b.toNat := forall_bv8 (by decide +kernel)

/-- entity instances: system-relative ≤ 0x5f, device-relative 0x60…0x7f, exactly one of the two on the 7-bit domain -/
theorem entity_split : ∀ n : Nat, n < 128 →
    eiSystemRelative (BitVec.ofNat 8 n) = Spec.systemRelative n ∧
    eiDeviceRelative (BitVec.ofNat 8 n) = Spec.deviceRelative n ∧
    (eiSystemRelative (BitVec.ofNat 8 n) != eiDeviceRelative (BitVec.ofNat 8 n)) = true := by
  decide +kernel

/-- the classification is also right on the reserved upper half of the byte -/
theorem entity_all : ∀ b : BitVec 8,
    eiSystemRelative b = Spec.systemRelative b.toNat ∧ eiDeviceRelative b = Spec.deviceRelative b.toNat :=
  forall_bv8 (by decide +kernel)

/-- rolling-average byte → duration in ns: (b & 63) units of s / min / h / d -/
theorem rolling_duration : ∀ b : BitVec 8, (rollingAvgPeriodDuration b).toNat = Spec.rollingDurationNs b.toNat :=
  forall_bv8 (by decide +kernel)

/-- duration → byte, for EVERY whole number of seconds (not only up to 64 days) -/
theorem rolling_byte (secs : Nat) : rollingByteGo secs = Spec.rollingByte secs := rollingByteGo_spec secs

/-- the byte chosen for a duration stands for a duration not above it and less than one unit below it
    (up to the 63-day clamp) -/
theorem rolling_byte_floor (secs : Nat) (h : secs < 64 * 86400) :
    Spec.rollingDurationNs (Spec.rollingByte secs) ≤ 1000000000 * secs ∧
    1000000000 * secs < Spec.rollingDurationNs (Spec.rollingByte secs)
        + 1000000000 * Spec.unitSeconds (Spec.rollingByte secs / 64) := by
  unfold Spec.rollingByte
  split
  · simpa using rolling_floor_unit secs 0 1 rfl (by decide) (by omega)
  · split
    · exact rolling_floor_unit secs 1 60 rfl (by decide) (by omega)
    · split
      · exact rolling_floor_unit secs 2 3600 rfl (by decide) (by omega)
      · rw [show min (secs / 86400) 63 = secs / 86400 by omega]
        exact rolling_floor_unit secs 3 86400 rfl (by decide) (by omega)

/-- beyond 63 days the byte is clamped to 63 days -/
theorem rolling_byte_clamp (secs : Nat) (h : 63 * 86400 ≤ secs) : Spec.rollingByte secs = 0xff := by
  unfold Spec.rollingByte
  have : min (secs / 86400) 63 = 63 := by omega
  rw [this]
  repeat' split
  all_goals omega

/-- byte → duration → byte is the identity on every byte whose value does not fit a coarser unit exactly
    below it, i.e. on the canonical encodings: value < 60 s, < 60 min, < 24 h, any number of days -/
theorem rolling_roundtrip : ∀ n : Nat, n < 256 →
    (n % 64 ≠ 0 ∧ (n / 64 = 0 → n % 64 < 60) ∧ (n / 64 = 1 → n % 64 < 60) ∧ (n / 64 = 2 → n % 64 < 24)) →
    Spec.rollingByte (Spec.rollingDurationNs n / 1000000000) = n := by
  decide +kernel

/-- temporary completion codes are exactly node busy and timeout -/
theorem temporary_codes : ∀ c : BitVec 8, ccIsTemporary c = Spec.isTemporary c.toNat :=
  forall_bv8 (by decide +kernel)

theorem linearisation_classes : ∀ l : BitVec 8,
    linIsLinear l = Spec.isLinear l.toNat ∧ linIsLinearised l = Spec.isLinearised l.toNat ∧
    linIsNonLinear l = Spec.isNonLinear l.toNat :=
  forall_bv8 (by decide +kernel)

theorem request_functions : ∀ n : BitVec 8, nfIsRequest n = Spec.isRequestFn n.toNat :=
  forall_bv8 (by decide +kernel)

/-- the modelled checksum is the specification's (the two definitions are the same expression; what the checksum IS is
    `checksum_sum` / `checksum_unique`) -/
theorem checksum_model (bs : Bytes) : checksum bs = Spec.checksum bs := rfl

/-- the IPMI checksum makes the byte sum vanish, for data of every length -/
theorem checksum_sum (bs : Bytes) : sum (bs ++ [Spec.checksum bs]) = 0 := by
  simp [sum, Spec.checksum, List.foldl_append, UInt8.add_right_neg]

/-- … and it is the only byte that does -/
theorem checksum_unique (bs : Bytes) (c : UInt8) (h : sum (bs ++ [c]) = 0) : c = Spec.checksum bs := by
  simp only [sum, Spec.checksum, List.foldl_append, List.foldl_cons, List.foldl_nil] at h ⊢
  generalize List.foldl (fun x1 x2 => x1 + x2) 0 bs = s at h ⊢
  have : c = (s + c) - s := by rw [UInt8.add_comm, UInt8.add_sub_cancel]
  rw [this, h]

example : Spec.checksum [0x20, 0x18] = 0xc8 := by decide   -- FreeIPMI example used by the repo's own test

/-- BCD plus, for every character count and every data (Go slice of any capacity): the specified
    characters and ⌈c/2⌉ bytes consumed, an error when the data is too short, never a panic -/
theorem bcd_plus (d : GoSlice) (c : Nat) : bcdPlusGo d c = R.ofOption (Spec.bcdPlus d.vis c) := bcdPlusGo_spec d c

example : Spec.bcdPlus [0x12, 0xab, 0xf0] 5 = some ([0x31, 0x32, 0x20, 0x2d, 0x5f], 3) := by decide +kernel

/-- 8-bit ASCII + Latin-1, for every length from zero upward -/
theorem latin1 (d : GoSlice) (c : Nat) : latin1Go d c = R.ofOption (Spec.latin1 d.vis c) := latin1Go_spec d c

/-- packed 6-bit ASCII: decoding the packing of ANY sequence of 6-bit codes (any length, any following bytes)
    returns the characters 20h + code and consumes n − ⌊n/4⌋ bytes -/
theorem packed6_roundtrip (d : GoSlice) (cs : List UInt8) (hc : Codes cs) (hd : Holds d cs) :
    decode6Go d cs.length = R.ok (cs.map (· + 0x20), cs.length - cs.length / 4) := decode6_spec d cs hc hd

theorem packed6_short (d : GoSlice) (c : Nat) (h : d.len < c - c / 4) : decode6Go d c = R.err := decode6_short d c h

/-- the hypotheses of `packed6_roundtrip` are met by the packing of a concrete string -/
example : Codes [1, 2, 63, 0, 17] ∧ Holds (GoSlice.ofBytes (pack6 [1, 2, 63, 0, 17] ++ [0xaa])) [1, 2, 63, 0, 17] := by
  refine ⟨by unfold Codes; decide, by decide, ?_⟩
  intro k hk
  have : k < 4 := by simpa [pack6] using hk
  have hall : ∀ k : Nat, k < 4 → List.getD (GoSlice.ofBytes (pack6 [1, 2, 63, 0, 17] ++ [170])).vis k 0
      = packByte [1, 2, 63, 0, 17] k := by decide
  exact hall k this

end Bmc.Proofs.C20
