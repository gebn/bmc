import Bmc.Lemmas.SessionSpec
import Bmc.Lemmas.SessionlessSpec
import Bmc.Lemmas.ResponseAccepted
import Bmc.Lemmas.HandshakeLoss
import Bmc.Lemmas.SessionlessLive
/-! # C10 — retries re-send the same well-formed request until a final answer arrives (property theorems only)

`expected` / `slExpected` are the documented contract as a fold over the per-attempt outcomes: the first reply that
is an acceptable response with a non-temporary completion code ends the call with that code; temporary codes and
undecodable / unacceptable replies cause a retransmission; a lost reply is retried outside a session and ends the
command inside one. -/
namespace Bmc.Proofs.C10
open Bmc Bmc.Wire Bmc.Crypto Bmc.Proto

/-- in-session: result and number of transmissions are the contract's, and the i-th transmission is the complete
    datagram for THIS command under these keys with sequence number counter+i+1 and the i-th IV draw — for every
    script of every length -/
theorem session_send_refines (C : Ops) (c : Cmd) (hf : c.reqFails = false) (s : Sess) (hs : s.inbound < 4294967296)
    (ivs : List Bytes) (script : List Outcome) (hl : script.length ≤ ivs.length) :
    (sendLoop C c s ivs script).2.2 = (expected (classify C s.keys c) script).2 ∧
    (sendLoop C c s ivs script).2.1
      = (List.range (expected (classify C s.keys c) script).1).map
          (fun i => datagramOf C s.keys c ((s.inbound + i) % 4294967296) (ivs.getD i [])) :=
  ⟨(sendLoop_spec C c hf s hs ivs script hl).1, (sendLoop_spec C c hf s hs ivs script hl).2.1⟩

/-- the contract inside a session: a transport failure ends the command at once — one transmission, an error, nothing after it
    (that the loop follows the contract is `session_send_refines`) -/
theorem lost_in_session_stops (cls : Bytes → Class) (rest : List Outcome) :
    expected cls (.lost :: rest) = (1, .transportErr) := rfl

/-- temporary codes (node busy C0, timeout C3) are never final: a reply classified final has another code -/
theorem final_is_not_temporary (C : Ops) (k : Keys) (c : Cmd) (d : Bytes) (cc : UInt8) (p : Bytes)
    (h : classify C k c d = .final cc p) : cc ≠ 0xC0 ∧ cc ≠ 0xC3 := by
  obtain ⟨v2, msg, _, _, ht, hcc, _⟩ := classify_final_inv C k c d cc p h
  subst hcc
  simp [isTemp] at ht
  exact ht

/-- session-less: result and number of transmissions are the contract's; every transmission is the one datagram
    serialised for this command; lost replies are retried until the context expires (the script runs out) -/
theorem sessionless_send_refines (c : Cmd) (hf : c.reqFails = false) (script : List Outcome) :
    (slSend c script).2 = (slExpected (slClassify c) script).2 ∧
    (slSend c script).1 = List.replicate (slExpected (slClassify c) script).1 (slSerialize c).2 := by
  unfold slSend
  simp only [hf, Bool.false_eq_true, if_false]
  exact slLoop_spec c _ _ script

theorem lost_sessionless_retries (cls : Bytes → Class) (rest : List Outcome) :
    slExpected cls (.lost :: rest) = ((slExpected cls rest).1 + 1, (slExpected cls rest).2) := rfl

/-- a request that cannot be serialised is an error and nothing is transmitted (both paths) -/
theorem unserialisable_sends_nothing (C : Ops) (c : Cmd) (hf : c.reqFails = true) (s : Sess) (iv : Bytes) (ivs : List Bytes)
    (o : Outcome) (rest : List Outcome) :
    (sendLoop C c s (iv :: ivs) (o :: rest)).2 = ([], .serializeErr) ∧ slSend c (o :: rest) = ([], .serializeErr) :=
  ⟨by rw [sendLoop_serfail C c hf], by rw [slSend, if_pos hf]⟩

/-- a conforming response as the script sees it: (completion code, body, wrapper sequence number, IV) -/
structure BmcAnswer where
  cc : UInt8
  data : Bytes
  seq : Nat
  iv : Bytes

def BmcAnswer.ok (C : Ops) (k : Keys) (c : Cmd) (a : BmcAnswer) : Prop :=
  a.iv.length = 16 ∧ (responseMsg c a.cc).WF ∧ a.seq < 4294967296 ∧ (responseAes C k c a.cc a.data a.iv).length < 65536

def BmcAnswer.datagram (C : Ops) (k : Keys) (c : Cmd) (a : BmcAnswer) : Outcome :=
  .reply (responseDatagram C k c a.cc a.data a.seq a.iv)

/-- RETRY LIVENESS, in session: the BMC answers any number of times with conforming responses carrying a temporary
    completion code (node busy C0 / timeout C3) and then with a conforming response carrying another code: the
    library transmits the command's datagram once per answer — each the complete datagram for THIS command with the next
    sequence number and IV draw — and returns that code and that body. For every lawful crypto, key set, command,
    counter, number of busy answers, and whatever follows in the script. -/
theorem busy_then_final (C : Ops) (hC : C.Lawful) (c : Cmd) (hf : c.reqFails = false) (s : Sess) (hs : s.inbound < 4294967296)
    (hid : s.localID < 4294967296) (busy : List BmcAnswer) (fin : BmcAnswer) (rest : List Outcome) (ivs : List Bytes)
    (hb : ∀ a ∈ busy, a.ok C s.keys c ∧ isTemp a.cc = true) (hfin : fin.ok C s.keys c) (hnt : isTemp fin.cc = false)
    (hl : busy.length + 1 + rest.length ≤ ivs.length) :
    (sendLoop C c s ivs (busy.map (BmcAnswer.datagram C s.keys c) ++ fin.datagram C s.keys c :: rest)).2 =
      ((List.range (busy.length + 1)).map (fun i => datagramOf C s.keys c ((s.inbound + i) % 4294967296) (ivs.getD i [])),
       .ok fin.cc fin.data) := by
  obtain ⟨h1, h2, h3, h4⟩ := hfin
  have hbusy : ∀ o ∈ busy.map (BmcAnswer.datagram C s.keys c), ∃ d, o = .reply d ∧ classify C s.keys c d = .retry := by
    intro o ho
    obtain ⟨a, ha, rfl⟩ := List.mem_map.mp ho
    obtain ⟨⟨h1, h2, h3, h4⟩, ht⟩ := hb a ha
    exact ⟨_, rfl, by rw [classify_response C hC s.keys c a.cc a.data a.seq a.iv h1 h2 hid h3 h4, ht]; rfl⟩
  have hfinal := classify_response C hC s.keys c fin.cc fin.data fin.seq fin.iv h1 h2 hid h3 h4
  rw [hnt] at hfinal
  exact (sendLoop_retries_then_final C c hf s hs ivs _ hbusy _ _ _ hfinal rest (by simpa using hl)).trans (by rw [List.length_map]; rfl)

/-- HANDSHAKE PAYLOADS: while replies are lost or do not decode down to a session wrapper the library re-sends the SAME
    setup datagram (Open Session Request, RAKP 1, RAKP 3 alike), once per such outcome, and carries on with the first
    reply that does: the result is that of the loss-free exchange, and what is transmitted is the loss-free run's three
    datagrams, each repeated — for every credential set, suite and any replies `r1 r2 r3` that end their exchanges -/
theorem handshake_payload_retries (C : Ops) (o : Opts) (rm : Bytes) (j1 j2 j3 : List Outcome) (r1 r2 r3 : Bytes) (tail : List Outcome)
    (h1 : ∀ x ∈ j1, Skipped x) (h2 : ∀ x ∈ j2, Skipped x) (h3 : ∀ x ∈ j3, Skipped x) (e1 : Ends r1) (e2 : Ends r2) (e3 : Ends r3) :
    (newSession C o rm (j1 ++ .reply r1 :: (j2 ++ .reply r2 :: (j3 ++ .reply r3 :: tail)))).2 =
      (newSession C o rm [.reply r1, .reply r2, .reply r3]).2 ∧
    ∀ d1 d2 d3, (newSession C o rm [.reply r1, .reply r2, .reply r3]).1 = [d1, d2, d3] →
      (newSession C o rm (j1 ++ .reply r1 :: (j2 ++ .reply r2 :: (j3 ++ .reply r3 :: tail)))).1 =
        List.replicate (j1.length + 1) d1 ++ List.replicate (j2.length + 1) d2 ++ List.replicate (j3.length + 1) d3 :=
  ⟨newSession_skips C o rm j1 j2 j3 r1 r2 r3 tail h1 h2 h3 e1 e2 e3,
   fun d1 d2 d3 hb => newSession_retransmits C o rm j1 j2 j3 r1 r2 r3 tail h1 h2 h3 e1 e2 e3 d1 d2 d3 hb⟩

/-- SESSION-LESS RETRY LIVENESS: outside a session, any number of lost replies, conforming responses with a temporary
    completion code and conforming responses to OTHER operations (each `SlNoise`) are each followed by a retransmission
    of the one serialised datagram, and the first conforming response to the pending command with another completion
    code ends the call with that code and data — whatever the BMC put in the wrapper's session ID / sequence fields -/
theorem sessionless_retries_until_final (c : Cmd) (hf : c.reqFails = false) (noise : List Outcome) (hn : ∀ o ∈ noise, SlNoise c o)
    (sid seq : Nat) (cc : UInt8) (data : Bytes) (rest : List Outcome) (hm : (responseMsg c cc).WF) (hsid : sid < 4294967296)
    (hseq : seq < 4294967296) (hlen : (responseBytes c cc data).length < 65536) (hnt : isTemp cc = false) :
    slSend c (noise ++ .reply (slResponseDatagramWith sid seq c cc data) :: rest) =
      (List.replicate (noise.length + 1) (slSerialize c).2, .ok cc data) := by
  have hfinal := slClassify_response_with sid seq c cc data hm hsid hseq hlen
  rw [hnt] at hfinal
  exact slSend_retries_then_final c hf noise (fun o ho => (hn o ho).retried) _ cc data hfinal rest

example : expected (fun d => if d = [1] then Class.final 0 [9] else .retry) [.reply [2], .reply [1], .lost] = (2, .ok 0 [9]) := by
  decide

end Bmc.Proofs.C10
