import Bmc.Lemmas.GenLoopsSessionLoop
/-! # The in-session retry loop, RE-TRANSLATED from the source on every run, is the hand model's

`Bmc.Gen.Loops.V2Session_buildAndSend` / `V2Session_buildAndSend_func1` / `V2Session_SendCommand` are the bodies of
`(*V2Session).buildAndSend` (with its `retryable` closure) and `(*V2Session).SendCommand` of v2session.go as `tools/loopgen`
translates them on this run, statement by statement, over the parameters of `Gen/Loops.lean: World` (DESIGN §2.2 T2g).
`Proto.sendLoop` (`Proto/Session.lean`) is the hand model the theorems of C03, C04, C09, C10, C11 and C18 are stated about;
`Proto.Metrics.loop` / `command` the instrumentation model of C18. A source change that moves the sequence-number increment,
makes a terminal error retryable (or the reverse), drops, weakens or reorders one of the acceptance checks, counts a response
before it has been accepted, or changes which layer field values are serialised breaks one of these obligations at build time. -/
namespace Bmc.Proofs.GenLoops
open Bmc Bmc.Wire Bmc.Crypto Bmc.Proto Bmc.GoOrch Bmc.GoLoops Bmc.Gen.Loops Bmc.Lemmas.GenLoops

/-- **`V2Session.buildAndSend`, RE-TRANSLATED from the source on this run, does what the hand model `Proto.sendLoop` does.**
    The parameters of the translation are instantiated with the hand model's own pieces (`sessWorld`: `gopacket.SerializeLayers` :=
    the model's encoders on the field values the layer structs hold — what `Proto.attempt` composes —, one IV of the script per
    call, failing exactly when `c.reqFails`; the connection's decoder := the view of `Proto.onReply`; the transport := the
    outcome script, the caller's context ending in the back-off after the last scripted attempt). Then for EVERY command, every
    session state (IDs and counter within their 32-bit Go types), every non-empty script of outcomes, every list of IVs at least
    as long, whatever the layer structs, the buffer and the log held before, and any fuel ≥ the length of the script:
    the datagrams handed to the transport are those `sendLoop` transmits (each serialised from the rebuilt layer structs with
    sequence number counter + 1), the result — nil with the completion code and payload left in the message layer, the
    transport's error, the serialiser's error, the context's error, or a decoder panic — is `sendLoop`'s, and so is the final
    value of `AuthenticatedSequenceNumbers.Inbound`. -/
theorem V2Session_buildAndSend_gen_eq (C : Ops) (c : Cmd) (hc : c.ent < 4294967296) (s : Sess)
    (hs : s.inbound < 4294967296) (hL : s.localID < 4294967296) (hr : s.remoteID < 4294967296)
    (ivs : List Bytes) (script : List Outcome) (hne : script ≠ []) (hl : script.length ≤ ivs.length)
    (fuel : Nat) (hfu : script.length ≤ fuel) (bd : Bytes → Bool) (name : String) (rsp : Opaque)
    (sent0 : List Bytes) (K : Conn Decoded) (hK : K.inbound = UInt32.ofNat s.inbound) :
    let r := V2Session_buildAndSend (sessWorld C s.keys c bd) fuel (sessConsts s.keys) (cmdOf c name rsp)
              ({ ivs := ivs, script := script, sent := sent0 }, K)
    let m := sendLoop C c s ivs script
    r.2.1.sent = sent0 ++ m.2.1 ∧ resOf r.1 r.2.2 = some m.2.2 ∧ r.2.2.inbound.toNat = m.1.inbound := by
  intro r m
  obtain ⟨h1, h2, h3⟩ := sess_runs C s.keys c bd name rsp hL hr hc script s rfl hs ivs hl true sent0 K hK
  have e : _ = runs _ script.length _ _ :=
    backoffRetry_script (sess_usesOne C s.keys c bd name rsp) false script (fun _ => hne) fuel hfu (true, none) ivs sent0 K
  rw [← e] at h1 h2 h3
  have hr' : r = _ := buildAndSend_apply (sessWorld C s.keys c bd) fuel (sessConsts s.keys) (cmdOf c name rsp) _
  rw [hr']
  obtain ⟨n, -, -, -, hi⟩ := sendLoop_sent C c s hs ivs script hl
  exact ⟨h1, h3, (congrArg UInt32.toNat h2).trans (UInt32.toNat_ofNat_of_lt' (hi ▸ Nat.mod_lt _ (by decide)))⟩

/-- **the Prometheus calls of `buildAndSend` are those of the instrumentation model.** For every command whose request serialises,
    every key set, every script none of whose replies crashes a decoder (`Proofs.C05.decodeChain_total`: none does under a lawful
    cipher), both ways the caller's context can end once the script is exhausted (`inSend = false`: in the back-off after the last
    scripted attempt — the attempts are `attOf` of the script followed by `cancelled`; `inSend = true`: during one more Send — the
    attempts are `attOf` of the script), whatever the log held before: replaying the log of the regenerated loop on the counters
    gives what `Proto.Metrics.loop` computes — `commandRetries` at the head of every run of the closure after the first,
    `commandResponses` for the completion code of every reply that passed the three acceptance checks (temporary or final),
    nothing else among the events `evApply` interprets (an event of another name or label shape leaves the counters as they are,
    so the comparison would not see it) — and the loop returns nil exactly when the model says the call obtained a final answer. -/
theorem V2Session_buildAndSend_events_eq (C : Ops) (c : Cmd) (hc : c.ent < 4294967296) (k : Keys) (hL : k.localID < 4294967296)
    (hf : c.reqFails = false) (ivs : List Bytes) (script : List Outcome) (hn : noCrash C k c script)
    (inSend : Bool) (hne : inSend = false → script ≠ []) (fuel : Nat) (hfu : script.length + 1 ≤ fuel)
    (bd : Bytes → Bool) (name : String) (rsp : Opaque) (sent0 : List Bytes) (K : Conn Decoded) (m0 : Metrics.M) :
    let r := V2Session_buildAndSend (sessWorld C k c bd) fuel (sessConsts k) (cmdOf c name rsp)
              ({ ivs := ivs, script := script, sent := sent0, inSend := inSend }, K)
    let l := Metrics.loop true (evsApply m0 K.events) true (script.map (attOf C k c) ++ ending inSend)
    evsApply m0 r.2.2.events = l.1 ∧ (r.1 = .ok none ↔ l.2 = true) ∧ ∃ e, r.1 = .ok e := by
  intro r l
  obtain ⟨h1, h2, x, h3⟩ := sess_runs_metrics C k c bd name rsp hL hc hf m0 inSend script hn true ivs sent0 K
  rw [← backoffRetry_script (sess_usesOne C k c bd name rsp) inSend script hne fuel (by split <;> omega)] at h1 h2 h3
  have hr' : r = _ := buildAndSend_apply (sessWorld C k c bd) fuel (sessConsts k) (cmdOf c name rsp) _
  rw [hr']
  exact ⟨h1, h2, _, congrArg errOfS h3⟩

/-- **a call whose context has already ended still consumes a sequence number** (the empty script): the closure runs once
    (`backoff.Retry` always runs the operation once), serialises — drawing an IV —, increments the counter, and the Send fails: the
    transport's error is returned, nothing is transmitted. `Proto.sendLoop` returns `ctxExpired` with the counter untouched for an
    empty script: the hand model and the code differ here (harmless: the number is skipped, not reused; the scripts of the
    correspondence scenarios are never empty), which is why `V2Session_buildAndSend_gen_eq` asks for a non-empty script. -/
theorem V2Session_buildAndSend_expired_context (C : Ops) (c : Cmd) (hf : c.reqFails = false) (k : Keys) (ivs : List Bytes)
    (fuel : Nat) (bd : Bytes → Bool) (name : String) (rsp : Opaque) (sent0 : List Bytes) (K : Conn Decoded) :
    let r := V2Session_buildAndSend (sessWorld C k c bd) (fuel + 1) (sessConsts k) (cmdOf c name rsp)
              ({ ivs := ivs, script := [], sent := sent0 }, K)
    r.1 = .ok (some .transport) ∧ r.2.1.sent = sent0 ∧ r.2.1.ivs = ivs.tail ∧ r.2.2.inbound = K.inbound + 1 := by
  intro r
  have hr' : r = _ := buildAndSend_apply (sessWorld C k c bd) (fuel + 1) (sessConsts k) (cmdOf c name rsp) _
  rw [hr', backoffRetry_succ, sess_run_nil C k c bd name rsp hf true ivs sent0 false false K]
  exact ⟨rfl, rfl, rfl, rfl⟩

/-- **`V2Session.SendCommand`, re-translated, returns what the hand model's loop returns.** Same instantiation and hypotheses as
    `V2Session_buildAndSend_gen_eq`; `rsp` stands for the command's response layer (0 = the command has none) and `bd` says which
    payloads it decodes. The transmissions and the counter are those of `sendLoop`; the pair returned is `(0, the error)` when the
    loop fails, and otherwise the completion code of the response with `nil` — or, when there is a response layer and it rejects
    the payload, with that error. -/
theorem V2Session_SendCommand_gen_eq (C : Ops) (c : Cmd) (hc : c.ent < 4294967296) (s : Sess)
    (hs : s.inbound < 4294967296) (hL : s.localID < 4294967296) (hr : s.remoteID < 4294967296)
    (ivs : List Bytes) (script : List Outcome) (hne : script ≠ []) (hl : script.length ≤ ivs.length)
    (fuel : Nat) (hfu : script.length ≤ fuel) (bd : Bytes → Bool) (name : String) (rsp : Opaque)
    (sent0 : List Bytes) (K : Conn Decoded) (hK : K.inbound = UInt32.ofNat s.inbound) :
    let r := V2Session_SendCommand (sessWorld C s.keys c bd) fuel (sessConsts s.keys) (cmdOf c name rsp)
              ({ ivs := ivs, script := script, sent := sent0 }, K)
    let m := sendLoop C c s ivs script
    r.2.1.sent = sent0 ++ m.2.1 ∧ r.2.2.inbound.toNat = m.1.inbound ∧
    r.1 = (match m.2.2 with
           | .ok cc p => .ok (cc, if rsp != 0 ∧ bd p = false then some .response else none)
           | .transportErr => .ok (0, some .transport)
           | .serializeErr => .ok (0, some .serialize)
           | .ctxExpired => .ok (0, some .ctx)
           | .crashed => .panic) := by
  rw [V2Session_SendCommand_eq]
  intro r m
  obtain ⟨h1, h2, h3⟩ := V2Session_buildAndSend_gen_eq C c hc s hs hL hr ivs script hne hl fuel hfu bd name rsp sent0
    (started (cmdOf c name rsp) K) hK
  obtain ⟨a1, a2, a3⟩ := sendCommandG_result (sessWorld C s.keys c bd) c name rsp bd (fun _ => rfl) _ _ K _ h2
  exact ⟨(congrArg SW.sent a1).trans h1, (congrArg UInt32.toNat a2).trans h3, a3⟩

/-- **the Prometheus calls of `SendCommand` are those of `Proto.Metrics.command`**: the attempt is counted first, the loop's events
    follow (`V2Session_buildAndSend_events_eq`), and `commandFailures` is incremented exactly when the loop failed or the response
    layer (if the command has one) rejected the payload left in the message layer. (The two timer events do not touch the counters
    of the instrumentation model.) -/
theorem V2Session_SendCommand_events_eq (C : Ops) (c : Cmd) (hc : c.ent < 4294967296) (k : Keys) (hL : k.localID < 4294967296)
    (hf : c.reqFails = false) (ivs : List Bytes) (script : List Outcome) (hn : noCrash C k c script)
    (inSend : Bool) (hne : inSend = false → script ≠ []) (fuel : Nat) (hfu : script.length + 1 ≤ fuel)
    (bd : Bytes → Bool) (name : String) (rsp : Opaque) (sent0 : List Bytes) (K : Conn Decoded) (m0 : Metrics.M) :
    let r := V2Session_SendCommand (sessWorld C k c bd) fuel (sessConsts k) (cmdOf c name rsp)
              ({ ivs := ivs, script := script, sent := sent0, inSend := inSend }, K)
    evsApply m0 r.2.2.events
      = Metrics.command (evsApply m0 K.events) name true (rsp == 0 || bd r.2.2.layers.message.payload)
          (script.map (attOf C k c) ++ ending inSend) := by
  rw [V2Session_SendCommand_eq]
  exact sendCommandG_events (sessWorld C k c bd) c name rsp bd (fun _ => rfl) _ _ K true m0 _
    (V2Session_buildAndSend_events_eq C c hc k hL hf ivs script hn inSend hne fuel hfu bd name rsp sent0 (started (cmdOf c name rsp) K) m0)

/-- the hypotheses are met: a session with 32-bit IDs, a command, a two-step script (a lost reply is terminal inside a session) -/
example : ∃ (s : Sess) (c : Cmd) (script : List Outcome), s.inbound < 4294967296 ∧ s.localID < 4294967296 ∧
    s.remoteID < 4294967296 ∧ c.ent < 4294967296 ∧ script ≠ [] ∧ c.reqFails = false :=
  ⟨{ inbound := 4294967295, localID := 0xA0A1A2A3, remoteID := 0x02030405, integ := 1 }, { fn := 0x06, cmd := 0x01 },
   [.reply [6, 0, 255, 7], .lost], by decide⟩

end Bmc.Proofs.GenLoops
