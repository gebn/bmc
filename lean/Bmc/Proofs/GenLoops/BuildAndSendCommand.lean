import Bmc.Lemmas.GenLoopsSessionlessLoop
/-! # The session-less retry loop, RE-TRANSLATED from the source on every run, is the hand model's

`Bmc.Gen.Loops.V2Sessionless_buildAndSendCommand` (with its closure `…_func1`) and `V2Sessionless_SendCommand` are the bodies of
the two methods of v2sessionless.go as `tools/loopgen` translates them on this run (DESIGN §2.2 T2g). `Proto.slSend` / `slLoop`
(`Proto/Sessionless.lean`) is the hand model the session-less theorems of C09, C10, C11 and C18 are stated about. A source change
that serialises inside the loop, touches the sequence counter, makes a temporary completion code final, drops or weakens the
`isResponseTo` check, or counts a response before that check breaks one of these obligations at build time. -/
namespace Bmc.Proofs.GenLoops
open Bmc Bmc.Wire Bmc.Crypto Bmc.Proto Bmc.GoOrch Bmc.GoLoops Bmc.Gen.Loops Bmc.Lemmas.GenLoops

/-- **`V2Sessionless.buildAndSendCommand`, re-translated, does what `Proto.slSend` does.** The parameters are instantiated with the
    hand model's pieces (`slWorld`: `gopacket.SerializeLayers` := the model's encoders on the field values the layer structs
    hold, failing exactly when `c.reqFails`; the decoder := the view of `slOnReply`; the transport := the outcome script, the
    context ending in the back-off after the last scripted attempt). For every command, EVERY script (also the empty one: the one
    Send then fails and the context's error comes back), whatever the connection held before, any fuel above the length of
    the script: the datagrams handed to the transport are `slSend`'s (the one serialised request, once per attempt), the result
    is `slSend`'s, and the sequence counter is not touched. -/
theorem V2Sessionless_buildAndSendCommand_gen_eq (c : Cmd) (hc : c.ent < 4294967296) (script : List Outcome)
    (fuel : Nat) (hfu : script.length + 1 ≤ fuel) (bd : Bytes → Bool) (name : String) (rsp : Opaque)
    (ivs sent0 : List Bytes) (K : Conn Decoded) :
    let r := V2Sessionless_buildAndSendCommand (slWorld c bd) fuel (cmdOf c name rsp) ({ ivs := ivs, script := script, sent := sent0 }, K)
    let m := slSend c script
    r.2.1.sent = sent0 ++ m.1 ∧ resOf r.1 r.2.2 = some m.2 ∧ r.2.2.inbound = K.inbound := by
  intro r m
  have hr' : r = _ := buildAndSendCommand_apply (slWorld c bd) fuel (cmdOf c name rsp) _ K
  rw [hr', slSerialize_lit]
  cases hf : c.reqFails
  · obtain ⟨m1, m2⟩ := slLoop_spec c (slSerialize c).2 (slSerialize c).1 script
    rw [show m = slLoop c (slSerialize c).2 (slSerialize c).1 script by simp [m, slSend, hf], m1, m2, ← slLit_bytes c name rsp hc]
    simp only [↓reduceIte, show (slWorld c bd).backoffWait = SW.wait from rfl]
    by_cases h : script = []
    · -- the context has already ended: the closure still runs once, nothing is sent, the context's error comes back
      subst h
      rw [backoffRetry_expired (sl_usesOne c bd name rsp) fuel (by omega), runs_retry _ (sl_run_nil c bd name rsp ..)]
      exact ⟨by simp [runs_zero, slExpected], rfl, rfl⟩
    · rw [backoffRetry_script (sl_usesOne c bd name rsp) false script (fun _ => h) fuel (by simp only [Bool.false_eq_true, if_false]; omega)]
      obtain ⟨h1, h2, _, h4⟩ := sl_runs c bd name rsp hc false script true ivs sent0
        { K with layers := slSerLayers c (slLit (cmdOf c name rsp)), buffer := slSerBytes c (slLit (cmdOf c name rsp)) }
      exact ⟨h1, h4, h2⟩
  · rw [show m = ([], .serializeErr) by simp [m, slSend, hf]]
    exact ⟨by simp, rfl, rfl⟩

/-- **the Prometheus calls of `buildAndSendCommand` are those of the instrumentation model outside a session** (`Proto.Metrics.loop
    false`): for every command whose request serialises, every script none of whose replies crashes a decoder, both ways the
    caller's context can end (`ending`), whatever the log held before. `slAttOf` is what the instrumentation sees of an attempt: a
    lost reply (retried here), a reply that decodes to a message answering this command (counted under its completion code —
    temporary: retried, final: the answer), anything else (retried, not counted). -/
theorem V2Sessionless_buildAndSendCommand_events_eq (c : Cmd) (hc : c.ent < 4294967296) (hf : c.reqFails = false)
    (script : List Outcome) (hn : slNoCrash c script) (inSend : Bool) (hne : inSend = false → script ≠ [])
    (fuel : Nat) (hfu : script.length + 1 ≤ fuel) (bd : Bytes → Bool) (name : String) (rsp : Opaque)
    (ivs sent0 : List Bytes) (K : Conn Decoded) (m0 : Metrics.M) :
    let r := V2Sessionless_buildAndSendCommand (slWorld c bd) fuel (cmdOf c name rsp)
              ({ ivs := ivs, script := script, sent := sent0, inSend := inSend }, K)
    let l := Metrics.loop false (evsApply m0 K.events) true (script.map (slAttOf c) ++ ending inSend)
    evsApply m0 r.2.2.events = l.1 ∧ (r.1 = .ok none ↔ l.2 = true) ∧ ∃ e, r.1 = .ok e := by
  intro r l
  have hr' : r = _ := buildAndSendCommand_apply (slWorld c bd) fuel (cmdOf c name rsp) _ K
  rw [hr', slSerialize_lit]
  simp only [hf, if_true, show (slWorld c bd).backoffWait = SW.wait from rfl]
  rw [backoffRetry_script (sl_usesOne c bd name rsp) inSend script hne fuel (by split <;> omega)]
  obtain ⟨h1, h2, x, h3⟩ := sl_runs_metrics c bd name rsp hc inSend m0 script hn true ivs sent0
    { K with layers := slSerLayers c (slLit (cmdOf c name rsp)), buffer := slSerBytes c (slLit (cmdOf c name rsp)) }
  exact ⟨h1, h2, _, congrArg errOf h3⟩

/-- **`V2Sessionless.SendCommand`, re-translated, returns what the hand model's loop returns**: `(0, the error)` when the loop
    fails, otherwise the completion code of the response with `nil` — or with the error of the response layer (`rsp ≠ 0`: the
    command has one; `bd`: the payloads it decodes) when it rejects the payload. -/
theorem V2Sessionless_SendCommand_gen_eq (c : Cmd) (hc : c.ent < 4294967296) (script : List Outcome)
    (fuel : Nat) (hfu : script.length + 1 ≤ fuel) (bd : Bytes → Bool) (name : String) (rsp : Opaque)
    (ivs sent0 : List Bytes) (K : Conn Decoded) :
    let r := V2Sessionless_SendCommand (slWorld c bd) fuel (cmdOf c name rsp) ({ ivs := ivs, script := script, sent := sent0 }, K)
    let m := slSend c script
    r.2.1.sent = sent0 ++ m.1 ∧ r.2.2.inbound = K.inbound ∧
    r.1 = (match m.2 with
           | .ok cc p => .ok (cc, if rsp != 0 ∧ bd p = false then some .response else none)
           | .transportErr => .ok (0, some .transport)
           | .serializeErr => .ok (0, some .serialize)
           | .ctxExpired => .ok (0, some .ctx)
           | .crashed => .panic) := by
  rw [V2Sessionless_SendCommand_eq]
  intro r m
  obtain ⟨h1, h2, h3⟩ := V2Sessionless_buildAndSendCommand_gen_eq c hc script fuel hfu bd name rsp ivs sent0 (started (cmdOf c name rsp) K)
  obtain ⟨a1, a2, a3⟩ := sendCommandG_result (slWorld c bd) c name rsp bd (fun _ => rfl) _ _ K _ h2
  exact ⟨(congrArg SW.sent a1).trans h1, a2.trans h3, a3⟩

/-- **the Prometheus calls of the session-less `SendCommand` are those of `Proto.Metrics.command`** (outside a session). -/
theorem V2Sessionless_SendCommand_events_eq (c : Cmd) (hc : c.ent < 4294967296) (hf : c.reqFails = false)
    (script : List Outcome) (hn : slNoCrash c script) (inSend : Bool) (hne : inSend = false → script ≠ [])
    (fuel : Nat) (hfu : script.length + 1 ≤ fuel) (bd : Bytes → Bool) (name : String) (rsp : Opaque)
    (ivs sent0 : List Bytes) (K : Conn Decoded) (m0 : Metrics.M) :
    let r := V2Sessionless_SendCommand (slWorld c bd) fuel (cmdOf c name rsp)
              ({ ivs := ivs, script := script, sent := sent0, inSend := inSend }, K)
    evsApply m0 r.2.2.events
      = Metrics.command (evsApply m0 K.events) name false (rsp == 0 || bd r.2.2.layers.message.payload)
          (script.map (slAttOf c) ++ ending inSend) := by
  rw [V2Sessionless_SendCommand_eq]
  exact sendCommandG_events (slWorld c bd) c name rsp bd (fun _ => rfl) _ _ K false m0 _
    (V2Sessionless_buildAndSendCommand_events_eq c hc hf script hn inSend hne fuel hfu bd name rsp ivs sent0 (started (cmdOf c name rsp) K) m0)

/-- the hypotheses are met -/
example : ∃ (c : Cmd) (script : List Outcome), c.ent < 4294967296 ∧ c.reqFails = false ∧ script ≠ [] :=
  ⟨{ fn := 0x06, cmd := 0x38 }, [.lost, .reply [6, 0, 255, 7]], by decide⟩

end Bmc.Proofs.GenLoops
