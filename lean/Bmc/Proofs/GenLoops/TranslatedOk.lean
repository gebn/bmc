import Bmc.Gen.Loops
/-! What `tools/loopgen` translated on this run (`Gen/Loops.lean`): the five functions below, nothing given up; and the
    package-level values the translated code reads are the ones the instantiations of `Proofs/GenLoops/*` assume. -/
namespace Bmc.Proofs.GenLoops
open Bmc Bmc.GoLoops Bmc.Gen.Loops

theorem translated_ok : Bmc.Gen.Loops.translated =
    ["bmc.V2Session.buildAndSend", "bmc.V2Session.SendCommand", "bmc.V2Sessionless.buildAndSendCommand",
     "bmc.V2Sessionless.SendCommand", "bmc.V2Sessionless.buildAndSendPayload"] := rfl

theorem gaveUp_none : Bmc.Gen.Loops.gaveUp = [] := by decide

/-- `serializeOptions` (bmc.go): lengths fixed and checksums computed — what the serialiser theorems of `Proofs/GenEnc.lean` assume -/
theorem serializeOptions_ok : bmc_serializeOptions = { fixLengths := true, computeChecksums := true } := by decide

/-- `ipmi.PayloadDescriptorIPMI`: payload type 0, no enterprise number, no payload ID -/
theorem payloadDescriptorIPMI_ok : ipmi_PayloadDescriptorIPMI = { payloadType := 0, enterprise := 0, payloadID := 0 } := by decide

end Bmc.Proofs.GenLoops
