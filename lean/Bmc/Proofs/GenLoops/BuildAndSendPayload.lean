import Bmc.Lemmas.GenLoopsPayload
/-! # The session-setup retry loop, RE-TRANSLATED from the source on every run, is the hand model's

`Bmc.Gen.Loops.V2Sessionless_buildAndSendPayload` (with its closure `…_func1`) is the body of
`(*V2Sessionless).buildAndSendPayload` of v2sessionless.go as `tools/loopgen` translates it on this run (DESIGN §2.2 T2g): the
loop behind `openSession`, `rakpMessage1` and `rakpMessage3`. `Proto.exchange` / `payloadReply` / `setupDatagram`
(`Proto/Handshake.lean`) is the hand model the handshake theorems of C01, C02 and the retransmission theorems of C10 are stated
about. A source change that re-serialises per attempt, stops retrying on a lost reply, accepts a reply whose innermost layer
is not the session wrapper, or hands something else than the wrapper's payload to the response layer breaks this obligation at
build time. -/
namespace Bmc.Proofs.GenLoops
open Bmc Bmc.Wire Bmc.Crypto Bmc.Proto Bmc.GoOrch Bmc.GoLoops Bmc.Gen.Loops Bmc.Lemmas.GenLoops

/-- **`V2Sessionless.buildAndSendPayload`, re-translated, does what `Proto.exchange` does.** The parameters are instantiated with
    the hand model's pieces (`plWorld`: `gopacket.SerializeLayers` := RMCP and the null session wrapper — the model's encoders on
    the field values the layer structs hold — around `payload`, the bytes the request layer serialises to; the connection's
    decoder := `payloadReply`; the transport := the outcome script, the context ending in the back-off after the last scripted
    attempt). For every payload type, every payload, EVERY script, whatever the connection held before, any fuel above the length
    of the script: the datagrams handed to the transport are `(exchange script).1` copies of `setupDatagram ptype payload`;
    the function ends with the context's error when `exchange` finds no answer, with a panic when a decoder panics, and otherwise
    with what the response layer (`bd`) makes of exactly the payload `exchange` returns; the sequence counter and the Prometheus
    log are not touched (this loop has no instrumentation). -/
theorem V2Sessionless_buildAndSendPayload_gen_eq (ptype : UInt8) (payload : Bytes) (script : List Outcome)
    (fuel : Nat) (hfu : script.length + 1 ≤ fuel) (bd : Bytes → Bool) (rsp : Opaque) (ivs sent0 : List Bytes) (K : Conn Decoded) :
    let r := V2Sessionless_buildAndSendPayload (plWorld payload false bd) fuel (plOf ptype rsp) ({ ivs := ivs, script := script, sent := sent0 }, K)
    let m := exchange script
    r.2.1.sent = sent0 ++ List.replicate m.1 (setupDatagram ptype payload) ∧ r.2.2.inbound = K.inbound ∧ r.2.2.events = K.events ∧
    (match m.2 with
     | none => r.1 = .ok (some .ctx)
     | some .crash => r.1 = .panic
     | some (.got p) => r.1 = .ok (if bd p.vis then none else some .response) ∧ r.2.2.layers.v2Session.payload = p.vis
     | some .retry => False) := by
  intro r m
  have hr' : r = _ := buildAndSendPayload_apply (plWorld payload false bd) fuel (plOf ptype rsp) _ K
  rw [hr', plSerialize_lit]
  simp only [↓reduceIte, show (plWorld payload false bd).backoffWait = SW.wait from rfl, plLit_bytes]
  cases script with
  | nil =>   -- the context has already ended: the closure still runs once, nothing is sent, the context's error comes back
    rw [backoffRetry_expired (pl_usesOne payload false bd) fuel hfu]
    simp [runs, pl_run, exchange, m, errOf]
  | cons o rest =>
    have e : _ = runs _ (o :: rest).length _ _ := backoffRetry_script (pl_usesOne payload false bd) false (o :: rest)
      (fun _ => List.cons_ne_nil _ _) fuel (Nat.le_of_succ_le hfu) () ivs sent0
      { K with layers := plSerLayers payload (plLit (plOf ptype rsp) K.layers), buffer := setupDatagram ptype payload }
    rw [e]
    obtain ⟨h1, h2, _, h4, h5⟩ := pl_runs payload false bd (o :: rest) ivs sent0
      { K with layers := plSerLayers payload (plLit (plOf ptype rsp) K.layers), buffer := setupDatagram ptype payload }
    generalize runs (V2Sessionless_buildAndSendPayload_func1 (plWorld payload false bd)) _ () _ = R at h1 h2 h4 h5 ⊢
    refine ⟨h1, h2, h4, ?_⟩
    generalize (exchange (o :: rest)).2 = res at h5
    rcases res with _ | _ | p | _ <;> simp only [PlOk] at h5   -- `retry` is no result of `exchange`: `h5` is `False`
    · rw [h5]; rfl
    · rw [h5.1]
      exact ⟨congrArg (fun x => RF.ok (if bd x = true then none else some GoErr.response)) h5.2, h5.2⟩
    · rw [h5]; rfl

/-- a request layer that does not serialise: the serialiser's error is returned at once and nothing is transmitted -/
theorem V2Sessionless_buildAndSendPayload_serialize_error (ptype : UInt8) (payload : Bytes) (bd : Bytes → Bool) (rsp : Opaque)
    (fuel : Nat) (w : SW) (K : Conn Decoded) :
    let r := V2Sessionless_buildAndSendPayload (plWorld payload true bd) fuel (plOf ptype rsp) (w, K)
    r.1 = .ok (some .serialize) ∧ r.2.1 = w ∧ r.2.2.inbound = K.inbound := by
  intro r
  have hr' : r = _ := buildAndSendPayload_apply (plWorld payload true bd) fuel (plOf ptype rsp) w K
  rw [hr', plSerialize_lit]
  exact ⟨rfl, rfl, rfl⟩

/-- the hypotheses are met: an Open Session request retransmitted once -/
example : ∃ (script : List Outcome) (fuel : Nat), script.length + 1 ≤ fuel ∧ (exchange script).1 = 2 :=
  ⟨[.lost, .lost], 3, by decide, by decide⟩

end Bmc.Proofs.GenLoops
