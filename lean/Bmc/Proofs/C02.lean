import Bmc.Lemmas.HandshakeInv
import Bmc.Lemmas.HandshakeLoss
import Bmc.Lemmas.TruncatedReply
/-! # C02 — no session unless the BMC proves knowledge of the password (property theorems only)

No cryptographic claim: that another password gives another code is the MAC's job. Proved: a session is returned
ONLY IF the codes received equal the specification's keyed hashes of the values exchanged (`session_sound` names the three
replies existentially; that they are what the script's three exchanges decoded to is `Proto.newSession_ok`). -/
namespace Bmc.Proofs.C02
open Bmc Bmc.Wire Bmc.Crypto Bmc.Proto

/-- SOUNDNESS, for every reply script of every length and every lawful or unlawful hash: when a session comes back there are
    (1) an Open Session Response with the request's tag, status OK and the proposed authentication algorithm, (2) a RAKP 2
    with tag/status OK whose AuthCode IS the specification's keyed hash, under the caller's password, of the values exchanged
    with these replies (`exchangeOf`), (3) a RAKP 4 with tag/status OK whose ICV IS the specification's keyed hash under the
    SIK, which itself is the specification's SIK under the caller's KG (or password). The statement does not tie the three
    replies to the script (`Proto.newSession_ok` does), nor mention the integrity and confidentiality algorithms
    (`C12.no_downgrade`). -/
theorem session_sound (C : Ops) (o : Opts) (rm : Bytes) (script : List Outcome) (l r : Nat) (a i c : UInt8)
    (sik k1 k2 : Bytes) (h : (newSession C o rm script).2 = .ok l r a i c sik k1 k2) :
    ∃ (osr : OpenSessionRsp) (rk2 : RAKP2) (rk4 : RAKP4) (hh : HashAlg),
      osr.tag = 0 ∧ osr.status = 0 ∧ osr.auth = o.auth ∧ authHash o.auth = some hh ∧
      rk2.tag = 0 ∧ rk2.status = 0 ∧ rk2.authCode = Spec.rakp2Code C hh o.pass (exchangeOf o rm osr rk2) ∧
      rk4.tag = 0 ∧ rk4.status = 0 ∧
      sik = Spec.sik C hh o.pass o.kg (exchangeOf o rm osr rk2) ∧
      rk4.icv = Spec.icv C hh sik (exchangeOf o rm osr rk2) ∧
      k1 = Spec.k C hh sik 1 ∧ k2 = Spec.k C hh sik 2 := by
  obtain ⟨osr, rk2, hh, rk4, _, _, _, _, _, _, _, _, A⟩ := newSession_ok h
  injection A.res with _ _ _ _ _ e6 e7 e8
  subst e6 e7 e8
  exact ⟨osr, rk2, rk4, hh, A.tag1, A.status1, A.auth, A.auth ▸ A.hash, A.tag2, A.status2, A.code, A.tag4, A.status4, rfl,
    A.icv.trans (icvOf_spec C hh o rm osr rk2 _ _ A.hash), rfl, rfl⟩

/-- a well-formed RAKP 2 with tag 0 and status OK whose AuthCode is not the expected keyed hash (of a known authentication
    algorithm) yields the incorrect-password error -/
theorem wrong_code_is_password_error (C : Ops) (o : Opts) (rm : Bytes) (osr : OpenSessionRsp) (script2 : List Outcome)
    (p2 : GoSlice) (rk2 : RAKP2) (hh : HashAlg) (h1 : exchangePayload script2 = .ok p2)
    (h2 : RAKP2.decodeGo true {} p2 = .ok rk2) (ht : rk2.tag = 0) (hs : rk2.status = 0) (ha : authHash osr.auth = some hh)
    (hne : rk2.authCode ≠ rakp2Code C hh o rm osr rk2) :
    stepRakp2 C o rm osr script2 = .error .incorrectPassword := by
  rw [Lemmas.GenHs.stepRakp2_eq, decoded_ok.2 ⟨p2, h1, h2⟩]
  exact Lemmas.GenHs.rakp2Checks_badpw.2 ⟨ht, hs, hh, ha, hne⟩

/-- … and the incorrect-password error arises in no other way -/
theorem password_error_only_from_wrong_code (C : Ops) (o : Opts) (rm : Bytes) (osr : OpenSessionRsp) (script2 : List Outcome)
    (h : stepRakp2 C o rm osr script2 = .error .incorrectPassword) :
    ∃ p2 rk2 hh, exchangePayload script2 = .ok p2 ∧ RAKP2.decodeGo true {} p2 = .ok rk2 ∧ rk2.tag = 0 ∧ rk2.status = 0 ∧
      authHash osr.auth = some hh ∧ rk2.authCode ≠ rakp2Code C hh o rm osr rk2 := by
  rw [Lemmas.GenHs.stepRakp2_eq] at h
  rcases Except.bind_eq_error.1 h with h | ⟨rk2, hd, hc⟩
  · rcases decoded_error h with e | e <;> cases e
  · obtain ⟨p2, h1, h2⟩ := decoded_ok.1 hd
    obtain ⟨ht, hs, hh, ha, hne⟩ := Lemmas.GenHs.rakp2Checks_badpw.1 hc
    exact ⟨p2, rk2, hh, h1, h2, ht, hs, ha, hne⟩

/-- a non-OK status or a mismatched tag in any of the three replies is an error (never a session) -/
theorem bad_status_or_tag (C : Ops) (o : Opts) (rm : Bytes) (osr : OpenSessionRsp) (rk2 : RAKP2) (hh : HashAlg)
    (s1 s2 s3 : List Outcome) :
    (∀ osr', stepOpen o s1 = .ok osr' → osr'.tag = 0 ∧ osr'.status = 0) ∧
    (∀ x, stepRakp2 C o rm osr s2 = .ok x → x.1.tag = 0 ∧ x.1.status = 0) ∧
    (∀ res, stepRakp4 C o rm osr rk2 hh s3 = .ok res →
      ∃ p3 rk4, exchangePayload s3 = .ok p3 ∧ RAKP4.decodeGo {} p3 = .ok rk4 ∧ rk4.tag = 0 ∧ rk4.status = 0) := by
  refine ⟨fun osr' h => ?_, fun x h => ?_, fun res h => ?_⟩
  · rw [Lemmas.GenHs.stepOpen_eq] at h
    obtain ⟨x, _, hc⟩ := Except.bind_eq_ok.1 h
    obtain ⟨rfl, a, b, _⟩ := Lemmas.GenHs.openChecks_ok.1 hc; exact ⟨a, b⟩
  · rw [Lemmas.GenHs.stepRakp2_eq] at h
    obtain ⟨y, _, hc⟩ := Except.bind_eq_ok.1 h
    obtain ⟨rfl, a, b, _⟩ := Lemmas.GenHs.rakp2Checks_ok.1 hc; exact ⟨a, b⟩
  · rw [Lemmas.GenHs.stepRakp4_eq] at h
    obtain ⟨rk4, hd, hc⟩ := Except.bind_eq_ok.1 h
    obtain ⟨p3, e1, e2⟩ := decoded_ok.1 hd
    obtain ⟨a, b, _⟩ := Lemmas.GenHs.rakp4Checks_ok.1 hc; exact ⟨p3, rk4, e1, e2, a, b⟩

/-- a reply that is a proper prefix of a session-less RMCP+ datagram (any payload type but OEM-explicit, any payload
    that fits the length field, cut at ANY length) -/
def IsTruncatedReply (o : Outcome) : Prop :=
  ∃ (ptype : UInt8) (payload : Bytes) (n : Nat), ptype.toNat < 64 ∧ ptype ≠ 2 ∧ payload.length < 65536 ∧
    n < (Spec.sessionless ptype payload).length ∧ o = .reply ((Spec.sessionless ptype payload).take n)

/-- TRUNCATION: a handshake reply truncated at any length is never taken for the reply — one attempt of the exchange
    treats it exactly like a reply that did not arrive (retry) -/
theorem truncated_reply_is_not_a_reply (ptype : UInt8) (hpt : ptype.toNat < 64) (hoem : ptype ≠ 2) (payload : Bytes)
    (hlen : payload.length < 65536) (n : Nat) (hn : n < (Spec.sessionless ptype payload).length) (rest : List Outcome) :
    exchange (.reply ((Spec.sessionless ptype payload).take n) :: rest) = ((exchange rest).1 + 1, (exchange rest).2) := by
  simp only [exchange, truncated_setup_reply_is_retry ptype hpt hoem payload hlen n hn]

/-- … hence a BMC (or an attacker) that only ever delivers lost or truncated replies — to any of the three exchanges,
    in any order, any number of them — never obtains a session: the call ends with an error when the context expires -/
theorem only_truncated_replies_no_session (C : Ops) (o : Opts) (rm : Bytes) (script : List Outcome)
    (h : ∀ x ∈ script, x = .lost ∨ IsTruncatedReply x) : (newSession C o rm script).2 = .error := by
  have hex : (exchange script).2 = none := by
    rw [← List.append_nil script, exchange_skip script (fun x hx => (h x hx).imp_right fun ⟨pt, pl, n, h1, h2, h3, h4, e⟩ =>
      ⟨_, e, truncated_setup_reply_is_retry pt h1 h2 pl h3 n h4⟩) []]
    rfl
  unfold newSession stepOpen exchangePayload
  simp only [hex]

example : IsTruncatedReply (.reply ((Spec.sessionless 0x13 [1, 2, 3]).take 17)) :=
  ⟨0x13, [1, 2, 3], 17, by decide, by decide, by decide, by decide, rfl⟩

end Bmc.Proofs.C02
