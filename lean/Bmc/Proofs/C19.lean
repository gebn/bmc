import Bmc.Proto.Isolation
import Bmc.Gen.Facts
/-! # C19 — independent connections can be used concurrently without interference (property theorems only; PARTIAL)

Proved: IF every step of a connection reads and writes only that connection's own state (plus read-only shared
tables), THEN under every interleaving each connection's outputs and final state are those of its solo run. The
premise is tied to the source by the regenerated fact that no function of the module (outside `init` and the
registration function documented as not concurrency-safe) assigns a package-level variable. NOT exhibited by the model:
the Go memory model and scheduler — that is what the `conc` scenario runs under the race detector. -/
namespace Bmc.Proofs.C19
open Bmc.Proto.Isolation

/-- ISOLATION: for every schedule, every connection's results and final state equal those of running its own
    operations alone -/
theorem isolation {σ op out : Type} (S : System σ op out) (st : Nat → σ) (sched : List (Nat × op)) (i : Nat) :
    project i (interleaved S st sched).2 = (solo S (st i) (project i sched)).2 ∧
    (interleaved S st sched).1 i = (solo S (st i) (project i sched)).1 := by
  induction sched generalizing st with
  | nil => simp [interleaved, solo, project]
  | cons x rest ih =>
    obtain ⟨j, o⟩ := x
    -- the rest of the schedule runs from the family of states in which only connection j has moved
    have := ih (fun k => if k = j then (S.step (st j) o).1 else st k)
    by_cases hji : j = i
    · subst hji
      simpa [interleaved, project, solo] using this
    · have hij : i ≠ j := fun h => hji h.symm
      simpa [interleaved, project, solo, hji, hij] using this

/-- TIE to the source: the only function that assigns to a package-level variable OF ITS OWN PACKAGE outside `init` (what
    `factgen` lists: a write through a package-qualified selector, `ipmi.X.f = …` from package bmc, is not looked for) is the
    registration of OEM payload descriptors, which the library documents as not safe for concurrent use -/
theorem no_shared_writes : Bmc.Gen.Facts.globalWriters = ["ipmi.RegisterOEMPayloadDescriptor"] := rfl

/-- TIE to the source, second part — the INVENTORY of package-level variables that could carry state from one connection
    to another (slices, maps, pointers, channels, functions, interfaces, and structs containing them or a `sync` /
    `atomic` field): exactly these read-only lookup tables plus the default cipher-suite preference list, none of which
    any function assigns (`no_shared_writes`). A variable of one of these kinds added at package level changes this list and
    breaks the obligation; a package-level array of scalars (a `[512]byte` scratch buffer), a scalar used atomically or a
    `prometheus.Labels` map do not appear in it (the list is what `factgen`'s type test selects). Whether shared state makes connections interfere is what
    the `conc` runs (each workload compared with a run alone in a fresh process) search for. -/
theorem shared_state_inventory : Bmc.Gen.Facts.sharedStateVars =
    ["bmc.defaultCipherSuites : []pkg/ipmi.CipherSuite",
     "dcmi.dcmiSensorEntityIDs : []pkg/ipmi.EntityID",
     "dcmi.ipmiSensorEntityIDs : []pkg/ipmi.EntityID",
     "iana.enterpriseOrganisations : map[pkg/iana.Enterprise]string",
     "ipmi.analogDataFormatDescriptions : map[pkg/ipmi.AnalogDataFormat]string",
     "ipmi.analogDataFormatParsers : map[pkg/ipmi.AnalogDataFormat]pkg/ipmi.AnalogDataFormatParser",
     "ipmi.completionCodeDescriptions : map[pkg/ipmi.CompletionCode]string",
     "ipmi.entityIdDescriptions : map[pkg/ipmi.EntityID]string",
     "ipmi.linearisationDescriptions : map[pkg/ipmi.Linearisation]string",
     "ipmi.linearisationLinearisers : map[pkg/ipmi.Linearisation]pkg/ipmi.Lineariser",
     "ipmi.operationLayerTypes : map[pkg/ipmi.Operation]github.com/google/gopacket.LayerType",
     "ipmi.outputTypeDescriptions : map[pkg/ipmi.OutputType]string",
     "ipmi.payloadLayerTypes : map[pkg/ipmi.PayloadDescriptor]github.com/google/gopacket.LayerType",
     "ipmi.payloadTypeDescriptions : map[pkg/ipmi.PayloadType]string",
     "ipmi.rateUnitDurations : map[pkg/ipmi.RateUnit]time.Duration",
     "ipmi.recordTypeDescriptions : map[pkg/ipmi.RecordType]string",
     "ipmi.recordTypeLayerTypes : map[pkg/ipmi.RecordType]github.com/google/gopacket.LayerType",
     "ipmi.sensorDirectionDescriptions : map[pkg/ipmi.SensorDirection]string",
     "ipmi.sensorTypeDescriptions : map[pkg/ipmi.SensorType]string",
     "ipmi.sensorUnitSymbols : map[pkg/ipmi.SensorUnit]string",
     "ipmi.statusCodeDescriptions : map[pkg/ipmi.StatusCode]string",
     "ipmi.stringEncodingDecoders : map[pkg/ipmi.StringEncoding]pkg/ipmi.StringDecoder",
     "ipmi.stringEncodingDescriptions : map[pkg/ipmi.StringEncoding]string"] := rfl

example : project 1 (interleaved ⟨fun (s : Nat) (o : Nat) => (s + o, s)⟩ (fun _ => 0) [(1, 5), (2, 7), (1, 1), (2, 2)]).2 = [0, 5] := by
  decide

end Bmc.Proofs.C19
