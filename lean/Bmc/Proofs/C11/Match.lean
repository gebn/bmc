import Bmc.Gen.Prims
import Bmc.Proto.Sessionless
import Bmc.Proto.Session
/-! # C11 — the response-matching predicate, RE-TRANSLATED from the source on every run, is the model's

`Bmc.Gen.isResponseTo` is `isResponseTo(rsp, req *ipmi.Operation)` of v2sessionless.go as `tools/ssagen` translates it from
SSA on this run (the two struct pointers become one parameter per field; the function only reads them). `slAcceptable`
is what `Proto/Sessionless.lean` uses to decide whether a decoded message answers the command in flight; `acceptable` of
`Proto/Session.lean` has the same four comparisons after its two tests on the wrapper (`acceptable_uses_isResponseTo`). It is what
`session_result_matches_request`, `sessionless_result_matches_request`, `stray_is_retry` and `strays_are_skipped` are about. A
source change that drops or weakens one of the four comparisons (network function + 1, command, body code, enterprise number)
breaks this obligation at build time. -/
namespace Bmc.Proofs.C11
open Bmc Bmc.Wire Bmc.Proto

/-- the obligation: on the fields of a decoded message and of a command the translated function is `slAcceptable`. The two
    bounds make the 32-bit enterprise fields of the Go structs faithful; a decoded message has `enterprise < 2^24`
    (`Message.decode_ok`), a command's is a constant of the library -/
theorem isResponseTo_gen_eq (c : Cmd) (m : Message) (hm : m.enterprise < 2 ^ 32) (hc : c.ent < 2 ^ 32) :
    Bmc.Gen.isResponseTo m.function.toBitVec m.body.toBitVec (BitVec.ofNat 32 m.enterprise) m.command.toBitVec
        c.fn.toBitVec c.body.toBitVec (BitVec.ofNat 32 c.ent) c.cmd.toBitVec
      = slAcceptable c m := by
  have e1 : decide (m.function.toBitVec = c.fn.toBitVec + 1#8) = (m.function == c.fn + 1) := by
    rw [show c.fn.toBitVec + 1#8 = (c.fn + 1).toBitVec from rfl]
    exact decide_toBitVec_eq _ _
  have e2 : decide (m.command.toBitVec = c.cmd.toBitVec) = (m.command == c.cmd) := decide_toBitVec_eq _ _
  have e3 : decide (m.body.toBitVec = c.body.toBitVec) = (m.body == c.body) := decide_toBitVec_eq _ _
  have e4 : decide (BitVec.ofNat 32 m.enterprise = BitVec.ofNat 32 c.ent) = (m.enterprise == c.ent) := by
    rw [Bool.eq_iff_iff, decide_eq_true_iff, beq_iff_eq, ← BitVec.toNat_inj, BitVec.toNat_ofNat, BitVec.toNat_ofNat,
      Nat.mod_eq_of_lt hm, Nat.mod_eq_of_lt hc]
  unfold Bmc.Gen.isResponseTo slAcceptable
  simp only [e1, e2, e3, e4]
  cases (m.function == c.fn + 1) <;> cases (m.command == c.cmd) <;> cases (m.body == c.body) <;> simp

/-- in a session the same predicate is the last conjunct of the acceptance test (after "authenticated" and "addressed to
    this session", which are statements of `buildAndSend` itself: C04) -/
theorem acceptable_uses_isResponseTo (s0 : Sess) (c : Cmd) (s : Sess) (hm : s.msg.enterprise < 2 ^ 32) (hc : c.ent < 2 ^ 32) :
    acceptable s0 c s =
      ((s0.integ == 0 || s.v2.authenticated) && s.v2.id == s0.localID &&
        Bmc.Gen.isResponseTo s.msg.function.toBitVec s.msg.body.toBitVec (BitVec.ofNat 32 s.msg.enterprise) s.msg.command.toBitVec
          c.fn.toBitVec c.body.toBitVec (BitVec.ofNat 32 c.ent) c.cmd.toBitVec) := by
  rw [isResponseTo_gen_eq c s.msg hm hc]
  unfold acceptable slAcceptable
  simp only [Bool.and_assoc]

/-- an enterprise number as an OEM message carries it: three bytes on the wire, so every decoded message meets `hm` -/
example : (0x0002A2 : Nat) < 2 ^ 32 := by decide

end Bmc.Proofs.C11
