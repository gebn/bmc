import Bmc.Wire.Selector
import Bmc.Wire.Rakp1
import Bmc.Wire.V1Session
import Bmc.Lemmas.SetupBits
import Bmc.Lemmas.SetupBridge
import Bmc.Lemmas.SetupSpec
/-! # C07 (session setup: Open Session Response, RAKP 1/2/4, session selector, v1.5 session header):
    decoding the specification's encoding of any field values yields those values; short input is rejected -/
namespace Bmc.Proofs.C07
open Bmc Bmc.Wire Bmc.Lemmas.Setup

def algView : Option UInt8 → Setup.AlgPayload
  | some a => { wildcard := false, algorithm := a }
  | none => { wildcard := true, algorithm := 0 }

def openSessionRspView : Spec.OpenSessionRsp → Setup.OpenSessionRsp
  | .statusOnly st => { status := st, contents := [st] }
  | .failed tag st sid => { tag := tag, status := st, consoleSID := sid, contents := (Spec.OpenSessionRsp.failed tag st sid).encode }
  | .ok tag mp csid bsid a i c =>
    { tag := tag, status := 0, maxPriv := mp, consoleSID := csid, bmcSID := bsid
      auth := algView a, integ := algView i, conf := algView c
      contents := (Spec.OpenSessionRsp.ok tag mp csid bsid a i c).encode }

theorem algOf_spec (typ : UInt8) (x : Option UInt8) (h : Spec.algWf x) (r : Bytes) :
    Setup.algOf typ (Spec.algPayload typ x ++ r) = .ok (algView x) := by
  cases x with
  | none => simp [Setup.algOf, Spec.algPayload, algView]
  | some a => exact algOf_some typ a (by simpa using mask6 a.toNat h) r

/-- every well-formed Open Session Response — status only, error form, success with any mix of concrete and
    wildcard algorithm payloads — decodes to its fields -/
theorem openSessionRsp_decode_spec (v : Spec.OpenSessionRsp) (h : v.wf) :
    Setup.OpenSessionRsp.decode v.encode = .ok (openSessionRspView v) := by
  cases v with
  | statusOnly st =>
    have : (st == 0) = false := by simpa [Spec.OpenSessionRsp.wf] using h
    simp [Setup.OpenSessionRsp.decode, Spec.OpenSessionRsp.encode, openSessionRspView, this]
  | failed tag st sid =>
    obtain ⟨h1, h2⟩ := h
    have : (st == 0) = false := by simpa using h1
    simp only [Setup.OpenSessionRsp.decode, Spec.OpenSessionRsp.encode, openSessionRspView, List.cons_append, List.nil_append,
      List.getD_cons_succ, List.getD_cons_zero, List.drop_succ_cons, List.drop_zero, this,
      show le32 (Spec.le32 sid) = sid from le32_spec _ h2 []]
    rfl
  | ok tag mp csid bsid a i c =>
    exact openSessionRsp_decode_ok tag mp csid bsid a i c _ _ _ h.2.1 h.2.2.1 (algOf_spec 0 a h.2.2.2.1) (algOf_spec 1 i h.2.2.2.2.1)
      (algOf_spec 2 c h.2.2.2.2.2)

example : (Spec.OpenSessionRsp.ok 0x7b 4 0xa0a2a3a4 0x9c (some 1) none (some 1)).wf ∧
    (Spec.OpenSessionRsp.failed 1 0x11 1).wf ∧ (Spec.OpenSessionRsp.statusOnly 0xc7).wf := by decide

/-- neither the lone status byte nor at least the 7-byte error form: rejected -/
theorem openSessionRsp_short (b : Bytes) (h1 : b.length ≠ 1) (h : b.length < 7) :
    Setup.OpenSessionRsp.decode b = .error () := by
  simp [Setup.OpenSessionRsp.decode, h1, h]

/-- a success status with any length other than 36 (including the lone byte 00): rejected -/
theorem openSessionRsp_ok_exact (b : Bytes) (hs : b.getD (if b.length = 1 then 0 else 1) 0 = 0) (hl : b.length ≠ 36) :
    Setup.OpenSessionRsp.decode b = .error () := by
  unfold Setup.OpenSessionRsp.decode
  by_cases h1 : b.length = 1
  · simp only [h1, if_true] at hs
    simp only [h1, hs, if_true, beq_self_eq_true]
  · simp only [h1, if_false] at hs
    by_cases h7 : b.length < 7
    · simp only [h1, h7, if_true, if_false]
    · simp only [h1, h7, hs, if_false, if_true, beq_self_eq_true, ne_eq, hl, not_false_eq_true]

/-- a success response whose algorithm payloads do not carry the types 00, 01, 02 in this order: rejected -/
theorem openSessionRsp_payload_type (b : Bytes) (hs : b.getD 1 0 = 0) (hl : b.length = 36)
    (ht : b.getD 12 0 ≠ 0 ∨ b.getD 20 0 ≠ 1 ∨ b.getD 28 0 ≠ 2) : Setup.OpenSessionRsp.decode b = .error () :=
  openSessionRsp_alg_error b hs hl (ht.imp (algOf_type 0 b 12) (Or.imp (algOf_type 1 b 20) (algOf_type 2 b 28)))

/-- a success response with a wildcard (zero-length) payload that nevertheless names an algorithm: rejected -/
theorem openSessionRsp_wildcard_alg (b : Bytes) (hs : b.getD 1 0 = 0) (hl : b.length = 36) (k : Nat) (hk : k < 3)
    (hw : b.getD (12 + 8 * k + 3) 0 = 0) (ha : b.getD (12 + 8 * k + 4) 0 &&& 0x3f ≠ 0) :
    Setup.OpenSessionRsp.decode b = .error () := by
  have h3 : k = 0 ∨ k = 1 ∨ k = 2 := by omega
  rcases h3 with rfl | rfl | rfl
  · exact openSessionRsp_alg_error b hs hl (.inl (algOf_wildcard 0 b 12 hw ha))
  · exact openSessionRsp_alg_error b hs hl (.inr (.inl (algOf_wildcard 1 b 20 hw ha)))
  · exact openSessionRsp_alg_error b hs hl (.inr (.inr (algOf_wildcard 2 b 28 hw ha)))

def rakp1View (v : Spec.RAKP1) : Setup.RAKP1 :=
  { tag := v.tag, bmcSID := v.bmcSID, consoleRandom := v.rm, lookup := !v.nameOnly, maxPriv := v.priv
    username := v.user, contents := v.encode }

/-- every well-formed RAKP Message 1, with a user name of any length 0…16, decodes to its fields -/
theorem rakp1_decode_spec (v : Spec.RAKP1) (h : v.wf) : Setup.RAKP1.decode v.encode = .ok (rakp1View v) := by
  obtain ⟨h1, h2, h3, h4⟩ := h
  have e2 := role v.nameOnly v.priv.toNat h3
  simp only [UInt8.ofNat_toNat] at e2
  have len : v.encode.length = 28 + v.user.length := by
    simp only [Spec.RAKP1.encode, Spec.le32, List.length_append, List.length_cons, List.length_nil, h2]
  have g27 : v.encode.getD 27 0 = UInt8.ofNat v.user.length := by
    simp only [Spec.RAKP1.encode, List.append_assoc, List.cons_append, List.nil_append, List.getD_cons_succ, getD_le32,
      getD_block h2, List.getD_cons_zero]
  have e27 : (UInt8.ofNat v.user.length).toNat = v.user.length := UInt8.toNat_ofNat_of_lt' (Nat.lt_of_le_of_lt h4 (by decide))
  unfold Setup.RAKP1.decode
  simp only [g27, e27, len, if_neg (Nat.not_lt.2 (Nat.le_add_right 28 _)), if_neg (Nat.not_lt.2 h4), if_neg (Nat.lt_irrefl _)]
  simp only [Spec.RAKP1.encode, rakp1View, List.append_assoc, List.cons_append, List.nil_append, List.getD_cons_succ,
    List.getD_cons_zero, List.drop_succ_cons, List.drop_zero, getD_le32, drop_le32, getD_block h2, drop_block h2,
    List.take_left' h2, List.take_length, le32_spec _ h1, e2]

example : (⟨7, 0x02000000, [1, 2, 3, 4, 5, 6, 7, 8, 9, 10, 11, 12, 13, 14, 15, 16], true, 4, [0x61, 0x64, 0x6d]⟩ : Spec.RAKP1).wf := by
  decide

/-- shorter than the fixed 28-byte part: rejected -/
theorem rakp1_short (b : Bytes) (h : b.length < 28) : Setup.RAKP1.decode b = .error () := by
  simp [Setup.RAKP1.decode, h]

/-- a user-name length above 16, or a user name that is not all there: rejected -/
theorem rakp1_bad_username (b : Bytes) (h : (b.getD 27 0).toNat > 16 ∨ b.length < 28 + (b.getD 27 0).toNat) :
    Setup.RAKP1.decode b = .error () := by
  unfold Setup.RAKP1.decode
  by_cases h28 : b.length < 28
  · simp only [h28, if_true]
  · simp only [h28, if_false]
    rcases h with h | h
    · simp only [h, if_true]
    · by_cases h16 : (b.getD 27 0).toNat > 16
      · simp only [h16, if_true]
      · simp only [h16, h, if_true, if_false]

example : ∃ b : Bytes, ¬ b.length < 28 ∧ ((b.getD 27 0).toNat > 16 ∨ b.length < 28 + (b.getD 27 0).toNat) :=
  ⟨List.replicate 27 0 ++ [3, 0x61], by decide⟩

/-- the model is the decoder with the length guard before the two 16-byte fields -/
def rakp2View : Spec.RAKP2 → RAKP2
  | .failed tag st sid => { tag := tag, status := st, consoleSessionID := sid, contents := (Spec.RAKP2.failed tag st sid).encode }
  | .ok tag sid rc guid ac =>
    { tag := tag, status := 0, consoleSessionID := sid, bmcRandom := rc, bmcGUID := guid, authCode := ac
      contents := (Spec.RAKP2.ok tag sid rc guid ac).encode }

/-- every well-formed RAKP Message 2 — error form, or success with an authentication code of any length
    (including none) — decodes to its fields -/
theorem rakp2_decode_spec (v : Spec.RAKP2) (h : v.wf) : RAKP2.decode v.encode = .ok (rakp2View v) := by
  cases v with
  | failed tag st sid =>
    obtain ⟨h1, h2⟩ := h
    have : (st == 0) = false := by simpa using h1
    simp only [RAKP2.decode, Spec.RAKP2.encode, rakp2View, List.cons_append, List.nil_append, List.getD_cons_succ,
      List.getD_cons_zero, List.drop_succ_cons, List.drop_zero, this, show le32 (Spec.le32 sid) = sid from le32_spec _ h2 []]
    rfl
  | ok tag sid rc guid ac => exact rakp2_decode_ok tag sid rc guid ac h.1 h.2.1 h.2.2

example : (Spec.RAKP2.ok 1 0xa0a2a3a4 (List.replicate 16 0xAB) (List.replicate 16 0x44) [1, 2, 3, 4, 5]).wf ∧
    (Spec.RAKP2.ok 1 2 (List.replicate 16 0xAB) (List.replicate 16 0x44) []).wf ∧ (Spec.RAKP2.failed 1 0x0d 3).wf := by
  decide

/-- shorter than the 8-byte error form: rejected -/
theorem rakp2_short (b : Bytes) (h : b.length < 8) : RAKP2.decode b = .error () := by
  simp [RAKP2.decode, h]

/-- a success status without both 16-byte fields: rejected (this is the guard the pinned tree lacks) -/
theorem rakp2_ok_short (b : Bytes) (hs : b.getD 1 0 = 0) (h : b.length < 40) : RAKP2.decode b = .error () := by
  unfold RAKP2.decode
  by_cases h8 : b.length < 8
  · simp only [h8, if_true]
  · simp only [h8, h, hs, if_true, if_false, beq_self_eq_true]

def rakp4View : Spec.RAKP4 → Setup.RAKP4
  | .failed tag st sid => { tag := tag, status := st, consoleSID := sid, contents := (Spec.RAKP4.failed tag st sid).encode }
  | .ok tag sid icv => { tag := tag, status := 0, consoleSID := sid, icv := icv, contents := (Spec.RAKP4.ok tag sid icv).encode }

/-- every well-formed RAKP Message 4 — error form, or success with an integrity check value of any length
    (including none) — decodes to its fields -/
theorem rakp4_decode_spec (v : Spec.RAKP4) (h : v.wf) : Setup.RAKP4.decode v.encode = .ok (rakp4View v) := by
  cases v with
  | failed tag st sid =>
    obtain ⟨h1, h2⟩ := h
    have : (st == 0) = false := by simpa using h1
    simp only [Setup.RAKP4.decode, Spec.RAKP4.encode, rakp4View, List.cons_append, List.nil_append, List.getD_cons_succ,
      List.getD_cons_zero, List.drop_succ_cons, List.drop_zero, this, show le32 (Spec.le32 sid) = sid from le32_spec _ h2 []]
    rfl
  | ok tag sid icv => exact rakp4_decode_ok tag sid icv h

example : (Spec.RAKP4.ok 1 0xa0a2a3a4 [1, 2, 3, 4, 5, 6, 7, 8, 9, 10, 11, 12]).wf ∧ (Spec.RAKP4.ok 1 5 []).wf ∧
    (Spec.RAKP4.failed 1 0x0f 3).wf := by decide

/-- shorter than the 8-byte error form: rejected -/
theorem rakp4_short (b : Bytes) (h : b.length < 8) : Setup.RAKP4.decode b = .error () := by
  simp [Setup.RAKP4.decode, h]

/-- the selector consumes nothing and reports the RMCP+ format exactly for authentication type 06 -/
theorem selector_decode_spec (v : Spec.SessionWrapper) :
    Setup.Selector.decode v.encode = .ok { isRMCPPlus := v.isV2, payload := v.encode } := by
  simp [Setup.Selector.decode, Spec.SessionWrapper.encode, Spec.SessionWrapper.isV2]

/-- an empty session wrapper: rejected -/
theorem selector_short (b : Bytes) (h : b.length < 1) : Setup.Selector.decode b = .error () := by
  simp [Setup.Selector.decode, h]

/-- the model is the decoder that resets `AuthCode` on unauthenticated packets -/
def v1View (v : Spec.V1Packet) : V1Session :=
  { authType := v.authType, sequence := v.sequence, id := v.id
    authCode := (match v.authCode with | some c => c | none => List.replicate 16 0)
    length := UInt8.ofNat v.payload.length
    contents := v.header, payload := v.payload }

/-- every well-formed v1.5 session packet, with or without the authentication code and with a payload of any
    length below 256, decodes to its header fields and its payload -/
theorem v1_decode_spec (v : Spec.V1Packet) (h : v.wf) : V1Session.decode v.encode = .ok (v1View v) := by
  obtain ⟨h1, h2, _, h4⟩ := h
  cases hc : v.authCode with
  | none =>
    simp only [hc] at h4
    have h10 : 10 ≤ v.encode.length := by
      simp only [Spec.V1Packet.encode, Spec.V1Packet.header, hc, Spec.le32, List.length_append, List.length_cons,
        List.length_nil]
      omega
    simp only [V1Session.decode, if_neg (Nat.not_lt.2 h10)]
    simp only [Spec.V1Packet.encode, Spec.V1Packet.header, v1View, hc, h4, List.append_assoc, List.cons_append,
      List.nil_append, List.getD_cons_succ, List.getD_cons_zero, List.drop_succ_cons, List.drop_zero, getD_le32, drop_le32,
      le32_spec _ h1, le32_spec _ h2]
    rfl
  | some c =>
    simp only [hc] at h4
    obtain ⟨h5, h6⟩ := h4
    have h5' : (v.authType == 0) = false := by simpa using h5
    have h26 : 26 ≤ v.encode.length := by
      simp only [Spec.V1Packet.encode, Spec.V1Packet.header, hc, Spec.le32, List.length_append, List.length_cons,
        List.length_nil, h6]
      omega
    simp only [V1Session.decode, if_neg (Nat.not_lt.2 h26), if_neg (Nat.not_lt.2 (Nat.le_trans (by decide : 10 ≤ 26) h26))]
    simp only [Spec.V1Packet.encode, Spec.V1Packet.header, v1View, hc, h5', List.append_assoc, List.cons_append,
      List.nil_append, List.getD_cons_succ, List.getD_cons_zero, List.drop_succ_cons, List.drop_zero, getD_le32, drop_le32,
      getD_block h6, drop_block h6, List.take_left' h6, le32_spec _ h1, le32_spec _ h2, List.take_succ_cons, take_le32,
      take_block h6, List.take_zero, Bool.false_eq_true, if_false]

example : (⟨2, 0x12345678, 0x9abcdef0, some (List.replicate 16 0x5a), [1, 2, 3]⟩ : Spec.V1Packet).wf ∧
    (⟨0, 0, 0, none, [0x20, 0x18, 0xc8]⟩ : Spec.V1Packet).wf := by decide

/-- shorter than the 10-byte unauthenticated header: rejected -/
theorem v1_short (b : Bytes) (h : b.length < 10) : V1Session.decode b = .error () := by
  simp [V1Session.decode, h]

/-- an authentication type other than none without room for the 16-byte code: rejected -/
theorem v1_auth_short (b : Bytes) (ha : b.getD 0 0 ≠ 0) (h : b.length < 26) : V1Session.decode b = .error () := by
  unfold V1Session.decode
  have : (b.getD 0 0 == 0) = false := by simpa using ha
  by_cases h10 : b.length < 10
  · simp only [h10, if_true]
  · simp only [h10, this, h, if_true, if_false, Bool.false_eq_true]

open Bmc.Lemmas.SetupBridge in
/-- the Open Session Response decoder inside the HANDSHAKE model (`Proto/Handshake.lean`: `stepOpen`) is the decoder
    specified above, with `Contents` forgotten: for every Go slice its outcome is the pure decoder's on the visible
    bytes — so every `openSessionRsp_*` theorem of this file governs what session establishment accepts -/
theorem handshake_openSessionRsp (d : GoSlice) :
    Wire.OpenSessionRsp.decodeGo {} d = (R.ofExcept (Setup.OpenSessionRsp.decode d.vis)).map forgetOpen :=
  openSessionRsp_pure {} d

open Bmc.Lemmas.SetupBridge in
/-- likewise RAKP Message 4 (`stepRakp4`) -/
theorem handshake_rakp4 (d : GoSlice) :
    Wire.RAKP4.decodeGo {} d = (R.ofExcept (Setup.RAKP4.decode d.vis)).map
      (fun r => { tag := r.tag, status := r.status, consoleSessionID := r.consoleSID, icv := r.icv }) :=
  rakp4_pure {} d

/-- and a specification-conforming successful Open Session Response reaches the handshake as its field values -/
theorem handshake_openSessionRsp_spec (tag mp : UInt8) (csid bsid : Nat) (a i c : Option UInt8)
    (h : (Spec.OpenSessionRsp.ok tag mp csid bsid a i c).wf) :
    Wire.OpenSessionRsp.decodeGo {} (GoSlice.ofBytes (Spec.OpenSessionRsp.ok tag mp csid bsid a i c).encode) =
      .ok { tag := tag, status := 0, maxPriv := mp, consoleSessionID := csid, bmcSessionID := bsid
            authWild := (algView a).wildcard, auth := (algView a).algorithm
            integWild := (algView i).wildcard, integ := (algView i).algorithm
            confWild := (algView c).wildcard, conf := (algView c).algorithm } := by
  rw [handshake_openSessionRsp, GoSlice.vis_ofBytes, openSessionRsp_decode_spec _ h]
  rfl

end Bmc.Proofs.C07
