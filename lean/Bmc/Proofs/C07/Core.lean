import Bmc.Lemmas.MessageRoundTrip
import Bmc.Lemmas.MessageRefine
import Bmc.Lemmas.V2RoundTrip
import Bmc.Spec.Prim
/-! # C07 (IPMI message, session wrapper): specified encodings decode to their fields; bad checksums and an
    excessive length field are rejected -/
namespace Bmc.Proofs.C07
open Bmc Bmc.Wire Bmc.Prim

/-- the specification's IPMI LAN message (§13.8): rsAddr, NetFn/LUN, checksum 1, rqAddr, rqSeq/LUN, command,
    [completion code], [group body code | OEM IANA], data, checksum 2 -/
def specMessage (rs netFn rsLUN rq rqSeq rqLUN cmd : UInt8) (cc : Option UInt8) (prefix_ data : Bytes) : Bytes :=
  let head : Bytes := [rs, (netFn <<< 2) ||| rsLUN]
  let rest : Bytes := [rq, (rqSeq <<< 2) ||| rqLUN, cmd] ++ (match cc with | some c => [c] | none => []) ++ prefix_ ++ data
  head ++ [Spec.checksum head] ++ rest ++ [Spec.checksum rest]

/-- a plain (non-group, non-OEM) response decodes to its fields, for data of every length -/
theorem message_decode_spec_response (rs netFn rsLUN rq rqSeq rqLUN cmd cc : UInt8) (data : Bytes)
    (h1 : netFn.toNat < 64) (h2 : rsLUN.toNat < 4) (h3 : rqSeq.toNat < 64) (h4 : rqLUN.toNat < 4)
    (hr : isRequest netFn = false) (hg : isGroup netFn = false) (ho : isOEM netFn = false) :
    ∃ m, Message.decode 8 (specMessage rs netFn rsLUN rq rqSeq rqLUN cmd (some cc) [] data) = .ok m ∧
      m.function = netFn ∧ m.remoteLUN = rsLUN ∧ m.remoteAddress = rs ∧ m.localAddress = rq ∧ m.sequence = rqSeq ∧
      m.localLUN = rqLUN ∧ m.command = cmd ∧ m.completionCode = cc ∧ m.payload = data := by
  let m0 : Message := { function := netFn, command := cmd, remoteAddress := rs, remoteLUN := rsLUN, localAddress := rq
                        localLUN := rqLUN, sequence := rqSeq, completionCode := cc }
  have hwf : m0.WF := ⟨h1, h2, h4, h3, by show (0 : Nat) < 16777216; omega, fun _ => rfl, fun _ => rfl, fun h => by simp [m0, hr] at h⟩
  have hrt := Message.decode_encode m0 data hwf
  have henc : (Message.encode m0 data).2 = specMessage rs netFn rsLUN rq rqSeq rqLUN cmd (some cc) [] data := by
    simp [Message.encode, specMessage, m0, hr, hg, ho, checksum, Spec.checksum]
  rw [henc] at hrt
  exact ⟨_, hrt, rfl, rfl, rfl, rfl, rfl, rfl, rfl, rfl, rfl⟩

/-- checksum 1 wrong ⇒ rejected, whatever else the message holds -/
theorem message_bad_checksum1 (b : Bytes) (h : b.getD 2 0 ≠ checksum (b.take 2)) : Message.decode 8 b = .error () :=
  Except.eq_error_of_ne_ok fun _ hm => h (Message.decode_ok hm).2.1

/-- checksum 2 wrong ⇒ rejected -/
theorem message_bad_checksum2 (b : Bytes)
    (h : b.getD (b.length - 1) 0 ≠ checksum ((b.drop 3).take (b.length - 1 - 3))) : Message.decode 8 b = .error () :=
  Except.eq_error_of_ne_ok fun _ hm => h (Message.decode_ok hm).2.2.1

/-- shorter than the 7 bytes of a request without data ⇒ rejected -/
theorem message_short (b : Bytes) (h : b.length < 7) : Message.decode 8 b = .error () :=
  Except.eq_error_of_ne_ok fun _ hm => Nat.not_lt.mpr (Message.decode_ok hm).1 h

/-- a session wrapper whose length field exceeds the data that follows ⇒ rejected (non-OEM payload types) -/
theorem v2_length_exceeds (mac : Bytes → Bytes) (b : Bytes) (hoem : (b.getD 1 0 &&& 0x3f) ≠ 2)
    (h : b.length < 12 + le16 (b.drop 10)) : V2Session.decode mac b = .error () := by
  have hb : (b.getD 1 0 &&& 0x3f == 2) = false := by simpa using hoem
  simp only [V2Session.decode, hb, Bool.false_and, Bool.false_eq_true, if_false, Nat.reduceAdd, h, if_true, ite_self]

theorem v2_short (mac : Bytes → Bytes) (b : Bytes) (h : b.length < 12) : V2Session.decode mac b = .error () := by
  simp [V2Session.decode, h]

example : isRequest 7 = false ∧ isGroup 7 = false ∧ isOEM 7 = false := by decide

end Bmc.Proofs.C07
