import Bmc.Lemmas.Api
import Bmc.Lemmas.ApiSessionless
import Bmc.Lemmas.ApiRequest
import Bmc.Lemmas.ApiFits
import Bmc.Proofs.C03
import Bmc.Proofs.C06
import Bmc.Proofs.C07.Basic
import Bmc.Proofs.C07.Sess
import Bmc.Proofs.C07.Sdr
import Bmc.Proofs.C07.Dcmi
import Bmc.Proofs.C17.Core
import Bmc.Crypto.Toy
/-! # C07 / C06 / C11 / C17 at the level a caller sees: the HIGH-LEVEL API CALLS, end to end (property theorems only)

`Proto/Api.lean` models every wrapper around `SendCommand` (`bmc.V2Session`'s twelve methods, `V2Sessionless`'s two, the
DCMI commanders' seven): which command the wrapper builds from its arguments, and what `SendCommand` +
`ValidateResponse` + the wrapper's `return` make of the response. The theorems tie the pieces proved elsewhere (the per-layer
`…_decode_spec` theorems, C03, C06, C11, C17) together, for EVERY call. -/
namespace Bmc.Proofs.C07
open Bmc Bmc.Wire Bmc.Crypto Bmc.Proto

/-- the datagram with which a conforming BMC answers `call` inside session `s`: response message to the call's
    command with completion code `cc` and body `body`, AES-CBC under K2 with IV `riv`, wrapped for the console's
    session ID with sequence number `seq`, AuthCode under K1 (`Lemmas/ResponseAccepted.lean`) -/
abbrev bmcAnswers (C : Ops) (s : Sess) (call : Call) (cc : UInt8) (body : Bytes) (seq : Nat) (riv : Bytes) : Outcome :=
  .reply (responseDatagram C s.keys (call.cmdFor s.remoteID) cc body seq riv)

/-- the datagram of the call's command under the session's keys, at its current counter, with this attempt's IV -/
abbrev requestOf (C : Ops) (s : Sess) (call : Call) (iv : Bytes) : Bytes :=
  datagramOf C s.keys (call.cmdFor s.remoteID) s.inbound iv

/-- what the types of the library guarantee about the values involved: a 32-bit console session ID, a 32-bit
    sequence number in the BMC's reply, a 16-byte IV -/
structure ReplyOK (s : Sess) (seq : Nat) (riv : Bytes) : Prop where
  riv : riv.length = 16
  id : s.localID < 4294967296
  seq : seq < 4294967296

/-- END TO END, in session: if the call's response layer decodes `enc` (at most 65000 bytes) to `val` (the per-call
    `…_decode_spec` fact), then the call answered by (00h, `enc`) returns exactly `val` after one transmission — for every
    lawful cipher / hash, session, counter, IV, reply sequence number and whatever the script holds afterwards -/
theorem call_returns_decoded (C : Ops) (hC : C.Lawful) (call : Call) (hreq : call ≠ .setSessionPrivilegeLevel 1) (s : Sess)
    (enc : Bytes) (val : Value) (hdec : call.decodeBody enc = .ok val) (hfit : enc.length ≤ 65000)
    (iv : Bytes) (ivs : List Bytes) (seq : Nat) (riv : Bytes) (rest : List Outcome) (h : ReplyOK s seq riv) :
    (sessCall C s call (iv :: ivs) (bmcAnswers C s call 0 enc seq riv :: rest)).2 = ([requestOf C s call iv], .ok val) := by
  rw [sessCall_response C hC call hreq s iv ivs 0 enc seq riv rest h.riv h.id h.seq
    (responseAes_fits C hC _ _ _ _ _ h.riv hfit) (by decide), finish_eq, if_pos rfl, hdec]

/-- a NON-ZERO completion code is an error, never a value — whatever body (of at most 65000 bytes) the BMC sends along
    (none, a truncated one, a full conforming one). (The two temporary codes C0h / C3h are retried instead: C10.) -/
theorem nonzero_code_is_error (C : Ops) (hC : C.Lawful) (call : Call) (hreq : call ≠ .setSessionPrivilegeLevel 1) (s : Sess)
    (cc : UInt8) (hcc : cc ≠ 0) (hnt : isTemp cc = false) (body : Bytes) (hfit : body.length ≤ 65000)
    (iv : Bytes) (ivs : List Bytes) (seq : Nat) (riv : Bytes) (rest : List Outcome) (h : ReplyOK s seq riv) :
    (sessCall C s call (iv :: ivs) (bmcAnswers C s call cc body seq riv :: rest)).2 = ([requestOf C s call iv], .err) := by
  rw [sessCall_response C hC call hreq s iv ivs cc body seq riv rest h.riv h.id h.seq
    (responseAes_fits C hC _ _ _ _ _ h.riv hfit) hnt, finish_eq, if_neg hcc]

/-- … as a statement about `SendCommand` + `ValidateResponse` + wrapper alone: for every call, code and body -/
theorem finish_nonzero_code (call : Call) (cc : UInt8) (hcc : cc ≠ 0) (body : Bytes) : call.finish cc body = .err := by
  rw [finish_eq, if_neg hcc]

/-- SOUNDNESS, every script: whatever the BMC (or anybody else) sends — any number of replies, lost, forged,
    truncated, belonging to other commands, carrying any codes — a value is handed to the caller only when some reply
    of the script decodes as a response to THIS call's command (network function, command, group body code) with completion code
    00h and a body which the call's response layer (fresh receiver) decodes to exactly that value. (That the reply was also
    authentic and addressed to this session — the other clauses of `accept` — is in `Lemmas/Api.sessCall_ok_inv`, from which
    this is read, and is not repeated in the statement.) -/
theorem value_only_from_code_zero (C : Ops) (call : Call) (s : Sess) (hs : s.inbound < 4294967296) (ivs : List Bytes)
    (script : List Outcome) (hl : script.length ≤ ivs.length) (v : Value) (h : (sessCall C s call ivs script).2.2 = .ok v) :
    ∃ d v2 msg, Outcome.reply d ∈ script ∧
      view (onReply C s.keys.sess (GoSlice.ofBytes d)) = (.message, some (v2, msg)) ∧
      msg.function = (call.cmdFor s.remoteID).fn + 1 ∧ msg.command = (call.cmdFor s.remoteID).cmd ∧
      msg.body = (call.cmdFor s.remoteID).body ∧ msg.completionCode = 0 ∧ call.decodeBody msg.payload = .ok v := by
  obtain ⟨d, v2, msg, hm, hv, hacc, hcc, hdec⟩ := sessCall_ok_inv C call s hs ivs script hl v h
  simp [accept] at hacc
  exact ⟨d, v2, msg, hm, hv, hacc.1.1.1.2, hacc.1.1.2, hacc.1.2, hcc, hdec⟩

/-- NO STALE DATA across calls (C17 at the caller's level): two states of a session that agree on the keys and the
    counter — whatever earlier calls and their replies left in the connection's layers — give the same transmitted
    bytes and the same returned value (the final counter too: `C17.session_history_independent`; the statement here compares the
    second components only), for every call and every reply script (the command
    struct, and with it the response layer, is allocated per call: `decodeBody` starts from a zero receiver) -/
theorem call_history_independent (C : Ops) (call : Call) (s s' : Sess) (hk : s'.keys = s.keys) (hi : s'.inbound = s.inbound)
    (hs : s.inbound < 4294967296) (ivs : List Bytes) (script : List Outcome) (hl : script.length ≤ ivs.length) :
    (sessCall C s' call ivs script).2 = (sessCall C s call ivs script).2 := by
  have hrid : s'.remoteID = s.remoteID := congrArg Keys.remoteID hk
  by_cases hreq : call = .setSessionPrivilegeLevel 1
  · subst hreq; rw [sessCall_refused, sessCall_refused]
  · have hf : (call.cmdFor s.remoteID).reqFails = false := by rw [cmdFor_reqFails]; simp [hreq]
    have h := (C17.session_history_independent C (call.cmdFor s.remoteID) hf s s' hk hi hs ivs script hl).1
    unfold sessCall send
    simp only [hrid]
    rw [Prod.ext_iff] at h
    exact Prod.ext h.1 (by rw [h.2])

/-- no call ever panics on a response the loop hands it (the per-layer C05 theorems, through the wrapper) -/
theorem finish_never_panics (call : Call) (cc : UInt8) (body : Bytes) : (call.finish cc body).bad = false := by
  rw [finish_eq]; split
  · exact decodeBody_safe call body
  · rfl

/-- Set Session Privilege Level = Callback (reserved) is refused: nothing is transmitted, the call fails -/
theorem callback_refused (C : Ops) (s : Sess) (ivs : List Bytes) (script : List Outcome) :
    (sessCall C s (.setSessionPrivilegeLevel 1) ivs script).2 = ([], .err) :=
  sessCall_refused C s ivs script

/-- the operation of every call is the specification's (NetFn, command, group-extension byte) for that command, sent
    to LUN 0 -/
theorem operation_is_spec (call : Call) :
    call.wire.operation.function.toNat = (C06.specCode call.wire).netFn ∧
    call.wire.operation.command.toNat = (C06.specCode call.wire).cmd ∧
    Req.expectedExt call.wire.operation = (C06.specCode call.wire).ext ∧ call.wire.lun 0 = 0 := by
  obtain ⟨_, h1, h2, h3, h4⟩ := C06.operation_table call.wire
  refine ⟨h1, h2, h3, ?_⟩
  rw [h4]; split <;> rfl

/-- THE REQUEST, in session: for in-width arguments, the transmitted datagram opens under the session's keys (what
    the BMC does: verify the AuthCode under K1, decrypt under K2, check both checksums) to a request message from the
    console (81h) to the BMC (20h), LUN 0, carrying the call's operation (`operation_is_spec`: the specification's)
    and request data which the specification's reference parser reads back as exactly the caller's arguments; it
    bears the BMC's session ID and the next sequence number, and uses this attempt's IV -/
theorem request_is_the_call (C : Ops) (hC : C.Lawful) (call : Call) (s : Sess) (hargs : call.argsWf s.remoteID)
    (hr : s.remoteID < 4294967296) (iv : Bytes) (hiv : iv.length = 16) :
    ∃ v a m, V2Session.decode (integMac C s.integ s.k1) ((requestOf C s call iv).drop 4) = .ok v ∧
      v.authenticated = true ∧ v.encrypted = true ∧ v.payloadType = 0 ∧ v.id = s.remoteID ∧
      v.sequence = (s.inbound + 1) % 4294967296 ∧
      AESLayer.decode C s.k2 v.payload = .ok a ∧ a.contents = iv ∧
      Message.decode 8 a.payload = .ok m ∧ m.remoteAddress = 0x20 ∧ m.localAddress = 0x81 ∧ m.remoteLUN = 0 ∧
      m.function = call.wire.operation.function ∧ m.command = call.wire.operation.command ∧
      m.body = call.wire.operation.body ∧ m.enterprise = call.wire.operation.enterprise ∧
      call.specParse m.payload = some (call.asked s.remoteID) := by
  obtain ⟨b, hb, hp⟩ := request_parses call s.remoteID hargs
  have hreqb : (call.cmdFor s.remoteID).req = b := by simp [Call.cmdFor, hb]
  obtain ⟨w1, w2, w3, w4, w5⟩ := wire_req_wf call.wire
  have hlun0 := (operation_is_spec call).2.2.2
  have hwf : (C03.requestMessage (call.cmdFor s.remoteID)).WF :=
    ⟨w1, w2, by show (0 : UInt8).toNat < 4; decide, by show (1 : UInt8).toNat < 64; decide, w3, w4, w5, fun _ => rfl⟩
  have hmlen : (C03.messageBytes (call.cmdFor s.remoteID)).length ≤ 65400 := by
    have := Message.encode_length_le (C03.requestMessage (call.cmdFor s.remoteID)) (call.cmdFor s.remoteID).req
    have := request_short call s.remoteID
    unfold C03.messageBytes; omega
  obtain ⟨v, hv, ha, he, hpt, hid, hsq, hpl⟩ := C03.wrapper_opens C s.keys hr (call.cmdFor s.remoteID) s.inbound iv
    (aesEncode_fits C hC _ iv _ hiv hmlen)
  obtain ⟨m, hm, hf, hc, hbd, hen, hra, hrl, hla, hpay⟩ := C03.message_is_the_command (call.cmdFor s.remoteID) hwf
  refine ⟨v, { contents := iv, payload := C03.messageBytes (call.cmdFor s.remoteID) }, m, hv, ha, he, hpt, hid, hsq, ?_, rfl, hm, hra, hla,
    ?_, hf, hc, hbd, hen, ?_⟩
  · rw [hpl]; exact C03.payload_decrypts C hC s.keys (call.cmdFor s.remoteID) iv hiv
  · rw [hrl]; exact hlun0
  · rw [hpay, hreqb]; exact hp

/-! ## Session-less: `V2Sessionless.GetSystemGUID`, `GetChannelAuthenticationCapabilities`, the five DCMI capability
    calls of `dcmi.NewSessionlessCommander` (`slResponseDatagram`: plaintext response in the null session wrapper) -/

/-- END TO END outside a session: one transmission — the library's session-less packet around the call's request —
    and exactly the decoded value -/
theorem sessionless_call_returns_decoded (call : Call) (hreq : call ≠ .setSessionPrivilegeLevel 1)
    (enc : Bytes) (val : Value) (hdec : call.decodeBody enc = .ok val) (hfit : enc.length ≤ 65000) (rest : List Outcome) :
    slCall call (.reply (slResponseDatagram call.cmd 0 enc) :: rest) =
      ([Req.packetSessionless call.wire.operation (call.wire.lun 0) call.cmd.req], .ok val) := by
  unfold slResponseDatagram
  rw [slCall_response call hreq 0 0 0 enc rest (by omega) (by omega) hfit (by decide), finish_eq, if_pos rfl, hdec]

/-- … and a non-zero completion code is an error there too -/
theorem sessionless_nonzero_code_is_error (call : Call) (hreq : call ≠ .setSessionPrivilegeLevel 1) (cc : UInt8)
    (hcc : cc ≠ 0) (hnt : isTemp cc = false) (body : Bytes) (hfit : body.length ≤ 65000) (rest : List Outcome) :
    slCall call (.reply (slResponseDatagram call.cmd cc body) :: rest) =
      ([Req.packetSessionless call.wire.operation (call.wire.lun 0) call.cmd.req], .err) := by
  unfold slResponseDatagram
  rw [slCall_response call hreq 0 0 cc body rest (by omega) (by omega) hfit hnt, finish_eq, if_neg hcc]

/-- the console does not care what the BMC puts in the session ID / sequence fields of a session-less reply -/
theorem sessionless_wrapper_fields_ignored (call : Call) (hreq : call ≠ .setSessionPrivilegeLevel 1) (sid seq : Nat)
    (hsid : sid < 4294967296) (hseq : seq < 4294967296) (cc : UInt8) (hnt : isTemp cc = false) (body : Bytes)
    (hfit : body.length ≤ 65000) (rest : List Outcome) :
    slCall call (.reply (slResponseDatagramWith sid seq call.cmd cc body) :: rest) =
      slCall call (.reply (slResponseDatagram call.cmd cc body) :: rest) := by
  unfold slResponseDatagram
  rw [slCall_response call hreq sid seq cc body rest hsid hseq hfit hnt,
    slCall_response call hreq 0 0 cc body rest (by omega) (by omega) hfit hnt]

/-- SOUNDNESS outside a session, every script -/
theorem sessionless_value_only_from_code_zero (call : Call) (script : List Outcome) (v : Value)
    (h : (slCall call script).2 = .ok v) :
    ∃ d msg, Outcome.reply d ∈ script ∧ slView (slOnReply {} (GoSlice.ofBytes d)) = (.message, some msg) ∧
      msg.function = call.cmd.fn + 1 ∧ msg.command = call.cmd.cmd ∧ msg.body = call.cmd.body ∧
      msg.completionCode = 0 ∧ call.decodeBody msg.payload = .ok v := by
  obtain ⟨d, msg, hm, hv, hacc, hcc, hdec⟩ := slCall_ok_inv call script v h
  simp [slAcceptable] at hacc
  exact ⟨d, msg, hm, hv, hacc.1.1.1, hacc.1.1.2, hacc.1.2, hcc, hdec⟩

/-- THE REQUEST outside a session: the BMC, reading the transmitted datagram with the reference parser and
    dispatching on the specification's code of the call's command, sees that command on LUN 0 with the caller's
    arguments -/
theorem sessionless_request_is_the_call (call : Call) (hargs : call.argsWf 0) :
    Spec.Req.readCommand (C06.specCode call.wire) call.specParse
        (Req.packetSessionless call.wire.operation (call.wire.lun 0) call.cmd.req) = some (0, call.asked 0) := by
  obtain ⟨b, hb, hp⟩ := request_parses call 0 hargs
  have hreqb : call.cmd.req = b := by simp [Call.cmd, Call.cmdFor, hb]
  have hfits : Req.bodyFits call.cmd.req := by
    have := request_short call 0
    show (call.cmdFor 0).req.length + 11 < 65536; omega
  rw [C06.command_packet_parses call.wire 0 call.cmd.req (by decide) hfits call.specParse, hreqb, hp]
  simp only [Option.map_some]
  split <;> rfl

/-! ## One instance per call: the specification's encoding of any well-formed value comes back as its fields -/

/-- Get System GUID: the sixteen bytes, in wire order -/
theorem getSystemGUID_returns (C : Ops) (hC : C.Lawful) (s : Sess) (v : Spec.SystemGUID) (hv : v.wf)
    (iv : Bytes) (ivs : List Bytes) (seq : Nat) (riv : Bytes) (rest : List Outcome) (h : ReplyOK s seq riv) :
    (sessCall C s .getSystemGUID (iv :: ivs) (bmcAnswers C s .getSystemGUID 0 v.encode seq riv :: rest)).2 =
      ([requestOf C s .getSystemGUID iv], .ok (.guid v.guid)) :=
  call_returns_decoded C hC _ (by decide) s _ _
    (by show (GUIDRsp.decode v.encode).map _ = _; rw [guid_decode_spec v hv]; rfl)
    (by have : v.guid.length = 16 := hv; simp [Spec.SystemGUID.encode, this]) iv ivs seq riv rest h

theorem getSystemGUID_returns_sessionless (v : Spec.SystemGUID) (hv : v.wf) (rest : List Outcome) :
    slCall .getSystemGUID (.reply (slResponseDatagram Call.getSystemGUID.cmd 0 v.encode) :: rest) =
      ([Req.packetSessionless Req.Cmd.getSystemGUID.operation 0 []], .ok (.guid v.guid)) :=
  sessionless_call_returns_decoded .getSystemGUID (by decide) _ _
    (by show (GUIDRsp.decode v.encode).map _ = _; rw [guid_decode_spec v hv]; rfl)
    (by have : v.guid.length = 16 := hv; simp [Spec.SystemGUID.encode, this]) rest

/-- Get Channel Authentication Capabilities, for every request -/
theorem getChannelAuthenticationCapabilities_returns (C : Ops) (hC : C.Lawful) (s : Sess) (r : Req.AuthCaps)
    (v : Spec.AuthCaps) (hv : v.wf)
    (iv : Bytes) (ivs : List Bytes) (seq : Nat) (riv : Bytes) (rest : List Outcome) (h : ReplyOK s seq riv) :
    (sessCall C s (.getChannelAuthenticationCapabilities r) (iv :: ivs)
        (bmcAnswers C s (.getChannelAuthenticationCapabilities r) 0 v.encode seq riv :: rest)).2 =
      ([requestOf C s (.getChannelAuthenticationCapabilities r) iv], .ok (.authCaps (authCapsView v))) :=
  call_returns_decoded C hC _ (by simp) s _ _
    (by show (AuthCapsRsp.decode v.encode).map Value.authCaps = _; rw [authCaps_decode_spec v hv]; rfl) v.encode_fits iv ivs seq riv rest h

theorem getChannelAuthenticationCapabilities_returns_sessionless (r : Req.AuthCaps) (v : Spec.AuthCaps) (hv : v.wf)
    (rest : List Outcome) :
    slCall (.getChannelAuthenticationCapabilities r)
        (.reply (slResponseDatagram (Call.getChannelAuthenticationCapabilities r).cmd 0 v.encode) :: rest) =
      ([Req.packetSessionless Req.Cmd.authCaps.operation 0 r.encode], .ok (.authCaps (authCapsView v))) :=
  sessionless_call_returns_decoded (.getChannelAuthenticationCapabilities r) (by simp) _ _
    (by show (AuthCapsRsp.decode v.encode).map Value.authCaps = _; rw [authCaps_decode_spec v hv]; rfl) v.encode_fits rest

/-- Get Session Info, every form of the response (no session / active session without, with LAN, with serial data) -/
theorem getSessionInfo_returns (C : Ops) (hC : C.Lawful) (s : Sess) (r : Req.SessionInfo) (v : Spec.SessionInfo) (hv : v.wf)
    (iv : Bytes) (ivs : List Bytes) (seq : Nat) (riv : Bytes) (rest : List Outcome) (h : ReplyOK s seq riv) :
    (sessCall C s (.getSessionInfo r) (iv :: ivs) (bmcAnswers C s (.getSessionInfo r) 0 v.encode seq riv :: rest)).2 =
      ([requestOf C s (.getSessionInfo r) iv], .ok (.sessionInfo (sessionInfoView v))) :=
  call_returns_decoded C hC _ (by simp) s _ _
    (by show (SessionInfoRsp.decode v.encode).map Value.sessionInfo = _; rw [sessionInfo_decode_spec v hv]; rfl) v.encode_fits
    iv ivs seq riv rest h

/-- Get Device ID, with and without the auxiliary firmware revision -/
theorem getDeviceID_returns (C : Ops) (hC : C.Lawful) (s : Sess) (v : Spec.DeviceID) (hv : v.wf)
    (iv : Bytes) (ivs : List Bytes) (seq : Nat) (riv : Bytes) (rest : List Outcome) (h : ReplyOK s seq riv) :
    (sessCall C s .getDeviceID (iv :: ivs) (bmcAnswers C s .getDeviceID 0 v.encode seq riv :: rest)).2 =
      ([requestOf C s .getDeviceID iv], .ok (.deviceID (deviceIDView v))) :=
  call_returns_decoded C hC _ (by decide) s _ _
    (by simp only [Call.decodeBody]; rw [GetDeviceIDRsp.decodeGo_refines, GoSlice.vis_ofBytes, deviceID_decode_spec v hv]; rfl)
    v.encode_fits iv ivs seq riv rest h

/-- Get Chassis Status, with and without the front-panel byte -/
theorem getChassisStatus_returns (C : Ops) (hC : C.Lawful) (s : Sess) (v : Spec.ChassisStatus) (hv : v.wf)
    (iv : Bytes) (ivs : List Bytes) (seq : Nat) (riv : Bytes) (rest : List Outcome) (h : ReplyOK s seq riv) :
    (sessCall C s .getChassisStatus (iv :: ivs) (bmcAnswers C s .getChassisStatus 0 v.encode seq riv :: rest)).2 =
      ([requestOf C s .getChassisStatus iv], .ok (.chassis (chassisView v))) :=
  call_returns_decoded C hC _ (by decide) s _ _
    (by show (GetChassisStatusRsp.decode v.encode).map Value.chassis = _; rw [chassis_decode_spec v hv]; rfl) v.encode_fits
    iv ivs seq riv rest h

/-- Chassis Control: code 00h (the response has no data; data a BMC might add is ignored) means success -/
theorem chassisControl_returns (C : Ops) (hC : C.Lawful) (s : Sess) (control : Nat) (extra : Bytes) (hx : extra.length ≤ 65000)
    (iv : Bytes) (ivs : List Bytes) (seq : Nat) (riv : Bytes) (rest : List Outcome) (h : ReplyOK s seq riv) :
    (sessCall C s (.chassisControl control) (iv :: ivs) (bmcAnswers C s (.chassisControl control) 0 extra seq riv :: rest)).2 =
      ([requestOf C s (.chassisControl control) iv], .ok .none) :=
  call_returns_decoded C hC _ (by simp) s _ _ rfl hx iv ivs seq riv rest h

/-- Get SDR Repository Info -/
theorem getSDRRepositoryInfo_returns (C : Ops) (hC : C.Lawful) (s : Sess) (v : Spec.SDRRepoInfo) (hv : v.wf)
    (iv : Bytes) (ivs : List Bytes) (seq : Nat) (riv : Bytes) (rest : List Outcome) (h : ReplyOK s seq riv) :
    (sessCall C s .getSDRRepositoryInfo (iv :: ivs) (bmcAnswers C s .getSDRRepositoryInfo 0 v.encode seq riv :: rest)).2 =
      ([requestOf C s .getSDRRepositoryInfo iv], .ok (.sdrRepoInfo (sdrRepoInfoView v))) :=
  call_returns_decoded C hC _ (by decide) s _ _
    (by show (SDRRepoInfoRsp.decode v.encode).map Value.sdrRepoInfo = _; rw [sdrRepoInfo_decode_spec v hv]; rfl) v.encode_fits
    iv ivs seq riv rest h

/-- Reserve SDR Repository -/
theorem reserveSDRRepository_returns (C : Ops) (hC : C.Lawful) (s : Sess) (v : Spec.ReserveSDR) (hv : v.wf)
    (iv : Bytes) (ivs : List Bytes) (seq : Nat) (riv : Bytes) (rest : List Outcome) (h : ReplyOK s seq riv) :
    (sessCall C s .reserveSDRRepository (iv :: ivs) (bmcAnswers C s .reserveSDRRepository 0 v.encode seq riv :: rest)).2 =
      ([requestOf C s .reserveSDRRepository iv], .ok (.reserve { reservationID := v.reservationID, contents := v.encode })) :=
  call_returns_decoded C hC _ (by decide) s _ _
    (by show (ReserveRsp.decode v.encode).map Value.reserve = _; rw [reserveSDR_decode_spec v hv]; rfl) v.encode_fits
    iv ivs seq riv rest h

/-- Get Sensor Reading, for every sensor number, with and without the second state byte -/
theorem getSensorReading_returns (C : Ops) (hC : C.Lawful) (s : Sess) (sensor : UInt8) (v : Spec.SensorReading)
    (iv : Bytes) (ivs : List Bytes) (seq : Nat) (riv : Bytes) (rest : List Outcome) (h : ReplyOK s seq riv) :
    (sessCall C s (.getSensorReading sensor) (iv :: ivs) (bmcAnswers C s (.getSensorReading sensor) 0 v.encode seq riv :: rest)).2 =
      ([requestOf C s (.getSensorReading sensor) iv],
       .ok (.sensorReading { reading := v.reading, eventMessagesEnabled := v.eventMessagesEnabled
                             scanningEnabled := v.scanningEnabled, readingUnavailable := v.readingUnavailable
                             contents := v.encode, payload := [] })) :=
  call_returns_decoded C hC _ (by simp) s _ _
    (by show (SensorReadingRsp.decode v.encode).map Value.sensorReading = _; rw [sensorReading_decode_spec v]; rfl) v.encode_fits
    iv ivs seq riv rest h

/-- Get Session Privilege Level (= Set Session Privilege Level with level 0): the level the BMC reports -/
theorem getSessionPrivilegeLevel_returns (C : Ops) (hC : C.Lawful) (s : Sess) (v : Spec.SetPriv) (hv : v.wf)
    (iv : Bytes) (ivs : List Bytes) (seq : Nat) (riv : Bytes) (rest : List Outcome) (h : ReplyOK s seq riv) :
    (sessCall C s .getSessionPrivilegeLevel (iv :: ivs) (bmcAnswers C s .getSessionPrivilegeLevel 0 v.encode seq riv :: rest)).2 =
      ([requestOf C s .getSessionPrivilegeLevel iv], .ok (.level v.level)) :=
  call_returns_decoded C hC _ (by decide) s _ _
    (by simp only [Call.decodeBody]
        rw [show SetPrivRsp.decodeGo {} (GoSlice.ofBytes v.encode) = SetPrivRsp.decode v.encode from rfl, setPriv_decode_spec v hv]; rfl) (by simp [Spec.SetPriv.encode])
    iv ivs seq riv rest h

/-- Set Session Privilege Level, for every level the serialiser accepts: the NEW level the BMC reports -/
theorem setSessionPrivilegeLevel_returns (C : Ops) (hC : C.Lawful) (s : Sess) (level : UInt8) (hl : level ≠ 1)
    (v : Spec.SetPriv) (hv : v.wf)
    (iv : Bytes) (ivs : List Bytes) (seq : Nat) (riv : Bytes) (rest : List Outcome) (h : ReplyOK s seq riv) :
    (sessCall C s (.setSessionPrivilegeLevel level) (iv :: ivs)
        (bmcAnswers C s (.setSessionPrivilegeLevel level) 0 v.encode seq riv :: rest)).2 =
      ([requestOf C s (.setSessionPrivilegeLevel level) iv], .ok (.level v.level)) :=
  call_returns_decoded C hC _ (by simp [hl]) s _ _
    (by simp only [Call.decodeBody]
        rw [show SetPrivRsp.decodeGo {} (GoSlice.ofBytes v.encode) = SetPrivRsp.decode v.encode from rfl, setPriv_decode_spec v hv]; rfl) (by simp [Spec.SetPriv.encode])
    iv ivs seq riv rest h

/-- Close: code 00h means the session is closed -/
theorem close_returns (C : Ops) (hC : C.Lawful) (s : Sess) (extra : Bytes) (hx : extra.length ≤ 65000)
    (iv : Bytes) (ivs : List Bytes) (seq : Nat) (riv : Bytes) (rest : List Outcome) (h : ReplyOK s seq riv) :
    (sessCall C s .close (iv :: ivs) (bmcAnswers C s .close 0 extra seq riv :: rest)).2 = ([requestOf C s .close iv], .ok .none) :=
  call_returns_decoded C hC _ (by decide) s _ _ rfl hx iv ivs seq riv rest h

/-- DCMI Get Power Reading, for every request -/
theorem getPowerReading_returns (C : Ops) (hC : C.Lawful) (s : Sess) (r : Req.PowerReading) (v : Spec.PowerReading) (hv : v.wf)
    (iv : Bytes) (ivs : List Bytes) (seq : Nat) (riv : Bytes) (rest : List Outcome) (h : ReplyOK s seq riv) :
    (sessCall C s (.getPowerReading r) (iv :: ivs) (bmcAnswers C s (.getPowerReading r) 0 v.encode seq riv :: rest)).2 =
      ([requestOf C s (.getPowerReading r) iv], .ok (.powerReading (powerReadingView v))) :=
  call_returns_decoded C hC _ (by simp) s _ _
    (by simp only [Call.decodeBody]; rw [PowerReading.decodeGo_refines, GoSlice.vis_ofBytes, powerReading_decode_spec v hv]; rfl)
    v.encode_fits iv ivs seq riv rest h

/-- DCMI Get DCMI Sensor Info, for every request and every number 0 … 255 of record IDs -/
theorem getDCMISensorInfo_returns (C : Ops) (hC : C.Lawful) (s : Sess) (r : Req.DcmiSensorInfo) (v : Spec.SensorInfo) (hv : v.wf)
    (iv : Bytes) (ivs : List Bytes) (seq : Nat) (riv : Bytes) (rest : List Outcome) (h : ReplyOK s seq riv) :
    (sessCall C s (.getDCMISensorInfo r) (iv :: ivs) (bmcAnswers C s (.getDCMISensorInfo r) 0 v.encode seq riv :: rest)).2 =
      ([requestOf C s (.getDCMISensorInfo r) iv], .ok (.sensorInfo (sensorInfoView v))) :=
  call_returns_decoded C hC _ (by simp) s _ _
    (by
      have h1 := SensorInfo.decodeGo_refines {} (GoSlice.ofBytes v.encode)
      rw [GoSlice.vis_ofBytes, sensorInfo_decode_spec v hv] at h1
      simp only [Call.decodeBody]
      cases hd : SensorInfo.decodeGo {} (GoSlice.ofBytes v.encode) <;> rw [hd] at h1 <;> simp [R.map] at h1 ⊢
      exact h1)
    (v.encode_fits hv) iv ivs seq riv rest h

/-- DCMI capabilities, parameter 1 (all three DCMI versions), in a session … -/
theorem dcmiSupportedCapabilities_returns (C : Ops) (hC : C.Lawful) (s : Sess) (v : Spec.Cap1)
    (iv : Bytes) (ivs : List Bytes) (seq : Nat) (riv : Bytes) (rest : List Outcome) (h : ReplyOK s seq riv) :
    (sessCall C s .dcmiSupportedCapabilities (iv :: ivs) (bmcAnswers C s .dcmiSupportedCapabilities 0 v.encode seq riv :: rest)).2 =
      ([requestOf C s .dcmiSupportedCapabilities iv], .ok (.cap1 (cap1View v))) :=
  call_returns_decoded C hC _ (by decide) s _ _
    (by simp only [Call.decodeBody]; rw [DcmiCap1.decodeGo_refines, GoSlice.vis_ofBytes, cap1_decode_spec v]; rfl)
    v.encode_fits iv ivs seq riv rest h

/-- … and outside -/
theorem dcmiSupportedCapabilities_returns_sessionless (v : Spec.Cap1) (rest : List Outcome) :
    slCall .dcmiSupportedCapabilities (.reply (slResponseDatagram Call.dcmiSupportedCapabilities.cmd 0 v.encode) :: rest) =
      ([Req.packetSessionless Req.Cmd.dcmiCaps.operation 0 [1]], .ok (.cap1 (cap1View v))) :=
  sessionless_call_returns_decoded .dcmiSupportedCapabilities (by decide) _ _
    (by simp only [Call.decodeBody]; rw [DcmiCap1.decodeGo_refines, GoSlice.vis_ofBytes, cap1_decode_spec v]; rfl)
    v.encode_fits rest

/-- parameter 2 -/
theorem dcmiMandatoryPlatformAttrs_returns (C : Ops) (hC : C.Lawful) (s : Sess) (v : Spec.Cap2) (hv : v.wf)
    (iv : Bytes) (ivs : List Bytes) (seq : Nat) (riv : Bytes) (rest : List Outcome) (h : ReplyOK s seq riv) :
    (sessCall C s .dcmiMandatoryPlatformAttrs (iv :: ivs) (bmcAnswers C s .dcmiMandatoryPlatformAttrs 0 v.encode seq riv :: rest)).2 =
      ([requestOf C s .dcmiMandatoryPlatformAttrs iv], .ok (.cap2 (cap2View v))) :=
  call_returns_decoded C hC _ (by decide) s _ _
    (by simp only [Call.decodeBody]; rw [DcmiCap2.decodeGo_refines, GoSlice.vis_ofBytes, cap2_decode_spec v hv]; rfl)
    v.encode_fits iv ivs seq riv rest h

theorem dcmiMandatoryPlatformAttrs_returns_sessionless (v : Spec.Cap2) (hv : v.wf) (rest : List Outcome) :
    slCall .dcmiMandatoryPlatformAttrs (.reply (slResponseDatagram Call.dcmiMandatoryPlatformAttrs.cmd 0 v.encode) :: rest) =
      ([Req.packetSessionless Req.Cmd.dcmiCaps.operation 0 [2]], .ok (.cap2 (cap2View v))) :=
  sessionless_call_returns_decoded .dcmiMandatoryPlatformAttrs (by decide) _ _
    (by simp only [Call.decodeBody]; rw [DcmiCap2.decodeGo_refines, GoSlice.vis_ofBytes, cap2_decode_spec v hv]; rfl)
    v.encode_fits rest

/-- parameter 3 -/
theorem dcmiOptionalPlatformAttrs_returns (C : Ops) (hC : C.Lawful) (s : Sess) (v : Spec.Cap3) (hv : v.wf)
    (iv : Bytes) (ivs : List Bytes) (seq : Nat) (riv : Bytes) (rest : List Outcome) (h : ReplyOK s seq riv) :
    (sessCall C s .dcmiOptionalPlatformAttrs (iv :: ivs) (bmcAnswers C s .dcmiOptionalPlatformAttrs 0 v.encode seq riv :: rest)).2 =
      ([requestOf C s .dcmiOptionalPlatformAttrs iv], .ok (.cap3 (cap3View v))) :=
  call_returns_decoded C hC _ (by decide) s _ _
    (by simp only [Call.decodeBody]; rw [DcmiCap3.decodeGo_refines, GoSlice.vis_ofBytes, cap3_decode_spec v hv]; rfl)
    v.encode_fits iv ivs seq riv rest h

theorem dcmiOptionalPlatformAttrs_returns_sessionless (v : Spec.Cap3) (hv : v.wf) (rest : List Outcome) :
    slCall .dcmiOptionalPlatformAttrs (.reply (slResponseDatagram Call.dcmiOptionalPlatformAttrs.cmd 0 v.encode) :: rest) =
      ([Req.packetSessionless Req.Cmd.dcmiCaps.operation 0 [3]], .ok (.cap3 (cap3View v))) :=
  sessionless_call_returns_decoded .dcmiOptionalPlatformAttrs (by decide) _ _
    (by simp only [Call.decodeBody]; rw [DcmiCap3.decodeGo_refines, GoSlice.vis_ofBytes, cap3_decode_spec v hv]; rfl)
    v.encode_fits rest

/-- parameter 4 -/
theorem dcmiManageabilityAccessAttrs_returns (C : Ops) (hC : C.Lawful) (s : Sess) (v : Spec.Cap4)
    (iv : Bytes) (ivs : List Bytes) (seq : Nat) (riv : Bytes) (rest : List Outcome) (h : ReplyOK s seq riv) :
    (sessCall C s .dcmiManageabilityAccessAttrs (iv :: ivs) (bmcAnswers C s .dcmiManageabilityAccessAttrs 0 v.encode seq riv :: rest)).2 =
      ([requestOf C s .dcmiManageabilityAccessAttrs iv], .ok (.cap4 (cap4View v))) :=
  call_returns_decoded C hC _ (by decide) s _ _
    (by simp only [Call.decodeBody]; rw [DcmiCap4.decodeGo_refines, GoSlice.vis_ofBytes, cap4_decode_spec v]; rfl)
    v.encode_fits iv ivs seq riv rest h

theorem dcmiManageabilityAccessAttrs_returns_sessionless (v : Spec.Cap4) (rest : List Outcome) :
    slCall .dcmiManageabilityAccessAttrs (.reply (slResponseDatagram Call.dcmiManageabilityAccessAttrs.cmd 0 v.encode) :: rest) =
      ([Req.packetSessionless Req.Cmd.dcmiCaps.operation 0 [4]], .ok (.cap4 (cap4View v))) :=
  sessionless_call_returns_decoded .dcmiManageabilityAccessAttrs (by decide) _ _
    (by simp only [Call.decodeBody]; rw [DcmiCap4.decodeGo_refines, GoSlice.vis_ofBytes, cap4_decode_spec v]; rfl)
    v.encode_fits rest

/-- parameter 5, every number 0 … 255 of rolling-average periods -/
theorem dcmiEnhancedSystemPowerStatisticsAttrs_returns (C : Ops) (hC : C.Lawful) (s : Sess) (v : Spec.Cap5) (hv : v.wf)
    (iv : Bytes) (ivs : List Bytes) (seq : Nat) (riv : Bytes) (rest : List Outcome) (h : ReplyOK s seq riv) :
    (sessCall C s .dcmiEnhancedSystemPowerStatisticsAttrs (iv :: ivs)
        (bmcAnswers C s .dcmiEnhancedSystemPowerStatisticsAttrs 0 v.encode seq riv :: rest)).2 =
      ([requestOf C s .dcmiEnhancedSystemPowerStatisticsAttrs iv], .ok (.cap5 (cap5View v))) :=
  call_returns_decoded C hC _ (by decide) s _ _
    (by simp only [Call.decodeBody]; rw [DcmiCap5.decodeGo_refines, GoSlice.vis_ofBytes, cap5_decode_spec v hv]; rfl)
    (v.encode_fits hv) iv ivs seq riv rest h

theorem dcmiEnhancedSystemPowerStatisticsAttrs_returns_sessionless (v : Spec.Cap5) (hv : v.wf) (rest : List Outcome) :
    slCall .dcmiEnhancedSystemPowerStatisticsAttrs
        (.reply (slResponseDatagram Call.dcmiEnhancedSystemPowerStatisticsAttrs.cmd 0 v.encode) :: rest) =
      ([Req.packetSessionless Req.Cmd.dcmiCaps.operation 0 [5]], .ok (.cap5 (cap5View v))) :=
  sessionless_call_returns_decoded .dcmiEnhancedSystemPowerStatisticsAttrs (by decide) _ _
    (by simp only [Call.decodeBody]; rw [DcmiCap5.decodeGo_refines, GoSlice.vis_ofBytes, cap5_decode_spec v hv]; rfl)
    (v.encode_fits hv) rest

/-- `ReplyOK` holds of an ordinary session and reply … -/
example : ReplyOK { localID := 7, remoteID := 9, integ := 1, k1 := [1], k2 := List.replicate 16 0 } 5 (List.replicate 16 4) :=
  ⟨by decide, by decide, by decide⟩

/-- … under a lawful cipher / hash … -/
example : Crypto.toy.Lawful := Crypto.toy_lawful

/-- … in-width arguments exist for calls with arguments … -/
example : (Call.getChannelAuthenticationCapabilities { extendedData := true, channel := 0xE, maxPrivilegeLevel := 4 }).argsWf 9 := by
  show Req.AuthCaps.wf _; decide
example : (Call.getPowerReading { mode := 2, periodNs := 300000000000 }).argsWf 9 := by
  show _ ∨ _; exact Or.inr ⟨rfl, by decide⟩

/-- … and the kernel, evaluating the model on a Get Device ID call answered with a 15-byte body under the toy crypto
    (independently of the theorems above), gets one transmission and the decoded fields -/
example :
    let s : Sess := { localID := 7, remoteID := 9, integ := 1, k1 := [1], k2 := List.replicate 16 0 }
    let body : Bytes := [0x20, 0x81, 0x02, 0x15, 0x02, 0xbf, 0x57, 0x01, 0x00, 0x34, 0x12, 0xAA, 0xBB, 0xCC, 0xDD]
    let r := sessCall Crypto.toy s .getDeviceID [List.replicate 16 3] [bmcAnswers Crypto.toy s .getDeviceID 0 body 5 (List.replicate 16 4)]
    r.2.1.length = 1 ∧
    r.2.2.map (fun | .deviceID d => (d.id, d.manufacturer, d.product, d.aux) | _ => (0, 0, 0, [])) =
      .ok (0x20, 0x157, 0x1234, [0xAA, 0xBB, 0xCC, 0xDD]) := by
  decide +kernel

/-- the same call answered with completion code C1h (invalid command) and the same body: an error -/
example :
    let s : Sess := { localID := 7, remoteID := 9, integ := 1, k1 := [1], k2 := List.replicate 16 0 }
    let body : Bytes := [0x20, 0x81, 0x02, 0x15, 0x02, 0xbf, 0x57, 0x01, 0x00, 0x34, 0x12]
    (sessCall Crypto.toy s .getDeviceID [List.replicate 16 3] [bmcAnswers Crypto.toy s .getDeviceID 0xC1 body 5 (List.replicate 16 4)]).2.2
      = .err := by
  decide +kernel

/-- session-less Get System GUID answered in the null session wrapper -/
example :
    (slCall .getSystemGUID [.lost, .reply (slResponseDatagram Call.getSystemGUID.cmd 0 ((List.range 16).map UInt8.ofNat))]).2
      = .ok (.guid ((List.range 16).map UInt8.ofNat)) := by
  decide +kernel

end Bmc.Proofs.C07
