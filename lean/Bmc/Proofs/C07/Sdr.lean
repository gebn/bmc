import Bmc.Lemmas.SdrBits
import Bmc.Lemmas.SdrRefine
import Bmc.Lemmas.SdrIdString
import Bmc.Lemmas.LittleEndian
/-! # C07 (SDR group): decoding the specification's encoding of any field values yields those values; anything
    shorter than the layer's minimum is rejected -/
namespace Bmc.Proofs.C07
open Bmc Bmc.Wire Bmc.Lemmas.Sdr

def sdrRepoInfoView (v : Spec.SDRRepoInfo) : SDRRepoInfoRsp :=
  { version := UInt8.ofNat (10 * v.versionMajor + v.versionMinor), records := v.records, freeSpace := v.freeSpace
    lastAddition := v.lastAddition, lastErase := v.lastErase, flags := v.flags, contents := v.encode, payload := [] }

theorem sdrRepoInfo_decode_spec (v : Spec.SDRRepoInfo) (h : v.wf) :
    SDRRepoInfoRsp.decode v.encode = .ok (sdrRepoInfoView v) := by
  obtain ⟨h1, h2, h3, h4, h5, h6⟩ := h
  have hn : 14 ≤ (GoSlice.ofBytes v.encode).len := Nat.le_refl 14
  simp only [SDRRepoInfoRsp.decode, SDRRepoInfoRsp.decodeGo, if_neg (Nat.not_lt.2 hn), GoSlice.idx_of_le hn,
    GoSlice.slice_of_le hn, GoSlice.sliceFrom_of_le hn, Nat.reduceLT, Nat.reduceLeDiff, Nat.le_refl, R.bind_ok, R.pure_eq,
    GoSlice.sub_vis, GoSlice.take_len_drop_vis]
  simp only [GoSlice.vis_ofBytes, Spec.SDRRepoInfo.encode, List.append_assoc, List.cons_append, List.nil_append,
    List.drop_succ_cons, List.drop_zero, List.getD_cons_succ, List.getD_cons_zero, le16_take, le32_take, Nat.reduceSub, Nat.le_refl,
    drop_le16, drop_le32, getD_le16, getD_le32, le16_spec _ h3, le16_spec _ h4, le32_spec _ h5, le32_spec _ h6,
    version _ h1 _ h2]
  rw [show v.flags &&& 0xef = v.flags from flags13 ..]
  rfl

example : (⟨1, 5, 0x1234, 0xfffe, 0x5f000000, 0xffffffff, true, false, true, true, false, true, true⟩ : Spec.SDRRepoInfo).wf := by
  decide

/-- shorter than the 14-byte minimum: rejected -/
theorem sdrRepoInfo_short (b : Bytes) (h : b.length < 14) : SDRRepoInfoRsp.decode b = .err := by
  simp [SDRRepoInfoRsp.decode, SDRRepoInfoRsp.decodeGo, h]

theorem reserveSDR_decode_spec (v : Spec.ReserveSDR) (h : v.wf) :
    ReserveRsp.decode v.encode = .ok { reservationID := v.reservationID, contents := v.encode } := by
  have hn : 2 ≤ (GoSlice.ofBytes v.encode).len := Nat.le_refl 2
  simp only [ReserveRsp.decode, ReserveRsp.decodeGo, if_neg (Nat.not_lt.2 hn), GoSlice.slice_of_le hn, Nat.reduceLeDiff,
    Nat.le_refl, R.bind_ok, R.pure_eq, GoSlice.sub_vis]
  simp only [GoSlice.vis_ofBytes, List.drop_zero, le16_take, Nat.le_refl,
    show le16 v.encode = v.reservationID from le16_spec _ h []]
  rfl
example : (⟨0xbeef⟩ : Spec.ReserveSDR).wf := by decide
theorem reserveSDR_short (b : Bytes) (h : b.length < 2) : ReserveRsp.decode b = .err := by
  simp [ReserveRsp.decode, ReserveRsp.decodeGo, h]

/-- for every amount of record data, none included -/
theorem getSDR_decode_spec (v : Spec.GetSDR) (h : v.wf) :
    GetSDRRsp.decode v.encode = .ok { next := v.next, contents := Spec.le16 v.next, payload := v.data } := by
  have hn : 2 ≤ (GoSlice.ofBytes v.encode).len := Nat.le_add_left 2 v.data.length
  simp only [GetSDRRsp.decode, GetSDRRsp.decodeGo, if_neg (Nat.not_lt.2 hn), GoSlice.slice_of_le hn, GoSlice.sliceFrom_of_le hn,
    Nat.reduceLeDiff, Nat.le_refl, R.bind_ok, R.pure_eq, GoSlice.sub_vis, GoSlice.take_len_drop_vis]
  simp only [GoSlice.vis_ofBytes, Spec.GetSDR.encode, List.drop_zero, le16_take, Nat.le_refl, le16_spec _ h]
  rfl
example : (⟨0xffff, [1, 2, 3]⟩ : Spec.GetSDR).wf := by decide
theorem getSDR_short (b : Bytes) (h : b.length < 2) : GetSDRRsp.decode b = .err := by
  simp [GetSDRRsp.decode, GetSDRRsp.decodeGo, h]

/-- for every record body length 0…255 -/
theorem sdrHeader_decode_spec (v : Spec.SDRHeader) (h : v.wf) :
    SDRHeader.decode v.encode = .ok { id := v.id, version := UInt8.ofNat (10 * v.versionMajor + v.versionMinor)
                                      typ := v.recordType, length := UInt8.ofNat v.body.length
                                      contents := v.encode.take 5, payload := v.body } := by
  obtain ⟨h1, h2, h3, _⟩ := h
  have hn : 5 ≤ (GoSlice.ofBytes v.encode).len := Nat.le_add_left 5 v.body.length
  simp only [SDRHeader.decode, SDRHeader.decodeGo, if_neg (Nat.not_lt.2 hn), GoSlice.idx_of_le hn, GoSlice.slice_of_le hn,
    GoSlice.sliceFrom_of_le hn, Nat.reduceLT, Nat.reduceLeDiff, Nat.le_refl, R.bind_ok, R.pure_eq, GoSlice.sub_vis,
    GoSlice.take_len_drop_vis]
  simp only [GoSlice.vis_ofBytes, Spec.SDRHeader.encode, List.append_assoc, List.cons_append, List.drop_zero, le16_take,
    Nat.le_refl, le16_spec _ h1, getD_le16, List.getD_cons_zero, version _ h2 _ h3]
  rfl
example : (⟨0x0102, 1, 5, 1, [1, 2, 3]⟩ : Spec.SDRHeader).wf := by decide
theorem sdrHeader_short (b : Bytes) (h : b.length < 5) : SDRHeader.decode b = .err := by
  simp [SDRHeader.decode, SDRHeader.decodeGo, h]

/-- with and without the optional second state byte; no field has a constraint, so every value is well formed -/
theorem sensorReading_decode_spec (v : Spec.SensorReading) :
    SensorReadingRsp.decode v.encode = .ok { reading := v.reading, eventMessagesEnabled := v.eventMessagesEnabled
                                             scanningEnabled := v.scanningEnabled, readingUnavailable := v.readingUnavailable
                                             contents := v.encode, payload := [] } := by
  have e := reading1 v.eventMessagesEnabled v.scanningEnabled v.readingUnavailable
  unfold SensorReadingRsp.decode SensorReadingRsp.decodeGo
  cases hs : v.states2 with
  | none => simp [Spec.SensorReading.encode, hs, GoSlice.slice, GoSlice.sliceFrom, GoSlice.idx, GoSlice.ofBytes, GoSlice.vis, e]
  | some s => simp [Spec.SensorReading.encode, hs, GoSlice.slice, GoSlice.sliceFrom, GoSlice.idx, GoSlice.ofBytes, GoSlice.vis, e]
theorem sensorReading_short (b : Bytes) (h : b.length < 3) : SensorReadingRsp.decode b = .err := by
  simp [SensorReadingRsp.decode, SensorReadingRsp.decodeGo, h]

def fullSensorView (v : Spec.FullSensor) : FullSensorRecord :=
  { ownerAddress := v.ownerID, channel := v.channel, ownerLUN := v.ownerLUN, number := v.number
    m := v.m, b := v.b, bExp := v.bExp, rExp := v.rExp
    isContainerEntity := v.logical, entity := v.entityID, inst := v.entityInstance, ignore := v.ignoreIfAbsent
    sensorType := v.sensorType, outputType := v.eventReadingType, analogDataFormat := v.analogFormat
    rateUnit := v.rateUnit, isPercentage := v.percentage, baseUnit := v.baseUnit, modifierUnit := v.modifierUnit
    linearisation := v.linearisation, tolerance := v.tolerance, accuracy := v.accuracy, accuracyExp := v.accuracyExp
    direction := v.direction, nominalReadingSpecified := v.nominalSpecified, normalMinSpecified := v.normalMinSpecified
    normalMaxSpecified := v.normalMaxSpecified, nominalReading := v.nominalReading, normalMin := v.normalMin
    normalMax := v.normalMax, sensorMin := v.sensorMin, sensorMax := v.sensorMax
    identity := v.idString.chars, contents := v.encode, payload := [] }

/-- every well-formed Full Sensor Record — every value of every field of the table, each of the four ID string
    encodings, every character count 0…31 (except count 1 in the two 8-bit encodings 00b and 11b, which `Spec.IdString.wf` leaves
    out: see the READING NOTE) — decodes to its fields, the string to its character codes (bytes: for Latin-1 codes ≥ 80h the Go
    string holds the raw byte, not the UTF-8 of the character) -/
theorem fullSensor_decode_spec (v : Spec.FullSensor) (h : v.wf) :
    FullSensorRecord.decode v.encode = .ok (fullSensorView v) := by
  obtain ⟨h1, h2, h3, h4, _, _, _, h8, h9, h10, h11, hm, h12, hb, ha, h13, h14, hr, hbe, hs⟩ := h
  obtain ⟨m1, em, _⟩ := signed10 v.m hm
  obtain ⟨b1, eb, _⟩ := signed10 v.b hb
  obtain ⟨a1, _, ea⟩ := signed10 v.accuracy ha
  obtain ⟨r1, er⟩ := signed4 v.rExp hr
  obtain ⟨k1, ek⟩ := signed4 v.bExp hbe
  -- the bytes that hold several fields
  have e1 := fsr1 v.channel.toNat h1 v.ownerLUN.toNat h2
  have e4 := fsr4 v.logical v.entityInstance.toNat h3
  have e6 := (fsr4 v.ignoreIfAbsent v.capabilities.toNat h4).1
  have e15 := fsr15a v.analogFormat.toNat h8 v.rateUnit.toNat h9 v.modifierUse.toNat h10 v.percentage
  have e18 := mask7 v.linearisation.toNat h11
  have e20 := fsr20 (Spec.toTwos 10 v.m / 256) (by omega) v.tolerance.toNat h12
  have e22 := fsr20 (Spec.toTwos 10 v.b / 256) (by omega) (Spec.toTwos 10 v.accuracy % 64) (by omega)
  have e23 := fsr23 (Spec.toTwos 10 v.accuracy / 64) (by omega) v.accuracyExp.toNat h13 v.direction.toNat h14
  have e24 := nibble_pair _ r1 _ k1
  have e25 := fsr25 v.normalMinSpecified v.normalMaxSpecified v.nominalSpecified
  simp only [UInt8.ofNat_toNat] at e1 e4 e6 e15 e18 e20 e23
  rw [Spec.FullSensor.encode, fullSensor_decode_fixed, (typeLength_fields _ hs).1, (typeLength_fields _ hs).2,
    idString_roundtrip _ hs]
  simp only [FullSensorRecord.ofBytes, fullSensorView, Spec.FullSensor.encode, take_block (fixed_length v),
    drop_block (fixed_length v), Nat.add_comm 43, List.take_length, List.drop_length,
    e1, e4, e6, e15, e18, e20, em, e22, eb, e23, ea, e24, er, ek, e25]

/-- the same on the wire: into any used receiver, from a window of any larger buffer -/
theorem fullSensor_decode_wire (v : Spec.FullSensor) (h : v.wf) (prev : FullSensorRecord) (tail : Bytes) :
    FullSensorRecord.decodeGo prev (GoSlice.window v.encode tail) = .ok (fullSensorView v) := by
  rw [FullSensorRecord.decodeGo_refines, GoSlice.vis_window, fullSensor_decode_spec v h]; rfl

/-- the first vector of the repository's own test (full_sensor_record_test.go: "CPU Temp", 8-bit ASCII) as a
    specification value: it is well formed and the specification's encoding is byte for byte the test's input -/
def cpuTemp : Spec.FullSensor :=
  { ownerID := 0x20, channel := 0, ownerLUN := 0, number := 1, entityID := 3, logical := false, entityInstance := 1
    initialization := 0x7f, ignoreIfAbsent := false, capabilities := 0x68, sensorType := 1, eventReadingType := 1
    assertionMask := 0x7200, deassertionMask := 0x7200, readingMask := 0x3f3f
    analogFormat := 2, rateUnit := 0, modifierUse := 0, percentage := false, baseUnit := 1, modifierUnit := 0
    linearisation := 0, m := 1, tolerance := 0, b := 0, accuracy := 0, accuracyExp := 0, direction := 0, rExp := 0, bExp := 0
    normalMinSpecified := true, normalMaxSpecified := true, nominalSpecified := true
    nominalReading := 0x28, normalMax := 0x59, normalMin := 0xfc, sensorMax := 0x7f, sensorMin := 0x80
    upperNonRecoverable := 0x64, upperCritical := 0x64, upperNonCritical := 0x5f, lowerNonRecoverable := 0, lowerCritical := 0
    lowerNonCritical := 0, positiveHysteresis := 2, negativeHysteresis := 2, oem := 0
    idString := ⟨.latin1, [0x43, 0x50, 0x55, 0x20, 0x54, 0x65, 0x6d, 0x70]⟩ }
example : cpuTemp.wf ∧ cpuTemp.encode =
    [0x20, 0x00, 0x01, 0x03, 0x01, 0x7f, 0x68, 0x01, 0x01, 0x00, 0x72, 0x00, 0x72, 0x3f, 0x3f, 0x80, 0x01, 0x00,
     0x00, 0x01, 0x00, 0x00, 0x00, 0x00, 0x00, 0x07, 0x28, 0x59, 0xfc, 0x7f, 0x80, 0x64, 0x64, 0x5f, 0x00, 0x00,
     0x00, 0x02, 0x02, 0x00, 0x00, 0x00, 0xc8, 0x43, 0x50, 0x55, 0x20, 0x54, 0x65, 0x6d, 0x70] := by decide +kernel

/-- the hypothesis is satisfiable for each encoding, with negative and extreme signed fields and the longest count -/
example : ({ cpuTemp with m := -512, b := 511, accuracy := -342, rExp := -8, bExp := 7, channel := 15, ownerLUN := 3
                          idString := ⟨.bcdPlus, List.replicate 31 0x2d⟩ } : Spec.FullSensor).wf := by decide +kernel
example : ({ cpuTemp with idString := ⟨.packed6, [0x38, 0x24, 0x20, 0x3d, 0x27, 0x5b, 0x5c, 0x56, 0x5f]⟩ } : Spec.FullSensor).wf := by
  decide +kernel
example : ({ cpuTemp with idString := ⟨.unicode, []⟩ } : Spec.FullSensor).wf := by decide +kernel

/-- shorter than the 43-byte minimum: rejected -/
theorem fullSensor_short (b : Bytes) (h : b.length < 43) : FullSensorRecord.decode b = .error () := by
  simp [FullSensorRecord.decode, h]

/-- an ID string cut short — fewer bytes after the type/length byte than its count calls for — is rejected, for
    every encoding and every count -/
theorem fullSensor_truncated (v : Spec.FullSensor) (h : v.wf) (j : Nat) (hj : j < v.idString.bytes.length) :
    FullSensorRecord.decode (v.fixed ++ v.idString.bytes.take j) = .error () := by
  obtain ⟨_, _, _, _, _, _, _, _, _, _, _, _, _, _, _, _, _, _, _, hs⟩ := h
  rw [fullSensor_decode_fixed, (typeLength_fields _ hs).1, (typeLength_fields _ hs).2,
    idString_truncated v.idString _ (by rw [List.length_take]; omega)]
example : (0 : Nat) < cpuTemp.idString.bytes.length := by decide

/-- READING NOTE (pinned by the repository's TestDecode8BitAsciiLatin1, first case): the byte-per-character decoder
    insists on two bytes being present whenever the count is not zero. A count of 1 is reserved for type 11b
    (§43.15), so `wf` excludes it; the library applies the same rule to type 00b ("unicode"). A one-character
    string is therefore rejected when the record ends after it, yet accepted when anything follows. -/
example :
    (FullSensorRecord.decode (cpuTemp.fixed.take 42 ++ [0x01, 0x41])).toOption.map (fun r => (r.identity, r.payload)) = none ∧
    (FullSensorRecord.decode (cpuTemp.fixed.take 42 ++ [0x01, 0x41, 0x00])).toOption.map (fun r => (r.identity, r.payload))
      = some ([0x41], [0x00]) := by decide +kernel

end Bmc.Proofs.C07
