import Bmc.Lemmas.DeviceIDBits
import Bmc.Lemmas.LittleEndian
/-! # C07 (Get Device ID): decoding the specification's encoding of any field values yields those values -/
namespace Bmc.Proofs.C07
open Bmc Bmc.Wire Bmc.Lemmas.DeviceID

def deviceIDView (v : Spec.DeviceID) : GetDeviceIDRsp :=
  { id := v.id, providesSDRs := v.providesSDRs, revision := v.revision, available := v.available
    majorFirmwareRevision := v.majorFirmware, minorFirmwareRevision := UInt8.ofNat v.minorFirmware
    majorIPMIVersion := v.ipmiMajor, minorIPMIVersion := v.ipmiMinor
    support := Spec.bit v.chassis 7 ||| Spec.bit v.bridge 6 ||| Spec.bit v.eventGenerator 5 ||| Spec.bit v.eventReceiver 4
      ||| Spec.bit v.fru 3 ||| Spec.bit v.sel 2 ||| Spec.bit v.sdrRepository 1 ||| Spec.bit v.sensor 0
    manufacturer := v.manufacturer, product := v.product
    aux := match v.aux with | some (a, b, c, d) => [a, b, c, d] | none => [0, 0, 0, 0]
    contents := v.encode }

/-- every well-formed Get Device ID response, with or without the auxiliary revision, decodes to its fields -/
theorem deviceID_decode_spec (v : Spec.DeviceID) (h : v.wf) :
    GetDeviceIDRsp.decode v.encode = .ok (deviceIDView v) := by
  obtain ⟨h1, h2, h3, h4, h5, h6, h7⟩ := h
  have e1 := b1 v.providesSDRs v.revision.toNat h1
  have e2 := b2 v.available v.majorFirmware.toNat h2
  have e3 := b3 v.minorFirmware h3
  have e4 := nibble_pair v.ipmiMinor.toNat h5 v.ipmiMajor.toNat h4
  simp only [UInt8.ofNat_toNat] at e1 e2 e4
  have e7 : (UInt8.ofNat (v.product % 256)).toNat + 256 * (UInt8.ofNat (v.product / 256 % 256)).toNat = v.product :=
    le16_spec v.product h7 []
  simp only [GetDeviceIDRsp.decode, deviceIDView, Spec.DeviceID.encode, Spec.le24, Spec.le16, List.cons_append,
    List.nil_append, List.getD_cons_succ, List.getD_cons_zero, List.drop_succ_cons, List.drop_zero, e1, e2, e3, e4, e7,
    Lemmas.Sess.le24_read _ h6]
  rcases v.aux with _ | ⟨a, b, c, d⟩ <;> rfl

example : (⟨0x20, true, 1, true, 2, 15, 2, 0, true, false, true, true, true, true, true, true, 343, 0x1234,
    some (1, 2, 3, 4)⟩ : Spec.DeviceID).wf := by decide

/-- shorter than the 11-byte minimum: rejected -/
theorem deviceID_short (b : Bytes) (h : b.length < 11) : GetDeviceIDRsp.decode b = .error () := by
  simp [GetDeviceIDRsp.decode, h]

end Bmc.Proofs.C07
