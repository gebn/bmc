import Bmc.Lemmas.DcmiBits
/-! # C07 (pkg/dcmi): decoding the specification's encoding of any field values yields those values; anything
    shorter than the layer's minimum, or shorter than its own count byte announces, is rejected -/
namespace Bmc.Proofs.C07
open Bmc Bmc.Wire Bmc.Lemmas.Dcmi

def dcmiHeaderView (v : Spec.DcmiVersion) : DcmiHeader := DcmiHeader.ofBytes v.header

/-- the library's presentation: capabilities that lost their bit in v1.1 are reported as present -/
def cap1View (v : Spec.Cap1) : DcmiCap1 :=
  { hdr := dcmiHeaderView v.ver
    temperatureMonitor := if v.ver.isV10 then v.temperatureMonitor else true
    chassisPower := if v.ver.isV10 then v.chassisPower else true
    selLogging := if v.ver.isV10 then v.selLogging else true
    identification := if v.ver.isV10 then v.identification else true
    powerManagement := v.powerManagement
    vlanCapable := if v.ver.isV10 then v.vlanCapable else true
    solSupported := if v.ver.isV10 then v.solSupported else true
    oobPrimary := if v.ver.isV10 then v.oobPrimary else true
    oobSecondary := v.oobSecondary
    serialTMODE := v.serialTMODE
    ibKCS := if v.ver.isV10 then v.inBand else true
    ibSystemInterface := if v.ver.isV10 then false else v.inBand
    contents := v.encode, payload := [] }

/-- every Supported DCMI Capabilities response of every version decodes to its fields -/
theorem cap1_decode_spec (v : Spec.Cap1) : DcmiCap1.decode v.encode = .ok (cap1View v) := by
  have e0 := cap1_b0 v.temperatureMonitor v.chassisPower v.selLogging v.identification
  have e1 := cap1_b1 v.powerManagement
  have e2 := cap1_b2_v10 v.vlanCapable v.solSupported v.oobPrimary v.oobSecondary v.serialTMODE v.inBand
  have e3 := flags3 v.oobSecondary v.serialTMODE v.inBand
  obtain ⟨ma, mi, rev, hh, hv⟩ := header_spec v.ver
  simp only [DcmiCap1.decode, cap1View, dcmiHeaderView, Spec.Cap1.encode, hh, DcmiCap1.build, DcmiHeader.ofBytes,
    DcmiHeader.isV10, List.cons_append, List.nil_append, List.getD_cons_succ, List.getD_cons_zero, hv]
  cases v.ver.isV10 <;>
    simp only [Bool.false_eq_true, if_false, if_true, List.getD_cons_succ, List.getD_cons_zero, e0, e1, e2, e3] <;>
    rfl

example : DcmiCap1.decode (Spec.Cap1.encode ⟨.v10 1, true, false, true, false, true, false, true, false, true, false, true⟩)
    = .ok (cap1View ⟨.v10 1, true, false, true, false, true, false, true, false, true, false, true⟩) := cap1_decode_spec _

/-- header (3) + 3 capability bytes is the minimum -/
theorem cap1_short (b : Bytes) (h : b.length < 6) : DcmiCap1.decode b = .error () :=
  short_body b 3 _ h

def cap2View (v : Spec.Cap2) : DcmiCap2 :=
  { hdr := dcmiHeaderView v.ver
    selAutoRollover := v.selAutoRollover
    selFlushOnRollover := if v.ver.isV10 then false else v.selFlushOnRollover
    selRecordLevelFlushOnRollover := if v.ver.isV10 then false else v.selRecordLevelFlushOnRollover
    selMaxEntries := v.selEntries
    assetTagSupport := if v.ver.isV10 then v.assetTag else true
    dhcpHostNameSupport := if v.ver.isV10 then v.dhcpHostName else true
    guidSupport := if v.ver.isV10 then v.guid else true
    baseboardTemperature := if v.ver.isV10 then v.baseboardTemperature else true
    processorsTemperature := if v.ver.isV10 then v.processorsTemperature else true
    inletTemperature := if v.ver.isV10 then v.inletTemperature else true
    temperatureSamplingFrequency := if v.ver.isV10 then 0 else 1000000000 * v.samplingSeconds
    contents := v.encode, payload := [] }

/-- every Mandatory Platform Attributes response (4-byte body in v1.0, 5-byte body from v1.1) decodes to its fields
    — SEL attributes in the byte order the library's tests pin, see `Spec.Cap2` -/
theorem cap2_decode_spec (v : Spec.Cap2) (h : v.wf) : DcmiCap2.decode v.encode = .ok (cap2View v) := by
  obtain ⟨h1, h2, h3⟩ := h
  have e0 := cap2_b0_v10 v.selAutoRollover (v.selEntries % 256) h2
  have e1 := cap2_b0 v.selAutoRollover v.selFlushOnRollover v.selRecordLevelFlushOnRollover (v.selEntries % 256) h2
  have e2 := flags3 v.assetTag v.dhcpHostName v.guid
  have e3 := flags3 v.baseboardTemperature v.processorsTemperature v.inletTemperature
  have e4 : (UInt8.ofNat (v.selEntries / 256)).toNat = v.selEntries / 256 :=
    UInt8.toNat_ofNat_of_lt' (Nat.div_lt_of_lt_mul h1)
  have e5 : (UInt8.ofNat v.samplingSeconds).toNat = v.samplingSeconds := UInt8.toNat_ofNat_of_lt' h3
  have e6 := Nat.mod_add_div v.selEntries 256
  obtain ⟨ma, mi, rev, hh, hv⟩ := header_spec v.ver
  simp only [DcmiCap2.decode, cap2View, dcmiHeaderView, Spec.Cap2.encode, hh, DcmiCap2.build, DcmiHeader.ofBytes,
    DcmiHeader.isV10, List.cons_append, List.nil_append, List.getD_cons_succ, List.getD_cons_zero, hv]
  cases v.ver.isV10 <;>
    simp only [Bool.false_eq_true, if_false, if_true, List.length_cons, List.length_nil, Nat.reduceAdd, Nat.reduceSub,
      Nat.reduceBEq, Bool.or_true, Bool.or_false, List.getD_cons_succ, List.getD_cons_zero, e0, e1, e2, e3, e4, e5, e6] <;>
    rfl

example : (⟨.v15 2, true, false, true, 0x0a05, false, false, false, false, false, false, 15⟩ : Spec.Cap2).wf := by decide

/-- the "4-byte body ⇒ v1.0 layout" rule the repository's tests pin (SuperMicro: v1.1 header, v1.0 body): whatever
    the three header bytes say, a response with exactly four body bytes is read with the v1.0 layout -/
theorem cap2_four_byte_body (ma mi rev b0 b1 b2 b3 : UInt8) :
    DcmiCap2.decode [ma, mi, rev, b0, b1, b2, b3] =
      .ok (DcmiCap2.build ⟨ma, mi, rev⟩ true b0 b1 b2 b3 0 [ma, mi, rev, b0, b1, b2, b3] []) := by
  simp [DcmiCap2.decode, DcmiHeader.ofBytes]

/-- header (3) + 4 bytes is the minimum -/
theorem cap2_short (b : Bytes) (h : b.length < 7) : DcmiCap2.decode b = .error () :=
  short_body b 4 _ h

def cap3View (v : Spec.Cap3) : DcmiCap3 :=
  { hdr := dcmiHeaderView v.ver, slaveAddress := v.slaveAddress, channel := v.channel, revision := v.revision
    contents := v.encode, payload := [] }

theorem cap3_decode_spec (v : Spec.Cap3) (h : v.wf) : DcmiCap3.decode v.encode = .ok (cap3View v) := by
  obtain ⟨h1, h2, h3⟩ := h
  have e0 := cap3_b0 v.slaveAddress.toNat h1
  have e1 := nibble_pair v.channel.toNat h2 v.revision.toNat h3
  simp only [UInt8.ofNat_toNat] at e0 e1
  obtain ⟨ma, mi, rev, hh, _⟩ := header_spec v.ver
  simp only [DcmiCap3.decode, cap3View, dcmiHeaderView, Spec.Cap3.encode, hh, List.cons_append, List.nil_append,
    List.getD_cons_succ, List.getD_cons_zero, e0, e1]
  rfl

example : (⟨.v15 2, 0x10, 0x0f, 3⟩ : Spec.Cap3).wf := by decide

theorem cap3_short (b : Bytes) (h : b.length < 5) : DcmiCap3.decode b = .error () :=
  short_body b 2 _ h

def cap4View (v : Spec.Cap4) : DcmiCap4 :=
  { hdr := dcmiHeaderView v.ver, primaryLAN := v.primaryLAN, secondaryLAN := v.secondaryLAN, serial := v.serial
    contents := v.encode, payload := [] }

theorem cap4_decode_spec (v : Spec.Cap4) : DcmiCap4.decode v.encode = .ok (cap4View v) := by
  obtain ⟨ma, mi, rev, hh, _⟩ := header_spec v.ver
  simp only [DcmiCap4.decode, cap4View, dcmiHeaderView, Spec.Cap4.encode, hh]
  rfl

example : DcmiCap4.decode (Spec.Cap4.encode ⟨.v15 9, 1, 0xff, 3⟩) = .ok (cap4View ⟨.v15 9, 1, 0xff, 3⟩) := cap4_decode_spec _

theorem cap4_short (b : Bytes) (h : b.length < 6) : DcmiCap4.decode b = .error () :=
  short_body b 3 _ h

def cap5View (v : Spec.Cap5) : DcmiCap5 :=
  { hdr := dcmiHeaderView v.ver, periods := v.periods.map Spec.RollingPeriod.ns, contents := v.encode, payload := [] }

/-- a list of 0…255 rolling average time periods, each of any unit and any 6-bit value, decodes to the durations
    the specification assigns (value × seconds / minutes / hours / days), in order -/
theorem cap5_decode_spec (v : Spec.Cap5) (h : v.wf) : DcmiCap5.decode v.encode = .ok (cap5View v) := by
  obtain ⟨h1, h2⟩ := h
  obtain ⟨ma, mi, rev, hh, _⟩ := header_spec v.ver
  have e := rollingNs_periods v.periods h2
  have len : (v.periods.map Spec.RollingPeriod.byte).length = v.periods.length := List.length_map ..
  simp only [DcmiCap5.decode, cap5View, dcmiHeaderView, Spec.Cap5.encode, hh]
  -- the count byte is the number of period bytes `bs` that follow it, and nothing follows them
  generalize v.periods.map Spec.RollingPeriod.byte = bs at e len ⊢
  rw [← len] at h1 ⊢
  simp only [List.cons_append, List.nil_append, List.length_cons, List.getD_cons_succ, List.getD_cons_zero,
    List.drop_succ_cons, List.drop_zero, UInt8.toNat_ofNat', Nat.mod_eq_of_lt h1, Nat.add_comm 4, List.take_succ_cons,
    List.take_length, List.drop_length, e]
  rw [if_neg (by omega), if_neg (by omega), if_neg (by omega)]
  rfl
example : (⟨.v15 2, [⟨0, 42⟩, ⟨3, 21⟩, ⟨2, 51⟩, ⟨1, 12⟩, ⟨0, 0⟩]⟩ : Spec.Cap5).wf := by
  refine ⟨by decide, ?_⟩
  intro p hp
  simp at hp
  rcases hp with rfl | rfl | rfl | rfl | rfl <;> decide

/-- header (3) + the count byte is the minimum -/
theorem cap5_short (b : Bytes) (h : b.length < 4) : DcmiCap5.decode b = .error () :=
  short_body b 1 _ h

/-- fewer period bytes than the count byte announces: rejected (never read from beyond the data) -/
theorem cap5_truncated (b : Bytes) (h : b.length < 4 + (b.getD 3 0).toNat) : DcmiCap5.decode b = .error () := by
  unfold DcmiCap5.decode
  split
  · rfl
  · split
    · rfl
    · exact if_pos (by omega)

def powerReadingView (v : Spec.PowerReading) : PowerReading :=
  { instantaneous := v.current, min := v.minimum, max := v.maximum, avg := v.average, timestamp := v.timestamp
    period := 1000000 * v.periodMs, active := v.active }

theorem powerReading_decode_spec (v : Spec.PowerReading) (h : v.wf) :
    PowerReading.decode v.encode = .ok (powerReadingView v) := by
  obtain ⟨h1, h2, h3, h4, h5, h6⟩ := h
  unfold PowerReading.decode powerReadingView
  rw [if_neg (show ¬ v.encode.length < 17 from Nat.lt_irrefl 17)]
  simp only [Spec.PowerReading.encode, List.append_assoc, drop_le16, drop_le32, getD_le16, getD_le32, List.drop_zero,
    List.getD_cons_zero, le16_spec _ h1, le16_spec _ h2, le16_spec _ h3, le16_spec _ h4, le32_spec _ h5, le32_spec _ h6,
    power_state]

example : (⟨2222, 1111, 3333, 1234, 1564784243, 3721182122, true⟩ : Spec.PowerReading).wf := by decide

/-- shorter than 17 bytes — including the 0-byte response of a BMC not connected to its power supply — is rejected -/
theorem powerReading_short (b : Bytes) (h : b.length < 17) : PowerReading.decode b = .error () := by
  simp [PowerReading.decode, h]

def sensorInfoView (v : Spec.SensorInfo) : SensorInfoView :=
  { instances := v.instances, recordIDs := v.recordIDs, contents := v.encode, payload := [] }

/-- 0…255 record IDs (the specification sends at most 8) decode to themselves, in order -/
theorem sensorInfo_decode_spec (v : Spec.SensorInfo) (h : v.wf) :
    SensorInfoView.decode v.encode = .ok (sensorInfoView v) := by
  obtain ⟨h1, h2⟩ := h
  have e := recordIDs_roundtrip v.recordIDs h2
  have len := flat_length v.recordIDs
  simp only [SensorInfoView.decode, sensorInfoView, Spec.SensorInfo.encode, List.cons_append, List.nil_append,
    List.length_cons, List.getD_cons_succ, List.getD_cons_zero, UInt8.toNat_ofNat', Nat.mod_eq_of_lt h1, Nat.add_comm 2,
    List.drop_succ_cons, e]
  -- the count byte is half the number of bytes `bs` that follow it, and nothing follows them
  rw [Nat.mul_comm, ← len]
  generalize v.recordIDs.flatMap Spec.le16 = bs
  rw [if_neg (by omega), if_neg (by omega), List.take_succ_cons, List.take_succ_cons, List.take_length, List.drop_length]

example : (⟨9, [0x0ff0, 0xf00f]⟩ : Spec.SensorInfo).wf := by
  refine ⟨by decide, ?_⟩
  intro r hr
  simp at hr
  rcases hr with rfl | rfl <;> decide

/-- the two fixed bytes are the minimum -/
theorem sensorInfo_short (b : Bytes) (h : b.length < 2) : SensorInfoView.decode b = .error () := by
  simp [SensorInfoView.decode, h]

/-- fewer bytes than 2 + 2 × the count byte: rejected (one byte short included; never read from beyond the data) -/
theorem sensorInfo_truncated (b : Bytes) (h : b.length < 2 + (b.getD 1 0).toNat * 2) :
    SensorInfoView.decode b = .error () := by
  unfold SensorInfoView.decode
  by_cases h2 : b.length < 2
  · simp [h2]
  · simp only [h2, h, if_true, if_false]

end Bmc.Proofs.C07
