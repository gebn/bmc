import Bmc.Lemmas.SessBits
import Bmc.Lemmas.SessRefine
import Bmc.Lemmas.LittleEndian
/-! # C07 (session-setup responses, Get Chassis Status): decoding the specification's encoding of any field values
    yields those values; bodies shorter than the minimum are rejected -/
namespace Bmc.Proofs.C07
open Bmc Bmc.Wire Bmc.Lemmas.Sess

/-- the model's view of a specification value (the library exposes the raw status bits 4 and 3 as
    `PerMessageAuthentication` / `UserLevelAuthentication`, as its tests pin) -/
def authCapsView (v : Spec.AuthCaps) : AuthCapsRsp :=
  { channel := v.channel
    authTypes := authTypes v.extended v.oemAuth v.password v.md5 v.md2 v.none
    status := authStatus v.kgNonNull v.perMessageAuthDisabled v.userLevelAuthDisabled v.nonNullUsernames v.nullUsernames
      v.anonymousLogin
    versions := authVersions v.v20 v.v15
    oem := v.oemID, oemData := v.oemData, contents := v.encode, payload := [] }

/-- every well-formed Get Channel Authentication Capabilities response decodes to its fields, flag by flag -/
theorem authCaps_decode_spec (v : Spec.AuthCaps) (h : v.wf) : AuthCapsRsp.decode v.encode = .ok (authCapsView v) := by
  have hn : 8 ≤ (GoSlice.ofBytes v.encode).len := Nat.le_refl 8
  simp only [AuthCapsRsp.decode, AuthCapsRsp.decodeGo, if_neg (Nat.not_lt.2 hn), GoSlice.idx_of_le hn, GoSlice.slice_of_le hn,
    GoSlice.sliceFrom_of_le hn, Nat.reduceLT, Nat.reduceLeDiff, Nat.le_refl, R.bind_ok, R.pure_eq, GoSlice.sub_vis,
    GoSlice.take_len_drop_vis]
  simp only [GoSlice.vis_ofBytes, Spec.AuthCaps.encode, Spec.le24, List.cons_append, List.nil_append, List.getD_cons_succ,
    List.getD_cons_zero, le24_read _ h.2]
  rw [a1, a2, a3]
  rfl

example : (⟨0xe, true, true, false, true, false, true, true, false, true, false, true, false, true, true, 0x030201, 0xff⟩
    : Spec.AuthCaps).wf := by decide

/-- shorter than the 8-byte minimum: rejected -/
theorem authCaps_short (b : Bytes) (h : b.length < 8) : AuthCapsRsp.decode b = .err := by
  simp [AuthCapsRsp.decode, AuthCapsRsp.decodeGo, h]

example : ([0, 0x15, 0x15, 1, 3, 2, 1] : Bytes).length < 8 := by decide

def cipherSuitesView (v : Spec.CipherSuites) : CipherSuitesRsp :=
  { channel := v.channel, chunk := v.chunk, contents := v.encode, payload := [] }

/-- every chunk length 0 … 16 -/
theorem cipherSuites_decode_spec (v : Spec.CipherSuites) (h : v.wf) :
    CipherSuitesRsp.decode v.encode = .ok (cipherSuitesView v) := by
  -- a chunk of at most 16 bytes: the layer ends where the data end
  have hn := Nat.le_refl (GoSlice.ofBytes v.encode).len
  have h1 : 1 ≤ (GoSlice.ofBytes v.encode).len := Nat.le_add_left 1 _
  have h17 : ¬ (GoSlice.ofBytes v.encode).len > 17 := Nat.not_lt.2 (Nat.succ_le_succ h.2)
  simp only [CipherSuitesRsp.decode, CipherSuitesRsp.decodeGo, if_neg (Nat.not_lt.2 h1), if_neg h17, GoSlice.idx_of_le h1,
    GoSlice.slice_of_le hn, GoSlice.sliceFrom_of_le hn, Nat.reduceLT, Nat.le_refl, Nat.zero_le, h1, R.bind_ok, R.pure_eq,
    GoSlice.sub_vis, GoSlice.take_len_drop_vis]
  simp only [GoSlice.vis_ofBytes, Spec.CipherSuites.encode, GoSlice.len_ofBytes, List.drop_length, List.drop_zero,
    List.drop_succ_cons]
  rfl

example : (⟨1, [0xC0, 0x11, 0x03, 0x44, 0x81]⟩ : Spec.CipherSuites).wf := by decide
example : (⟨1, []⟩ : Spec.CipherSuites).wf := by decide
example : (⟨1, List.replicate 16 0xAA⟩ : Spec.CipherSuites).wf := by decide

/-- an empty body (no channel byte): rejected -/
theorem cipherSuites_short (b : Bytes) (h : b.length < 1) : CipherSuitesRsp.decode b = .err := by
  simp [CipherSuitesRsp.decode, CipherSuitesRsp.decodeGo, h]

example : ([] : Bytes).length < 1 := by decide

def setPrivView (v : Spec.SetPriv) : SetPrivRsp := { level := v.level }

theorem setPriv_decode_spec (v : Spec.SetPriv) (h : v.wf) : SetPrivRsp.decode v.encode = .ok (setPrivView v) := by
  have e := mask4 v.level.toNat h
  simp only [UInt8.ofNat_toNat] at e
  have hn : 1 ≤ (GoSlice.ofBytes v.encode).len := Nat.le_refl 1
  simp only [SetPrivRsp.decode, SetPrivRsp.decodeGo, GoSlice.idx_of_le hn, Nat.reduceLT, R.bind_ok]
  simp only [GoSlice.vis_ofBytes, Spec.SetPriv.encode, List.getD_cons_zero, e]
  rfl

example : (⟨4⟩ : Spec.SetPriv).wf := by decide

/-- any length other than 1 (empty, or with trailing bytes): rejected -/
theorem setPriv_short (b : Bytes) (h : b.length ≠ 1) : SetPrivRsp.decode b = .err := by
  simp [SetPrivRsp.decode, SetPrivRsp.decodeGo, h]

example : ([] : Bytes).length ≠ 1 ∧ ([4, 0] : Bytes).length ≠ 1 := by decide

def guidView (v : Spec.SystemGUID) : GUIDRsp := { guid := v.guid, contents := v.guid }

theorem guid_decode_spec (v : Spec.SystemGUID) (h : v.wf) : GUIDRsp.decode v.encode = .ok (guidView v) := by
  have hn : 16 ≤ (GoSlice.ofBytes v.encode).len := Nat.le_of_eq (Eq.symm h)
  simp only [GUIDRsp.decode, GUIDRsp.decodeGo, if_neg (Nat.not_lt.2 hn), GoSlice.slice_of_le hn, Nat.reduceLeDiff, Nat.le_refl,
    R.bind_ok, R.pure_eq, GoSlice.sub_vis]
  -- the sixteen bytes are all there is
  simp only [GoSlice.vis_ofBytes, Spec.SystemGUID.encode, List.drop_zero, Nat.sub_zero, List.take_of_length_le (Nat.le_of_eq h)]
  rfl

example : (⟨[1, 2, 3, 4, 5, 6, 7, 8, 9, 10, 11, 12, 13, 14, 15, 16]⟩ : Spec.SystemGUID).wf := by decide

theorem guid_short (b : Bytes) (h : b.length < 16) : GUIDRsp.decode b = .err := by
  simp [GUIDRsp.decode, GUIDRsp.decodeGo, h]

example : ([1, 2, 3, 4, 5, 6, 7, 8, 9, 10, 11, 12, 13, 14, 15] : Bytes).length < 16 := by decide

/-- the model's view: "no session" leaves every session field at its zero value; only the LAN form fills IP (as the
    IPv4-mapped 16-byte address `net.IP` uses), MAC and port; the serial/modem tail is not interpreted by the library
    and is handed on as `Payload` -/
def sessionInfoView (v : Spec.SessionInfo) : SessionInfoRsp :=
  match v.session with
  | none => { handle := v.handle, max := v.possible, active := v.active, contents := v.encode, payload := [] }
  | some s =>
    let base : SessionInfoRsp :=
      { handle := v.handle, max := v.possible, active := v.active, userID := s.userID, privilegeLevel := s.privilege
        isIPMIv2 := s.v20, channel := s.channel }
    match s.chan with
    | .absent => { base with contents := v.encode, payload := [] }
    | .lan (a, b, c, d) (m0, m1, m2, m3, m4, m5) port =>
      { base with ip := [0, 0, 0, 0, 0, 0, 0, 0, 0, 0, 0xff, 0xff, a, b, c, d], mac := [m0, m1, m2, m3, m4, m5], port := port
                  contents := v.encode, payload := [] }
    | .serial .. => { base with contents := v.encode.take 6, payload := v.encode.drop 6 }

/-- every well-formed Get Session Info response — no session (3 bytes), active session without channel data (6),
    LAN session (18), serial/modem session (12 or 14), with a zero or non-zero handle — decodes to its fields -/
theorem sessionInfo_decode_spec (v : Spec.SessionInfo) (h : v.wf) :
    SessionInfoRsp.decode v.encode = .ok (sessionInfoView v) := by
  obtain ⟨handle, possible, active, session⟩ := v
  obtain ⟨_, _, hs⟩ := h
  cases session with
  | none =>
    subst (hs : handle = 0)
    rfl
  | some s =>
    obtain ⟨userID, privilege, v20, channel, chan⟩ := s
    obtain ⟨h3, h4, h5, hc⟩ := hs
    have e3 := mask6 userID.toNat h3
    have e4 := mask4 privilege.toNat h4
    have e5 := s5 v20 channel.toNat h5
    simp only [UInt8.ofNat_toNat] at e3 e4 e5
    have hn : 6 ≤ (GoSlice.ofBytes (Spec.SessionInfo.encode
        ⟨handle, possible, active, some ⟨userID, privilege, v20, channel, chan⟩⟩)).len := Nat.le_add_left 6 _
    simp only [SessionInfoRsp.decode, SessionInfoRsp.decodeGo, if_neg (Nat.not_lt.2 (Nat.le_trans (by decide : 3 ≤ 6) hn)),
      if_neg (Nat.not_lt.2 hn), GoSlice.idx_of_le hn, GoSlice.slice_of_le hn, GoSlice.sliceFrom_of_le hn, Nat.reduceLT,
      Nat.reduceLeDiff, Nat.le_refl, R.bind_ok, R.pure_eq, GoSlice.sub_vis, GoSlice.take_len_drop_vis,
      Bool.and_comm (_ == (0 : UInt8))]
    rcases chan with _ | ⟨⟨a, b, c, d⟩, ⟨m0, m1, m2, m3, m4, m5⟩, port⟩ | ⟨act, dest, ⟨a, b, c, d⟩, _ | port⟩
    case lan =>
      have hn : 18 ≤ (GoSlice.ofBytes (Spec.SessionInfo.encode ⟨handle, possible, active, some ⟨userID, privilege, v20,
          channel, .lan (a, b, c, d) (m0, m1, m2, m3, m4, m5) port⟩⟩)).len := Nat.le_refl 18
      simp only [if_neg (Nat.not_lt.2 hn), GoSlice.slice_of_le hn, GoSlice.sliceFrom_of_le hn, Nat.reduceLeDiff, Nat.le_refl,
        R.bind_ok, GoSlice.sub_vis, GoSlice.take_len_drop_vis, le16_take]
      simp only [GoSlice.vis_ofBytes, Spec.SessionInfo.encode, Spec.ActiveSession.encode, Spec.SessionChannelInfo.encode,
        List.cons_append, List.nil_append, List.getD_cons_succ, List.getD_cons_zero, List.drop_succ_cons, List.drop_zero,
        e3, e4, e5, show le16 (Spec.le16 port) = port from le16_spec port hc []]
      rfl
    all_goals
      simp only [GoSlice.vis_ofBytes, Spec.SessionInfo.encode, Spec.ActiveSession.encode, List.cons_append, List.nil_append,
        List.getD_cons_succ, List.getD_cons_zero, e3, e4, e5]
      rfl

example : (⟨0, 16, 2, none⟩ : Spec.SessionInfo).wf := by decide
example : (⟨0x16, 8, 4, some ⟨1, 2, true, 1, .absent⟩⟩ : Spec.SessionInfo).wf := by decide
example : (⟨0, 16, 2, some ⟨2, 2, true, 1, .absent⟩⟩ : Spec.SessionInfo).wf := by decide
example : (⟨0xfd, 15, 14, some ⟨22, 4, false, 15, .lan (10, 22, 1, 3) (0xd3, 0xf5, 0xfb, 0xbf, 0x83, 0xed) 63061⟩⟩
    : Spec.SessionInfo).wf := by decide
example : (⟨7, 4, 1, some ⟨3, 4, false, 2, .serial 1 2 (192, 168, 0, 9) (some 623)⟩⟩ : Spec.SessionInfo).wf := by decide

/-- shorter than the 3-byte minimum: rejected -/
theorem sessionInfo_short (b : Bytes) (h : b.length < 3) : SessionInfoRsp.decode b = .err := by
  simp [SessionInfoRsp.decode, SessionInfoRsp.decodeGo, h]

/-- an active session's data cut below 6 bytes (3 with a non-zero handle, or 4, 5): rejected -/
theorem sessionInfo_short_active (b : Bytes) (h3 : 3 ≤ b.length) (h6 : b.length < 6)
    (hh : b.length = 3 → b.getD 0 0 ≠ 0) : SessionInfoRsp.decode b = .err := by
  have hn : 3 ≤ (GoSlice.ofBytes b).len := h3
  have h6 : (GoSlice.ofBytes b).len < 6 := h6
  simp only [SessionInfoRsp.decode, SessionInfoRsp.decodeGo, if_neg (Nat.not_lt.2 hn), GoSlice.idx_of_le hn, Nat.reduceLT,
    R.bind_ok, if_pos h6]
  -- "no session" is the 3-byte form with handle 00: anything else this short is refused
  rw [if_neg]
  intro hc
  simp only [Bool.and_eq_true, beq_iff_eq, GoSlice.vis_ofBytes] at hc
  exact hh hc.2 hc.1
example : ([0, 1] : Bytes).length < 3 := by decide
example : 3 ≤ ([0x16, 8, 4] : Bytes).length ∧ ([0x16, 8, 4] : Bytes).length < 6 ∧
    (([0x16, 8, 4] : Bytes).length = 3 → ([0x16, 8, 4] : Bytes).getD 0 0 ≠ 0) := by decide
example : 3 ≤ ([0, 8, 4, 1, 2] : Bytes).length ∧ ([0, 8, 4, 1, 2] : Bytes).length < 6 ∧
    (([0, 8, 4, 1, 2] : Bytes).length = 3 → ([0, 8, 4, 1, 2] : Bytes).getD 0 0 ≠ 0) := by decide

/-- the model's view: the three flag groups bit for bit (`Lemmas.Sess.c0_flags`, `c2_flags`, `c3_flags` read every
    single flag back), the identify state only when the "supported" bit is set (else the library's `Unknown` = 0xff),
    all eight button flags clear when the optional 4th byte is absent -/
def chassisView (v : Spec.ChassisStatus) : GetChassisStatusRsp :=
  { powerRestorePolicy := v.restorePolicy
    flags0 := chassis0 v.powerControlFault v.powerFault v.interlock v.powerOverload v.poweredOn
    flags1 := chassis0 v.poweredOnByIPMI v.lastDownFault v.lastDownInterlock v.lastDownOverload v.lastDownACFailed
    identifyState := if v.identifySupported then v.identifyState else 0xff
    flags2 := chassis2 v.coolingFault v.driveFault v.lockout v.intrusion
    frontPanel := match v.frontPanel with | some f => f.encode | none => 0
    contents := v.encode, payload := [] }

/-- every well-formed Get Chassis Status response, with or without the front-panel byte, decodes to its fields -/
theorem chassis_decode_spec (v : Spec.ChassisStatus) (h : v.wf) :
    GetChassisStatusRsp.decode v.encode = .ok (chassisView v) := by
  obtain ⟨h1, h2⟩ := h
  have e0 := c0 v.restorePolicy.toNat h1 v.powerControlFault v.powerFault v.interlock v.powerOverload v.poweredOn
  have e1 := c1 v.poweredOnByIPMI v.lastDownFault v.lastDownInterlock v.lastDownOverload v.lastDownACFailed
  have e2 := c2 v.identifySupported v.identifyState.toNat h2 v.coolingFault v.driveFault v.lockout v.intrusion
  simp only [UInt8.ofNat_toNat] at e0 e2
  have hn : 3 ≤ (GoSlice.ofBytes v.encode).len := Nat.le_add_left 3 _
  simp only [GetChassisStatusRsp.decode, GetChassisStatusRsp.decodeGo, if_neg (Nat.not_lt.2 hn), GoSlice.idx_of_le hn, Nat.reduceLT,
    R.bind_ok]
  simp only [GoSlice.vis_ofBytes, Spec.ChassisStatus.encode, List.cons_append, List.nil_append, List.getD_cons_succ,
    List.getD_cons_zero, e0, e1, e2, chassisView]
  rcases v.frontPanel with _ | f <;> rfl

example : (⟨2, true, false, true, false, true, true, false, true, false, true, true, 2, false, true, false, true,
    some ⟨true, false, true, false, false, true, false, true⟩⟩ : Spec.ChassisStatus).wf := by decide
example : (⟨3, false, false, false, false, true, false, false, false, false, false, false, 0, false, false, false, false,
    none⟩ : Spec.ChassisStatus).wf := by decide

/-- shorter than the 3-byte minimum: rejected -/
theorem chassis_short (b : Bytes) (h : b.length < 3) : GetChassisStatusRsp.decode b = .err := by
  simp [GetChassisStatusRsp.decode, GetChassisStatusRsp.decodeGo, h]

example : ([0x21, 0x10] : Bytes).length < 3 := by decide

end Bmc.Proofs.C07
