import Bmc.Basic.Bytes
import Bmc.Basic.Go
import Bmc.Basic.GoDec
import Bmc.Basic.GoEnc
import Bmc.Basic.GoHs
import Bmc.Basic.GoKeys
import Bmc.Basic.GoLoops
import Bmc.Basic.GoOrch
import Bmc.Crypto.AES
import Bmc.Crypto.Abstract
import Bmc.Crypto.Hash
import Bmc.Crypto.Toy
import Bmc.Prim.Checksum
import Bmc.Prim.Packed6
import Bmc.Prim.Strings
import Bmc.Gen.Dec
import Bmc.Gen.Enc
import Bmc.Gen.Facts
import Bmc.Gen.Hs
import Bmc.Gen.Keys
import Bmc.Gen.Loops
import Bmc.Gen.Orch
import Bmc.Gen.Prims
import Bmc.Wire.Aes
import Bmc.Wire.C08Encode
import Bmc.Wire.Chassis
import Bmc.Wire.Dcmi
import Bmc.Wire.DeviceID
import Bmc.Wire.Encode
import Bmc.Wire.Message
import Bmc.Wire.OpenSessionRsp
import Bmc.Wire.Rakp1
import Bmc.Wire.Rakp2
import Bmc.Wire.Rakp4
import Bmc.Wire.Requests
import Bmc.Wire.Sdr
import Bmc.Wire.Selector
import Bmc.Wire.Sess
import Bmc.Wire.Setup
import Bmc.Wire.Simple
import Bmc.Wire.V1Session
import Bmc.Wire.V2Session
import Bmc.Spec.Basic
import Bmc.Spec.Bmc
import Bmc.Spec.BmcSession
import Bmc.Spec.Dcmi
import Bmc.Spec.DeviceID
import Bmc.Spec.Enum
import Bmc.Spec.Prim
import Bmc.Spec.Rakp
import Bmc.Spec.Repo
import Bmc.Spec.Requests
import Bmc.Spec.Sdr
import Bmc.Spec.Sensor
import Bmc.Spec.Sess
import Bmc.Spec.Setup
import Bmc.Proto.Api
import Bmc.Proto.Discovery
import Bmc.Proto.Enum
import Bmc.Proto.Handshake
import Bmc.Proto.Isolation
import Bmc.Proto.Metrics
import Bmc.Proto.SdrWalk
import Bmc.Proto.Sensor
import Bmc.Proto.Session
import Bmc.Proto.Sessionless
import Bmc.Proto.Suites
import Bmc.Proto.Timing
import Bmc.Lemmas.AcceptInv
import Bmc.Lemmas.AesRefine
import Bmc.Lemmas.AesRoundTrip
import Bmc.Lemmas.Api
import Bmc.Lemmas.ApiFits
import Bmc.Lemmas.ApiRequest
import Bmc.Lemmas.ApiSessionless
import Bmc.Lemmas.AttemptLaws
import Bmc.Lemmas.Binary64
import Bmc.Lemmas.BmcSessionLive
import Bmc.Lemmas.C15Sensor
import Bmc.Lemmas.DcmiBits
import Bmc.Lemmas.DcmiRefine
import Bmc.Lemmas.DeviceIDBits
import Bmc.Lemmas.EnumPaging
import Bmc.Lemmas.EnumParse
import Bmc.Lemmas.EnumSound
import Bmc.Lemmas.EnumWire
import Bmc.Lemmas.FloatModel
import Bmc.Lemmas.GenDec
import Bmc.Lemmas.GenDecAes
import Bmc.Lemmas.GenDecBits
import Bmc.Lemmas.GenDecFSR
import Bmc.Lemmas.GenDecLoop
import Bmc.Lemmas.GenDecSuites
import Bmc.Lemmas.GenDecV2Session
import Bmc.Lemmas.GenEnc
import Bmc.Lemmas.GenEncAes
import Bmc.Lemmas.GenHs
import Bmc.Lemmas.GenHsModel
import Bmc.Lemmas.GenKeys
import Bmc.Lemmas.GenLoops
import Bmc.Lemmas.GenLoopsBounds
import Bmc.Lemmas.GenLoopsHistory
import Bmc.Lemmas.GenLoopsPayload
import Bmc.Lemmas.GenLoopsRecv
import Bmc.Lemmas.GenLoopsScript
import Bmc.Lemmas.GenLoopsSession
import Bmc.Lemmas.GenLoopsSessionLoop
import Bmc.Lemmas.GenLoopsSessionless
import Bmc.Lemmas.GenLoopsSessionlessLoop
import Bmc.Lemmas.GenOrch
import Bmc.Lemmas.GenOrchDcmi
import Bmc.Lemmas.GenOrchDetermine
import Bmc.Lemmas.GenOrchFuel
import Bmc.Lemmas.GenOrchRetrieve
import Bmc.Lemmas.GenOrchSdr
import Bmc.Lemmas.GenOrchSensorInfo
import Bmc.Lemmas.GenOrchSensorMap
import Bmc.Lemmas.GenOrchSuites
import Bmc.Lemmas.HandshakeInv
import Bmc.Lemmas.HandshakeLive
import Bmc.Lemmas.HandshakeLoss
import Bmc.Lemmas.LittleEndian
import Bmc.Lemmas.MessageRefine
import Bmc.Lemmas.MessageRoundTrip
import Bmc.Lemmas.MetricsWire
import Bmc.Lemmas.Packed6Spec
import Bmc.Lemmas.Rakp1RoundTrip
import Bmc.Lemmas.Rakp2Refine
import Bmc.Lemmas.RequestsBits
import Bmc.Lemmas.RequestsPacket
import Bmc.Lemmas.ResponseAccepted
import Bmc.Lemmas.RmcpHeader
import Bmc.Lemmas.SdrBits
import Bmc.Lemmas.SdrIdString
import Bmc.Lemmas.SdrRefine
import Bmc.Lemmas.SdrStrings
import Bmc.Lemmas.SdrWalkBmc
import Bmc.Lemmas.SdrWalkLog
import Bmc.Lemmas.SdrWalkRetrieve
import Bmc.Lemmas.SdrWalkSound
import Bmc.Lemmas.SdrWalkSpec
import Bmc.Lemmas.SessBits
import Bmc.Lemmas.SessRefine
import Bmc.Lemmas.SessionLaws
import Bmc.Lemmas.SessionProps
import Bmc.Lemmas.SessionSpec
import Bmc.Lemmas.SessionlessLive
import Bmc.Lemmas.SessionlessSpec
import Bmc.Lemmas.SetupBits
import Bmc.Lemmas.SetupBridge
import Bmc.Lemmas.SetupOpenRefine
import Bmc.Lemmas.SetupRakp1Refine
import Bmc.Lemmas.SetupSpec
import Bmc.Lemmas.SlResponseAccepted
import Bmc.Lemmas.StringsSpec
import Bmc.Lemmas.TamperedAuthCode
import Bmc.Lemmas.TruncatedReply
import Bmc.Lemmas.V1Refine
import Bmc.Lemmas.V1RoundTrip
import Bmc.Lemmas.V2Refine
import Bmc.Lemmas.V2RoundTrip
import Bmc.Proofs.ApiWrappers
import Bmc.Proofs.C01
import Bmc.Proofs.C02
import Bmc.Proofs.C03
import Bmc.Proofs.C04
import Bmc.Proofs.C05.Basic
import Bmc.Proofs.C05.Calls
import Bmc.Proofs.C05.Core
import Bmc.Proofs.C05.Dcmi
import Bmc.Proofs.C05.Sdr
import Bmc.Proofs.C05.Sess
import Bmc.Proofs.C05.Setup
import Bmc.Proofs.C06
import Bmc.Proofs.C07.Api
import Bmc.Proofs.C07.Basic
import Bmc.Proofs.C07.Core
import Bmc.Proofs.C07.Dcmi
import Bmc.Proofs.C07.Sdr
import Bmc.Proofs.C07.Sess
import Bmc.Proofs.C07.Setup
import Bmc.Proofs.C08
import Bmc.Proofs.C09
import Bmc.Proofs.C10
import Bmc.Proofs.C11
import Bmc.Proofs.C11.Match
import Bmc.Proofs.C12
import Bmc.Proofs.C13
import Bmc.Proofs.C13Source
import Bmc.Proofs.C14
import Bmc.Proofs.C15
import Bmc.Proofs.C15Float
import Bmc.Proofs.C15Source
import Bmc.Proofs.C16
import Bmc.Proofs.C17.Basic
import Bmc.Proofs.C17.Core
import Bmc.Proofs.C17.Dcmi
import Bmc.Proofs.C17.Sdr
import Bmc.Proofs.C17.Sess
import Bmc.Proofs.C17.Setup
import Bmc.Proofs.C18
import Bmc.Proofs.C19
import Bmc.Proofs.C20
import Bmc.Proofs.EndToEnd.AgainC14
import Bmc.Proofs.EndToEnd.ContextC13
import Bmc.Proofs.EndToEnd.DatagramC06
import Bmc.Proofs.EndToEnd.DecodeC07
import Bmc.Proofs.EndToEnd.DecodeSetupC07
import Bmc.Proofs.EndToEnd.DiscoveryC12
import Bmc.Proofs.EndToEnd.EnumC16
import Bmc.Proofs.EndToEnd.HandshakeC01
import Bmc.Proofs.EndToEnd.HandshakeC02
import Bmc.Proofs.EndToEnd.HistoryC03
import Bmc.Proofs.EndToEnd.HistoryC05
import Bmc.Proofs.EndToEnd.HistoryC06
import Bmc.Proofs.EndToEnd.HistoryC09
import Bmc.Proofs.EndToEnd.HistoryC09Fail
import Bmc.Proofs.EndToEnd.HistoryC10
import Bmc.Proofs.EndToEnd.HistoryC11
import Bmc.Proofs.EndToEnd.HistoryC13
import Bmc.Proofs.EndToEnd.HistoryC17
import Bmc.Proofs.EndToEnd.IsolationC19
import Bmc.Proofs.EndToEnd.MetricsC18
import Bmc.Proofs.EndToEnd.ReceiverC17
import Bmc.Proofs.EndToEnd.RequestsC06
import Bmc.Proofs.EndToEnd.ReuseC17
import Bmc.Proofs.EndToEnd.RoundTripC08
import Bmc.Proofs.EndToEnd.SafeC05
import Bmc.Proofs.EndToEnd.SessionC01
import Bmc.Proofs.EndToEnd.SessionC03
import Bmc.Proofs.EndToEnd.SessionC04
import Bmc.Proofs.EndToEnd.SessionC09
import Bmc.Proofs.EndToEnd.SessionC10
import Bmc.Proofs.EndToEnd.SessionC11
import Bmc.Proofs.EndToEnd.SessionlessC09
import Bmc.Proofs.EndToEnd.SessionlessC10
import Bmc.Proofs.EndToEnd.SessionlessC11
import Bmc.Proofs.EndToEnd.SessionlessHistory
import Bmc.Proofs.EndToEnd.WalkC14
import Bmc.Proofs.EndToEnd.WholeC01
import Bmc.Proofs.EndToEnd.WholeC03
import Bmc.Proofs.EndToEnd.WholeC04
import Bmc.Proofs.EndToEnd.WholeC09
import Bmc.Proofs.GenDec
import Bmc.Proofs.GenEnc
import Bmc.Proofs.GenHs.Examples
import Bmc.Proofs.GenHs.Model
import Bmc.Proofs.GenHs.NewV2Session
import Bmc.Proofs.GenHs.TranslatedOk
import Bmc.Proofs.GenHs.Wrappers
import Bmc.Proofs.GenKeys
import Bmc.Proofs.GenLoops.BuildAndSend
import Bmc.Proofs.GenLoops.BuildAndSendCommand
import Bmc.Proofs.GenLoops.BuildAndSendPayload
import Bmc.Proofs.GenLoops.TranslatedOk
import Bmc.Proofs.GenOrch.CountRecordIDs
import Bmc.Proofs.GenOrch.DetermineCipherSuite
import Bmc.Proofs.GenOrch.GetEntityInstances
import Bmc.Proofs.GenOrch.GetSensorInfo
import Bmc.Proofs.GenOrch.GetSensorMap
import Bmc.Proofs.GenOrch.RetrieveSDRRepository
import Bmc.Proofs.GenOrch.RetrieveSupportedCipherSuites
import Bmc.Proofs.GenOrch.TranslatedOk
import Bmc.Proofs.GenOrch.WalkSDRs
import Bmc.Proofs.SourcePins
import Bmc.Driver.Api
import Bmc.Driver.BmcSpec
import Bmc.Driver.Conc
import Bmc.Driver.Conv
import Bmc.Driver.Dec
import Bmc.Driver.DecBasic
import Bmc.Driver.DecCore
import Bmc.Driver.DecDcmi
import Bmc.Driver.DecSdr
import Bmc.Driver.DecSess
import Bmc.Driver.DecSetup
import Bmc.Driver.Enc
import Bmc.Driver.Enum
import Bmc.Driver.Hist
import Bmc.Driver.Hs
import Bmc.Driver.Prim
import Bmc.Driver.Rt
import Bmc.Driver.Rt2
import Bmc.Driver.Sdr
import Bmc.Driver.Send
import Bmc.Driver.SlSend
import Bmc.Driver.Suite
import Bmc.Driver.Time
/-! Every module of the library, by directory (model first: Basic, Crypto, Prim, Gen, Wire, Spec, Proto; then Lemmas, Proofs, Driver),
    alphabetically within each. The sub-modules of `Proofs/GenDec`, `Proofs/GenEnc` and `Proofs/GenKeys` come through the module of
    that name; `Audit/*` is written and built by `./check`. -/
